/-
  Hs.Model.NsAssoc — the part of src/haystack/defs/namespace.rs that reads MORE of a def than its `is` list:
  the indexes `choices`, `features`, `libs`, `feature_names`, `tag_on_names`, `tag_on_defs` built by
  `Namespace::make`; `associations` with `find_reciprocal_associations` and its three named uses `is`,
  `tag_on`, `tags`; `implementation`; the four root tests `fits_marker/val/choice/entity`;
  `has_relationship` with everything it reads from the namespace (the loop itself is Hs.Model.FilterLoops);
  and `Reflection::compute_entity_type` (`def_of_dict`).

  A def dict is reduced to its `def` symbol and, per tag, what these functions can tell apart: a Marker, a
  Symbol, a List (items: `some s` for a Symbol item, `none` for anything else), or any other value.
  The taxonomy (`is` graph) is the model of Hs.Model.Ns on the projection `RowX.toRow`; results are lists of
  def names, compared as sets wherever the code drains a `HashSet`.

  `protos` and `core_type_defs` are Hs.Model.NsProtos.
  Core-only imports (linked into `hsdriver`).
-/
import Hs.Model.Ns
import Hs.Model.FilterLoops
namespace Hs.NsA
open Hs Hs.Ns

/-- what a tag of a def dict holds, as far as the namespace code distinguishes values -/
inductive TagV where
  | marker
  | sym (s : Name)
  | list (items : List (Option Name))
  | other
deriving Repr, DecidableEq, Inhabited

/-- one row of the defs grid: the `def` tag when it is a Symbol, and every other tag (distinct keys; `is`
among them) -/
structure RowX where
  name : Option Name
  tags : List (Name × TagV)
deriving Repr, DecidableEq, Inhabited

/-- a def of the namespace -/
structure DefX where
  name : Name
  tags : List (Name × TagV)
deriving Repr, DecidableEq, Inhabited

def nDef : Name := ['d', 'e', 'f']
def nIs : Name := ['i', 's']
def nAssociation : Name := ['a', 's', 's', 'o', 'c', 'i', 'a', 't', 'i', 'o', 'n']
def nRelationship : Name := ['r', 'e', 'l', 'a', 't', 'i', 'o', 'n', 's', 'h', 'i', 'p']
def nComputed : Name := ['c', 'o', 'm', 'p', 'u', 't', 'e', 'd', 'F', 'r', 'o', 'm', 'R', 'e', 'c', 'i', 'p', 'r', 'o', 'c', 'a', 'l']
def nReciprocalOf : Name := ['r', 'e', 'c', 'i', 'p', 'r', 'o', 'c', 'a', 'l', 'O', 'f']
def nTransitive : Name := ['t', 'r', 'a', 'n', 's', 'i', 't', 'i', 'v', 'e']
def nMandatory : Name := ['m', 'a', 'n', 'd', 'a', 't', 'o', 'r', 'y']
def nTagOn : Name := ['t', 'a', 'g', 'O', 'n']
def nTags : Name := ['t', 'a', 'g', 's']
def nLib : Name := ['l', 'i', 'b']
def nMarker : Name := ['m', 'a', 'r', 'k', 'e', 'r']
def nVal : Name := ['v', 'a', 'l']
def nChoice : Name := ['c', 'h', 'o', 'i', 'c', 'e']
def nEntity : Name := ['e', 'n', 't', 'i', 't', 'y']

/-- the raw look-up in the tag list -/
def rawTag (tags : List (Name × TagV)) (k : Name) : Option TagV :=
  match tags.find? (fun kv => kv.1 = k) with
  | some kv => some kv.2
  | none => none

/-- `def.get(k)`: the `def` tag of a def of the namespace is its Symbol -/
def DefX.tag (d : DefX) (k : Name) : Option TagV :=
  if k = nDef then some (.sym d.name) else rawTag d.tags k

/-- `def.has(k)` -/
def DefX.has (d : DefX) (k : Name) : Bool := (d.tag k).isSome

/-- `def.has_marker(k)` -/
def DefX.hasMarker (d : DefX) (k : Name) : Bool := d.tag k = some .marker

/-- `def.get_list(k)` -/
def DefX.getList (d : DefX) (k : Name) : Option (List (Option Name)) :=
  match d.tag k with
  | some (.list l) => some l
  | _ => none

/-- `def.get_symbol(k)` -/
def DefX.getSymbol (d : DefX) (k : Name) : Option Name :=
  match d.tag k with
  | some (.sym s) => some s
  | _ => none

/-- the row as Hs.Model.Ns reads it -/
def RowX.toRow (r : RowX) : Row :=
  { name := r.name
    isRaw := match rawTag r.tags nIs with
      | some (.list l) => l
      | _ => [] }

def DefX.toDef (d : DefX) : Def :=
  { name := d.name
    isRaw := match rawTag d.tags nIs with
      | some (.list l) => l
      | _ => [] }

abbrev DefsX := List DefX

def getX (g : DefsX) (s : Name) : Option DefX := g.find? (fun d => d.name = s)

def upsertX (d : DefX) : DefsX → DefsX
  | [] => [d]
  | e :: g => if e.name = d.name then d :: g else e :: upsertX d g

def rowStepX (g : DefsX) (r : RowX) : DefsX :=
  match r.name with
  | some n => upsertX { name := n, tags := r.tags } g
  | none => g

def mkDefsX (rows : List RowX) : DefsX := rows.foldl rowStepX []

/-- the namespace: the taxonomy model and the full defs -/
structure NsX where
  ns : Ns
  xd : DefsX
deriving Repr, Inhabited

/-- `Namespace::make` -/
def makeX (rows : List RowX) : NsX :=
  { ns := make (rows.map RowX.toRow), xd := mkDefsX rows }

/-- the Symbol items of a list that name a def: `filter_map(|v| match v { Symbol(sym) => self.get(sym), _ => None })` -/
def definedSyms (g : Defs) (l : List (Option Name)) : List Name :=
  l.filterMap (fun it =>
    match it with
    | some s => if defined g s then some s else none
    | none => none)

/-! ### indexes built by `make` -/

/-- `is_choice` -/
def isChoiceX (d : DefX) : Bool :=
  match d.getList nIs with
  | some l => l.any (fun it => it = some nChoice)
  | none => false

/-- the `choices` map: every def that lists `choice` in `is` ↦ its direct subtypes -/
def choicesIndex (x : NsX) : List (Name × List Name) :=
  x.xd.filterMap (fun d => if isChoiceX d then some (d.name, subtypesOf x.ns d.name) else none)

/-- `features` -/
def features (x : NsX) : List Name := (x.xd.filter (fun d => isFeature d.name)).map (·.name)

/-- `conjuncts` -/
def conjuncts (x : NsX) : List Name := (x.xd.filter (fun d => isConjunct d.name)).map (·.name)

/-- `libs` -/
def libs (x : NsX) : List Name := subtypesOf x.ns nLib

/-- `str::split_once(':')`, first half -/
def beforeColon : List Char → List Char
  | [] => []
  | c :: cs => if c = ':' then [] else c :: beforeColon cs

/-- `feature_names` (a set) -/
def featureNames (x : NsX) : List Name :=
  extendSet [] ((x.xd.filter (fun d => isFeature d.name)).map (fun d => beforeColon d.name))

/-- the Symbol items of a list -/
def symItems (l : List (Option Name)) : List Name := l.filterMap id

/-- `tag_on_names` (a set): every Symbol item of every `tagOn` list -/
def tagOnNames (x : NsX) : List Name :=
  extendSet [] (x.xd.flatMap (fun d => match d.getList nTagOn with | some l => symItems l | none => []))

/-- `tag_on_defs`: def ↦ the defs its `tagOn` list names -/
def tagOnDefs (x : NsX) : List (Name × List Name) :=
  x.xd.filterMap (fun d => match d.getList nTagOn with
    | some l => some (d.name, definedSyms x.ns.defs l)
    | none => none)

/-! ### associations -/

/-- `association_def.get_list("is").map(|l| l.contains(^association))` is `Some(true)` -/
def isAssoc (d : DefX) : Bool :=
  match d.getList nIs with
  | some l => l.contains (some nAssociation)
  | none => false

/-- `find_reciprocal_associations`: every def whose `reciprocal_of` list names a def in the parent's
inheritance -/
def findReciprocal (fuel : Nat) (x : NsX) (parent r : Name) : Res (List Name) :=
  match inheritance fuel x.ns parent with
  | .ok inh =>
    .ok ((x.xd.filter (fun d =>
      match d.tag r with
      | some (.list l) => (definedSyms x.ns.defs l).any (fun t => inh.contains t)
      | _ => false)).map (·.name))
  | .err => .err | .panic => .panic | .diverge => .diverge | .depth => .depth

/-- `associations(parent, association)` -/
def associations (fuel : Nat) (x : NsX) (parent assoc : Name) : Res (List Name) :=
  match getX x.xd assoc with
  | none => .ok []
  | some ad =>
    if !isAssoc ad then .ok []
    else if !ad.has nComputed then
      match getX x.xd parent with
      | some pd =>
        match pd.getList assoc with
        | some l => .ok (definedSyms x.ns.defs l)
        | none => .ok []
      | none => .ok []
    else
      match ad.getSymbol nReciprocalOf with
      | some r => if defined x.ns.defs r then findReciprocal fuel x parent r else .ok []
      | none => .ok []

/-- `Namespace::is` -/
def assocIs (fuel : Nat) (x : NsX) (p : Name) : Res (List Name) := associations fuel x p nIs
/-- `Namespace::tag_on` -/
def assocTagOn (fuel : Nat) (x : NsX) (p : Name) : Res (List Name) := associations fuel x p nTagOn
/-- `Namespace::tags` -/
def assocTags (fuel : Nat) (x : NsX) (p : Name) : Res (List Name) := associations fuel x p nTags

/-! ### implementation, root tests -/

/-- the union of `all_supertypes_of` over a list of defs -/
def supersOfAll (fuel : Nat) (ns : Ns) : List Name → List Name → Res (List Name)
  | [], acc => .ok acc
  | d :: ds, acc =>
    match allSupertypesOf fuel ns d with
    | .ok all => supersOfAll fuel ns ds (extendSet acc all)
    | .err => .err | .panic => .panic | .diverge => .diverge | .depth => .depth

def hasMarkerX (g : DefsX) (n k : Name) : Bool :=
  match getX g n with
  | some d => d.hasMarker k
  | none => false

/-- `implementation(def)`: the parts of the name that are defs and not feature keys (in order), then - in the
order a hash set is drained - every supertype of theirs that is `mandatory` -/
def implementation (fuel : Nat) (x : NsX) (s : Name) : Res (List Name × List Name) :=
  let base := (conjunctsDefs x.ns s).filter (fun n => !isFeature n)
  match supersOfAll fuel x.ns base [] with
  | .ok sup => .ok (base, sup.filter (fun n => hasMarkerX x.xd n nMandatory))
  | .err => .err | .panic => .panic | .diverge => .diverge | .depth => .depth

/-- `fits_marker`, `fits_val`, `fits_choice`, `fits_entity` -/
def rootName : Nat → Name
  | 0 => nMarker
  | 1 => nVal
  | 2 => nChoice
  | _ => nEntity

def fitsRoot (fuel : Nat) (x : NsX) (which : Nat) (s : Name) : Res Bool := fits fuel x.ns s (rootName which)

/-! ### `compute_entity_type` -/

/-- the reflected defs whose inheritance contains `entity` (`types_with_inheritance`), each with its inheritance -/
def entityTypes (fuel : Nat) (ns : Ns) : List Name → Res (List (Name × List Name))
  | [] => .ok []
  | d :: ds =>
    match inheritance fuel ns d with
    | .ok inh =>
      match entityTypes fuel ns ds with
      | .ok rest => .ok (if inh.contains nEntity then (d, inh) :: rest else rest)
      | e => e
    | .err => .err | .panic => .panic | .diverge => .diverge | .depth => .depth

/-- the candidates for the entity type: with exactly one entity def, that def; otherwise every entity def that
is in no OTHER entity def's inheritance.  (The code takes the first candidate in the order of `Dict::cmp`.) -/
def entityCandidates (fuel : Nat) (ns : Ns) (reflected : List Name) : Res (List Name) :=
  if !defined ns.defs nEntity then .ok []
  else
    match entityTypes fuel ns (extendSet [] reflected) with
    | .ok tw =>
      if tw.length = 1 then .ok (tw.map (·.1))
      else .ok ((tw.filter (fun di => !tw.any (fun ej => ej.1 ≠ di.1 && ej.2.contains di.1))).map (·.1))
    | .err => .err | .panic => .panic | .diverge => .diverge | .depth => .depth

/-- `entity_type`: the first candidate in `order` (the def names in the order of `Dict::cmp` on their dicts);
`none` = the empty dict -/
def entityType (fuel : Nat) (ns : Ns) (reflected order : List Name) : Res (Option Name) :=
  match entityCandidates fuel ns reflected with
  | .ok cands => .ok (order.find? (fun n => cands.contains n))
  | .err => .err | .panic => .panic | .diverge => .diverge | .depth => .depth

/-! ### `has_relationship`: what the loop of Hs.Model.FilterLoops reads from the namespace -/

/-- one tag of a record: its name and, when its value is a Ref, the id -/
structure SubjTag where
  key : Name
  ref : Option FLoops.RefId
deriving Repr, Inhabited

/-- a record: the name the resolver knows it under, its `id` tag, its tags in key order -/
structure RecX where
  key : Option FLoops.RefId
  id : Option FLoops.RefId
  tags : List SubjTag
deriving Repr, Inhabited

/-- `fits` as a Boolean (`NsA.fitsB_spec`: with `fuelFor` it always answers) -/
def fitsB (fuel : Nat) (ns : Ns) (a b : Name) : Bool :=
  match fits fuel ns a b with
  | .ok v => v
  | _ => false

/-- `subject_def.and_then(|def| def.get(name))`, classified as the loop uses it -/
def defVal (fuel : Nat) (x : NsX) (term : Option Name) (tagKey name : Name) : FLoops.DefVal :=
  match getX x.xd tagKey with
  | none => .absent
  | some d =>
    match d.tag name with
    | none => .absent
    | some (.sym s) =>
      match term with
      | some t => .sym (fitsB fuel x.ns s t)
      | none => .sym true
    | some _ => .other

def viewRec (fuel : Nat) (x : NsX) (term : Option Name) (rel : Name) (recip : Option Name) (r : RecX) : FLoops.Rec :=
  { key := r.key, id := r.id,
    entries := r.tags.map (fun t =>
      { ref := t.ref,
        rel := defVal fuel x term t.key rel,
        recip := match recip with
          | some rc => defVal fuel x term t.key rc
          | none => .absent }) }

/-- `has_relationship(subject, rel_name, rel_term, ref_target, resolve)`; `loopFuel` bounds the `'search` loop -/
def hasRelationship (fuel loopFuel : Nat) (x : NsX) (recs : List RecX) (rel : Name) (term : Option Name)
    (target : Option FLoops.RefId) (subject : RecX) : Res Bool :=
  match getX x.xd rel with
  | none => .ok false
  | some rd =>
    match inheritance fuel x.ns rel with
    | .ok inh =>
      let recip := rd.getSymbol nReciprocalOf
      FLoops.hasRelationship (recs.map (viewRec fuel x term rel recip)) (inh.contains nRelationship)
        (rd.hasMarker nTransitive) recip.isSome target (viewRec fuel x term rel recip subject) loopFuel
    | .err => .err | .panic => .panic | .diverge => .diverge | .depth => .depth

end Hs.NsA

/-
  Hs.Model.NsProtos — `Namespace::protos` with `protos_from_def` and `find_flattened_children`, and
  `core_type_defs` (src/haystack/defs/namespace.rs), the last part of the namespace that reads more of a def than the tags of
  Hs.Model.NsAssoc.

  A dict is reduced to an association list from tag names to value TOKENS (equal tokens = equal values; token 0
  is Null).  Of a def only what `protos` reads is kept (`ChildSpec`): the dicts its `children` tag stands for
  (`none` when the tag is neither a Str nor a List, in which case the def contributes nothing; for a Str the
  lines that decode to non-empty dicts, for a List its Dict items) and the Symbol items of its `childrenFlatten`
  list.  `fits` is the function of Hs.Model.Ns.

  The code collects the prototypes in a `HashSet<Dict>` and hands them out in the set's order; the model returns
  the list before that step, and results are compared as sets.  `find_flattened_children` folds over the
  symbols and the parent's keys inserting into a fresh dict; since a dict has each key once, the result is the
  parent restricted to the keys that fit one of the symbols and hold a value other than Null, which is how the
  model states it (`flattened`); the loops as written are `flattenedLoop` / `mergeLoop`, proved to build the same
  dicts on distinct keys (Thm/C13: flattened_loop_eq, merge_loop_eq).
  Core-only imports (linked into `hsdriver`).
-/
import Hs.Model.NsAssoc
namespace Hs.NsA
open Hs Hs.Ns

/-- a dict: tag names and value tokens -/
abbrev PDict := List (Name × Nat)

/-- `dict.get(k)` -/
def pget (d : PDict) (k : Name) : Option Nat :=
  match d.find? (fun kv => kv.1 = k) with
  | some kv => some kv.2
  | none => none

/-- `dict.insert(k, v)`: the value of an existing key is replaced -/
def pinsert (k : Name) (v : Nat) : PDict → PDict
  | [] => [(k, v)]
  | kv :: r => if kv.1 = k then (k, v) :: r else kv :: pinsert k v r

/-- what `protos` reads of a def that has a `children` tag -/
structure ChildSpec where
  children : Option (List PDict)
  flatten : List Name
deriving Repr, Inhabited

/-- the defs that have a `children` tag, by name (each name once) -/
abbrev ProtoDefs := List (Name × ChildSpec)

def plookup (pd : ProtoDefs) (n : Name) : Option ChildSpec :=
  match pd.find? (fun e => e.1 = n) with
  | some e => some e.2
  | none => none

/-- `find_flattened_children` -/
def flattened (fuel : Nat) (ns : Ns) (flatten : List Name) (parent : PDict) : PDict :=
  parent.filter (fun kv => kv.2 != 0 && flatten.any (fun sym => fitsB fuel ns kv.1 sym))

/-- `find_flattened_children` as the code's two loops run it (`flattened_loop_eq`: the same dict) -/
def flatInner (fuel : Nat) (ns : Ns) (sym : Name) (parent : PDict) (acc : PDict) : PDict :=
  parent.foldl (fun acc kv => if fitsB fuel ns kv.1 sym && kv.2 != 0 then pinsert kv.1 kv.2 acc else acc) acc

def flattenedLoop (fuel : Nat) (ns : Ns) (flatten : List Name) (parent : PDict) : PDict :=
  flatten.foldl (fun acc sym => flatInner fuel ns sym parent acc) []

/-- `for (key, val) in flattened.iter() { dict.insert(key, val) }` (the keys of a dict are distinct: the direction of
the fold is immaterial) -/
def mergeInto (f : PDict) (c : PDict) : PDict :=
  f.foldr (fun kv d => pinsert kv.1 kv.2 d) c

/-- the same as the code's loop runs it: first to last (`C13.merge_loop_eq`: no difference on a dict) -/
def mergeLoop (f : PDict) (c : PDict) : PDict :=
  f.foldl (fun d kv => pinsert kv.1 kv.2 d) c

/-- `protos_from_def` -/
def protosFromDef (fuel : Nat) (ns : Ns) (pd : ProtoDefs) (parent : PDict) (name : Name) : List PDict :=
  match plookup pd name with
  | none => []
  | some spec =>
    match spec.children with
    | none => []
    | some cs => cs.map (mergeInto (flattened fuel ns spec.flatten parent))

/-- `protos`, before the `HashSet` -/
def protos (fuel : Nat) (ns : Ns) (pd : ProtoDefs) (parent : PDict) : List PDict :=
  parent.flatMap (fun kv => protosFromDef fuel ns pd parent kv.1)

/-- `protos_from_def` with the loops as the code writes them -/
def protosFromDefLoop (fuel : Nat) (ns : Ns) (pd : ProtoDefs) (parent : PDict) (name : Name) : List PDict :=
  match plookup pd name with
  | none => []
  | some spec =>
    match spec.children with
    | none => []
    | some cs => cs.map (mergeLoop (flattenedLoop fuel ns spec.flatten parent))

/-- `protos` with the loops as the code writes them (what the driver runs; `C13.protos_loop_eq`: tag by tag the dicts of
`protos`) -/
def protosLoop (fuel : Nat) (ns : Ns) (pd : ProtoDefs) (parent : PDict) : List PDict :=
  parent.flatMap (fun kv => protosFromDefLoop fuel ns pd parent kv.1)

/-! ### `core_type_defs` -/

/-- the sixteen names `core_type_defs` looks up, in the order of the fields of `CoreTypeDefs`
(marker, na, bool, number, coord, str, symbol, reference, uri, xstr, date, time, datetime, dict, list, grid) -/
def coreTypeNames : List Name :=
  [ ['m','a','r','k','e','r'], ['n','a'], ['b','o','o','l'], ['n','u','m','b','e','r'], ['c','o','o','r','d'],
    ['s','t','r'], ['s','y','m','b','o','l'], ['r','e','f'], ['u','r','i'], ['x','s','t','r'], ['d','a','t','e'],
    ['t','i','m','e'], ['d','a','t','e','T','i','m','e'], ['d','i','c','t'], ['l','i','s','t'], ['g','r','i','d'] ]

/-- `core_type_defs`: per field the def of that name, `none` for the empty dict the code substitutes -/
def coreTypeDefs (g : Defs) : List (Option Name) :=
  coreTypeNames.map (fun n => if defined g n then some n else none)

/-! ### the small look-ups -/

/-- `has_subtype` -/
def hasSubtype (ns : Ns) (s : Name) : Bool := !(subtypesOf ns s).isEmpty

/-- `all_matching_names`: the names that have a def, in the order given (a name given twice comes out twice) -/
def allMatchingNames (g : Defs) (names : List Name) : List Name := names.filter (defined g)

end Hs.NsA

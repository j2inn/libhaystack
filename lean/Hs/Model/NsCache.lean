/-
  Hs.Model.NsCache — the two lazy caches of `Namespace` (`supertypes_of_cache`, `inheritance_of_cache`, both
  `DashMap<Symbol, Vec<&Dict>>`) as a small-step concurrent system (C14).

  * Shared state: the two caches (key ↦ value).  A DashMap operation (`get`, `contains_key`, `insert`) is
    atomic; `get` that finds the key hands out a READ GUARD on the key's shard which the thread holds until
    it drops it; `insert` needs the shard's write lock and cannot proceed while ANY thread (the inserting
    thread included) holds a read guard on that shard.
  * A thread runs a program `Prog`: a tree of cache operations whose continuations contain the thread-local
    computation.  The programs below are the code of `supertypes_of` and `inheritance` exactly as written -
    `get` → hit: read through the guard, drop it / miss: compute WITHOUT a guard → `contains_key` → `insert`
    if absent → `get(..).expect(..)`, read, drop - and of their callers `all_supertypes_of`, `fits`,
    `reflect` (`find_supertypes_from_defs` + the `inheritance` loop of `compute_entity_type`) and
    `Reflection::fits`.  Every caller in the crate reads the returned vector (`clone`, `contains`, `iter`,
    `is_empty`) and drops the guard before its next cache operation, so the drop is placed right after the
    read (`readP`, the `some` branch of `supG` / `inhG`).
  * `step : Cfg → State → Nat → State` runs one operation of one thread (no-op for a finished or blocked
    thread); a schedule is a `List Nat` of thread indices; any number of threads.

  The cache-free functions are those of Hs.Model.Ns.  Core-only imports (linked into `hsdriver`).
-/
import Hs.Model.Ns
import Hs.Model.NsAssoc
namespace Hs.NsCache
open Hs Hs.Ns

inductive CacheId where
  | sup | inh
deriving DecidableEq, Repr, Inhabited

abbrev V := List Name

/-- the remaining program of a thread -/
inductive Prog (α : Type) where
  | ret (a : α)
  /-- `cache.get(k)`: `some v` ⇒ the thread now holds a read guard on `k`'s shard -/
  | get (c : CacheId) (k : Name) (cont : Option V → Prog α)
  /-- `cache.contains_key(k)` -/
  | has (c : CacheId) (k : Name) (cont : Bool → Prog α)
  /-- `cache.insert(k, v)` (overwrites) -/
  | ins (c : CacheId) (k : Name) (v : V) (cont : Prog α)
  /-- the guard goes out of scope -/
  | drop (cont : Prog α)

namespace Prog
def bind {α β : Type} : Prog α → (α → Prog β) → Prog β
  | .ret a, f => f a
  | .get c k cont, f => .get c k (fun r => (cont r).bind f)
  | .has c k cont, f => .has c k (fun b => (cont b).bind f)
  | .ins c k v cont, f => .ins c k v (cont.bind f)
  | .drop cont, f => .drop (cont.bind f)

def isRet {α : Type} : Prog α → Bool
  | .ret _ => true
  | _ => false
end Prog

/-- re-type a non-`ok` outcome -/
def _root_.Hs.Res.cast {α β : Type} : Res α → Res β
  | .ok _ => .err
  | .err => .err | .panic => .panic | .diverge => .diverge | .depth => .depth

/-! ### the cached functions, as programs -/

/-- `cache.get(k).expect("Cached value")`, the caller's read, the drop of the guard -/
def readP (c : CacheId) (k : Name) : Prog (Res V) :=
  .get c k fun r =>
    match r with
    | some v => .drop (.ret (.ok v))
    | none => .ret .panic

/-- `if !cache.contains_key(k) { cache.insert(k, val) }  cache.get(k).expect(..)` -/
def storeP (c : CacheId) (k : Name) (val : V) : Prog (Res V) :=
  .has c k fun present =>
    if present then readP c k else .ins c k val (readP c k)

/-- `supertypes_of(k)` and the caller's read of the result -/
def supG (g : Defs) (k : Name) : Prog (Res V) :=
  .get .sup k fun r =>
    match r with
    | some v => .drop (.ret (.ok v))
    | none => storeP .sup k (supertypesOf g k)

/-- the `for def in defs` body of `all_supertypes_of`: `supertypes_of(def)` (a cache access) is only called for a
def that was not yet in the result set (`if super_types.insert(def) { .. }`) -/
def forBodyP (g : Defs) : List Name → List (List Name) → List Name → Prog (Res (List (List Name) × List Name))
  | [], st, acc => .ret (.ok (st, acc))
  | d :: ds, st, acc =>
    if d ∈ acc then forBodyP g ds st acc
    else
      (supG g d).bind fun r =>
        match r with
        | .ok nx => forBodyP g ds (if nx.isEmpty then st else nx :: st) (insertSet d acc)
        | e => .ret e.cast

/-- the `while` loop of `all_supertypes_of` -/
def wlP (g : Defs) : Nat → List (List Name) → List Name → Prog (Res (List Name))
  | _, [], acc => .ret (.ok acc)
  | 0, _ :: _, _ => .ret .diverge
  | fuel + 1, v :: st, acc =>
    (forBodyP g v st acc).bind fun r =>
      match r with
      | .ok p => wlP g fuel p.1 p.2
      | e => .ret e.cast

/-- `all_supertypes_of(s)` -/
def allSupP (fuel : Nat) (g : Defs) (s : Name) : Prog (Res (List Name)) :=
  (supG g s).bind fun r =>
    match r with
    | .ok v0 => wlP g fuel [v0] []
    | e => .ret e.cast

/-- the value `inheritance(k)` computes on a miss (calls `all_supertypes_of`, no guard held) -/
def computeInhP (fuel : Nat) (ns : Ns) (k : Name) : Prog (Res V) :=
  if defined ns.defs k then
    (allSupP fuel ns.defs k).bind fun r =>
      match r with
      | .ok all => .ret (.ok (extendSet [k] all))
      | e => .ret e
  else .ret (.ok [])

/-- `inheritance(k)` and the caller's read of the result -/
def inhG (fuel : Nat) (ns : Ns) (k : Name) : Prog (Res V) :=
  .get .inh k fun r =>
    match r with
    | some v => .drop (.ret (.ok v))
    | none =>
      (computeInhP fuel ns k).bind fun rv =>
        match rv with
        | .ok val => storeP .inh k val
        | e => .ret e

/-- `fits(a, b)` -/
def fitsP (fuel : Nat) (ns : Ns) (a b : Name) : Prog (Res Bool) :=
  if defined ns.defs b then
    (inhG fuel ns a).bind fun r =>
      match r with
      | .ok l => .ret (.ok (l.contains b))
      | e => .ret e.cast
  else .ret (.ok false)

/-- `find_supertypes_from_defs` -/
def findSupP (fuel : Nat) (g : Defs) : List Name → List Name → Prog (Res (List Name))
  | [], acc => .ret (.ok acc)
  | d :: ds, acc =>
    (allSupP fuel g d).bind fun r =>
      match r with
      | .ok all => findSupP fuel g ds (extendSet (insertSet d acc) all)
      | e => .ret e

def entityName : Name := ['e', 'n', 't', 'i', 't', 'y']

/-- the loop of `compute_entity_type`: `inheritance(def)` of every reflected def (read, dropped) -/
def entityP (fuel : Nat) (ns : Ns) : List Name → Prog (Res Unit)
  | [] => .ret (.ok ())
  | d :: ds =>
    (inhG fuel ns d).bind fun r =>
      match r with
      | .ok _ => entityP fuel ns ds
      | e => .ret e.cast

/-- `reflect(subject)` (the reflected defs; `compute_entity_type` only runs its loop when `entity` is a def) -/
def reflectP (fuel : Nat) (ns : Ns) (r : Rec) : Prog (Res (List Name)) :=
  (findSupP fuel ns.defs (tagDefs ns r ++ findConjuncts ns (markerTags r)) []).bind fun rv =>
    match rv with
    | .ok ds =>
      if defined ns.defs entityName then
        (entityP fuel ns ds).bind fun e =>
          match e with
          | .ok _ => .ret (.ok ds)
          | x => .ret x.cast
      else .ret (.ok ds)
    | e => .ret e

/-- `defs.iter().any(|def| ns.fits(def, base))` -/
def anyFitsP (fuel : Nat) (ns : Ns) (base : Name) : List Name → Prog (Res Bool)
  | [] => .ret (.ok false)
  | d :: ds =>
    (fitsP fuel ns d base).bind fun r =>
      match r with
      | .ok true => .ret (.ok true)
      | .ok false => anyFitsP fuel ns base ds
      | e => .ret e

/-- `reflect(subject).fits(base)` -/
def reflFitsP (fuel : Nat) (ns : Ns) (r : Rec) (base : Name) : Prog (Res Bool) :=
  (reflectP fuel ns r).bind fun rv =>
    match rv with
    | .ok ds => anyFitsP fuel ns base ds
    | e => .ret e.cast


/-! ### the association / implementation / relationship queries, as programs

Their only cache accesses are those of `inheritance`, `all_supertypes_of` and `fits`; everything else they read
is the immutable `defs` map. -/
section
open Hs.NsA

/-- `find_reciprocal_associations`: `inheritance(parent)` (read, dropped at the end of the function: no other
cache operation happens in between), then a scan of all defs -/
def findReciprocalP (fuel : Nat) (x : NsX) (parent r : Name) : Prog (Res (List Name)) :=
  (inhG fuel x.ns parent).bind fun ri =>
    match ri with
    | .ok inh =>
      .ret (.ok ((x.xd.filter (fun d =>
        match d.tag r with
        | some (.list l) => (definedSyms x.ns.defs l).any (fun t => inh.contains t)
        | _ => false)).map (·.name)))
    | .err => .ret .err | .panic => .ret .panic | .diverge => .ret .diverge | .depth => .ret .depth

/-- `associations` -/
def associationsP (fuel : Nat) (x : NsX) (parent assoc : Name) : Prog (Res (List Name)) :=
  match getX x.xd assoc with
  | none => .ret (.ok [])
  | some ad =>
    if !isAssoc ad then .ret (.ok [])
    else if !ad.has nComputed then
      match getX x.xd parent with
      | some pd =>
        match pd.getList assoc with
        | some l => .ret (.ok (definedSyms x.ns.defs l))
        | none => .ret (.ok [])
      | none => .ret (.ok [])
    else
      match ad.getSymbol nReciprocalOf with
      | some r => if defined x.ns.defs r then findReciprocalP fuel x parent r else .ret (.ok [])
      | none => .ret (.ok [])

/-- the `for def in &defs { super_types.extend(self.all_supertypes_of(..)) }` loop of `implementation` -/
def supersOfAllP (fuel : Nat) (ns : Ns) : List Name → List Name → Prog (Res (List Name))
  | [], acc => .ret (.ok acc)
  | d :: ds, acc =>
    (allSupP fuel ns.defs d).bind fun r =>
      match r with
      | .ok all => supersOfAllP fuel ns ds (extendSet acc all)
      | .err => .ret .err | .panic => .ret .panic | .diverge => .ret .diverge | .depth => .ret .depth

/-- `implementation` -/
def implementationP (fuel : Nat) (x : NsX) (s : Name) : Prog (Res (List Name × List Name)) :=
  (supersOfAllP fuel x.ns ((conjunctsDefs x.ns s).filter (fun n => !isFeature n)) []).bind fun r =>
    match r with
    | .ok sup => .ret (.ok ((conjunctsDefs x.ns s).filter (fun n => !isFeature n), sup.filter (fun n => hasMarkerX x.xd n nMandatory)))
    | .err => .ret .err | .panic => .ret .panic | .diverge => .ret .diverge | .depth => .ret .depth

/-- what a tag's def says under a name, before any `fits` -/
inductive RawVal where
  | absent
  | other
  | sym (s : Name)
deriving Inhabited, DecidableEq

def RawVal.isSome : RawVal → Bool
  | .absent => false
  | _ => true

/-- `subject_def.and_then(|def| def.get(name))` -/
def rawVal (xd : DefsX) (tagKey name : Name) : RawVal :=
  match getX xd tagKey with
  | none => .absent
  | some d =>
    match d.tag name with
    | none => .absent
    | some (.sym s) => .sym s
    | some _ => .other

def rawRecip (xd : DefsX) (tagKey : Name) : Option Name → RawVal
  | some rc => rawVal xd tagKey rc
  | none => .absent

def resolveRecX (recs : List RecX) (r : Name) : Option RecX := recs.find? (fun rc => rc.key == some r)

/-- outcome of one pass over the subject's tags -/
inductive StepX where
  | ret (b : Bool)
  | next (subject : RecX) (queried : List Name) (refTag : Option Name)
  | done

/-- `if let Some(rel_term) = rel_term { self.fits(rel_val, rel_term) } else { true }` -/
def fitsTermL (fuel : Nat) (ns : Ns) (term : Option Name) (s : Name) : Res Bool :=
  match term with
  | some tm => fits fuel ns s tm
  | none => .ok true

/-- the same, `fits` as a cache access -/
def fitsTermP (fuel : Nat) (ns : Ns) (term : Option Name) (s : Name) : Prog (Res Bool) :=
  match term with
  | some tm => fitsP fuel ns s tm
  | none => .ret (.ok true)

/-- what the loop does with a tag once it knows whether the relationship value fits the term -/
def relDecide (recs : List RecX) (transitive : Bool) (t : SubjTag) (q : List Name) (rt : Option Name) (fits : Bool) :
    StepX ⊕ (List Name × Option Name) :=
  if fits && rt.isSome then
    if t.ref.isSome && t.ref == rt then .inl (.ret true)
    else if transitive then
      match t.ref with
      | some sv =>
        if !q.contains sv then
          match resolveRecX recs sv with
          | some new => if !new.tags.isEmpty then .inl (.next new (sv :: q) rt) else .inr (sv :: q, rt)
          | none => .inr (sv :: q, rt)
        else .inr (q, rt)
      | none => .inr (q, rt)
    else .inr (q, rt)
  else if fits then .inl (.ret true)
  else .inr (q, rt)

/-- the `for (subject_key, subject_val) in cur_subject.iter()` body, `fits` called where the code calls it -/
def relInnerL (fuel : Nat) (x : NsX) (recs : List RecX) (rel : Name) (recip term : Option Name) (transitive : Bool)
    (id : Option Name) : List SubjTag → List Name → Option Name → Res StepX
  | [], _, _ => .ok .done
  | t :: rest, q, rt =>
    let relD := rawVal x.xd t.key rel
    let useRecip := !relD.isSome && rt == id && t.ref.isSome && recip.isSome
    let relVal := if useRecip then rawRecip x.xd t.key recip else relD
    let rt := if useRecip && (rawRecip x.xd t.key recip).isSome then t.ref else rt
    match relVal with
    | .sym s =>
      match fitsTermL fuel x.ns term s with
      | .ok f =>
        match relDecide recs transitive t q rt f with
        | .inl st => .ok st
        | .inr (q', rt') => relInnerL fuel x recs rel recip term transitive id rest q' rt'
      | .err => .err | .panic => .panic | .diverge => .diverge | .depth => .depth
    | _ => relInnerL fuel x recs rel recip term transitive id rest q rt

/-- the `'search` loop -/
def relLoopL (fuel : Nat) (x : NsX) (recs : List RecX) (rel : Name) (recip term : Option Name) (transitive : Bool) :
    Nat → RecX → List Name → Option Name → Res Bool
  | 0, _, _, _ => .diverge
  | lf + 1, subject, q, rt =>
    match relInnerL fuel x recs rel recip term transitive subject.id subject.tags q rt with
    | .ok (.ret b) => .ok b
    | .ok .done => .ok false
    | .ok (.next s q' rt') => relLoopL fuel x recs rel recip term transitive lf s q' rt'
    | .err => .err | .panic => .panic | .diverge => .diverge | .depth => .depth

/-- `has_relationship`, cache-free, `fits` evaluated where the code evaluates it -/
def hasRelationshipL (fuel lf : Nat) (x : NsX) (recs : List RecX) (rel : Name) (term target : Option Name)
    (subject : RecX) : Res Bool :=
  match getX x.xd rel with
  | none => .ok false
  | some rd =>
    match inheritance fuel x.ns rel with
    | .ok inh =>
      if !inh.contains nRelationship then .ok false
      else relLoopL fuel x recs rel (rd.getSymbol nReciprocalOf) term (rd.hasMarker nTransitive) lf subject [] target
    | .err => .err | .panic => .panic | .diverge => .diverge | .depth => .depth

/-- the same three functions as programs: `fits` and `inheritance` are cache accesses -/
def relInnerP (fuel : Nat) (x : NsX) (recs : List RecX) (rel : Name) (recip term : Option Name) (transitive : Bool)
    (id : Option Name) : List SubjTag → List Name → Option Name → Prog (Res StepX)
  | [], _, _ => .ret (.ok .done)
  | t :: rest, q, rt =>
    let relD := rawVal x.xd t.key rel
    let useRecip := !relD.isSome && rt == id && t.ref.isSome && recip.isSome
    let relVal := if useRecip then rawRecip x.xd t.key recip else relD
    let rt := if useRecip && (rawRecip x.xd t.key recip).isSome then t.ref else rt
    match relVal with
    | .sym s =>
      (fitsTermP fuel x.ns term s).bind fun fr =>
        match fr with
        | .ok f =>
          match relDecide recs transitive t q rt f with
          | .inl st => .ret (.ok st)
          | .inr (q', rt') => relInnerP fuel x recs rel recip term transitive id rest q' rt'
        | .err => .ret .err | .panic => .ret .panic | .diverge => .ret .diverge | .depth => .ret .depth
    | _ => relInnerP fuel x recs rel recip term transitive id rest q rt

def relLoopP (fuel : Nat) (x : NsX) (recs : List RecX) (rel : Name) (recip term : Option Name) (transitive : Bool) :
    Nat → RecX → List Name → Option Name → Prog (Res Bool)
  | 0, _, _, _ => .ret .diverge
  | lf + 1, subject, q, rt =>
    (relInnerP fuel x recs rel recip term transitive subject.id subject.tags q rt).bind fun r =>
      match r with
      | .ok (.ret b) => .ret (.ok b)
      | .ok .done => .ret (.ok false)
      | .ok (.next s q' rt') => relLoopP fuel x recs rel recip term transitive lf s q' rt'
      | .err => .ret .err | .panic => .ret .panic | .diverge => .ret .diverge | .depth => .ret .depth

def hasRelationshipP (fuel lf : Nat) (x : NsX) (recs : List RecX) (rel : Name) (term target : Option Name)
    (subject : RecX) : Prog (Res Bool) :=
  match getX x.xd rel with
  | none => .ret (.ok false)
  | some rd =>
    (inhG fuel x.ns rel).bind fun ri =>
      match ri with
      | .ok inh =>
        if !inh.contains nRelationship then .ret (.ok false)
        else relLoopP fuel x recs rel (rd.getSymbol nReciprocalOf) term (rd.hasMarker nTransitive) lf subject [] target
      | .err => .ret .err | .panic => .ret .panic | .diverge => .ret .diverge | .depth => .ret .depth
end

/-! ### queries, answers, the cache-free answers -/

inductive Query where
  | sup (k : Name)
  | allSup (k : Name)
  | inh (k : Name)
  | fits (a b : Name)
  | reflect (r : Rec)
  | reflFits (r : Rec) (base : Name)
  /-- `associations(parent, association)` (`is`, `tag_on`, `tags` are instances) -/
  | assoc (parent a : Name)
  /-- `implementation(def)` -/
  | impl (k : Name)
  /-- `fits_marker` / `fits_val` / `fits_choice` / `fits_entity` -/
  | fitsRoot (which : Nat) (k : Name)
  /-- `has_relationship(subject, rel, term, target, resolve)` with the resolver's records -/
  | rel (recs : List NsA.RecX) (rel : Name) (term : Option Name) (target : Option Name) (subject : NsA.RecX)
deriving Repr, Inhabited

inductive Ans where
  | names (r : Res (List Name))
  | bool (r : Res Bool)
  | pair (r : Res (List Name × List Name))
deriving Repr, DecidableEq, Inhabited

structure Cfg where
  ns    : Ns
  fuel  : Nat
  /-- the DashMap shard of a key -/
  shard : Name → Nat
  /-- the full def dicts (Hs.Model.NsAssoc), read by the association / implementation / relationship queries -/
  xd    : NsA.DefsX := []

/-- the namespace as Hs.Model.NsAssoc sees it -/
def Cfg.x (cfg : Cfg) : NsA.NsX := { ns := cfg.ns, xd := cfg.xd }

/-- the pure loop of `compute_entity_type` -/
def entityLoop (fuel : Nat) (ns : Ns) : List Name → Res Unit
  | [] => .ok ()
  | d :: ds =>
    match inheritance fuel ns d with
    | .ok _ => entityLoop fuel ns ds
    | e => e.cast

/-- cache-free `reflect` including the `compute_entity_type` loop -/
def reflectFull (fuel : Nat) (ns : Ns) (r : Rec) : Res (List Name) :=
  match reflect fuel ns r with
  | .ok ds =>
    if defined ns.defs entityName then
      match entityLoop fuel ns ds with
      | .ok _ => .ok ds
      | x => x.cast
    else .ok ds
  | e => e

def reflFitsFull (fuel : Nat) (ns : Ns) (r : Rec) (base : Name) : Res Bool :=
  match reflectFull fuel ns r with
  | .ok ds => anyFits fuel ns base ds
  | e => e.cast

/-- the answer of the cache-free functions -/
def pureAns (cfg : Cfg) : Query → Ans
  | .sup k => .names (.ok (supertypesOf cfg.ns.defs k))
  | .allSup k => .names (allSupertypesOf cfg.fuel cfg.ns k)
  | .inh k => .names (inheritance cfg.fuel cfg.ns k)
  | .fits a b => .bool (fits cfg.fuel cfg.ns a b)
  | .reflect r => .names (reflectFull cfg.fuel cfg.ns r)
  | .reflFits r b => .bool (reflFitsFull cfg.fuel cfg.ns r b)
  | .assoc p a => .names (NsA.associations cfg.fuel cfg.x p a)
  | .impl k => .pair (NsA.implementation cfg.fuel cfg.x k)
  | .fitsRoot w k => .bool (NsA.fitsRoot cfg.fuel cfg.x w k)
  | .rel recs r term target s => .bool (hasRelationshipL cfg.fuel (recs.length + 1) cfg.x recs r term target s)

/-- the program of one query -/
def queryP (cfg : Cfg) : Query → Prog Ans
  | .sup k => (supG cfg.ns.defs k).bind fun r => .ret (.names r)
  | .allSup k => (allSupP cfg.fuel cfg.ns.defs k).bind fun r => .ret (.names r)
  | .inh k => (inhG cfg.fuel cfg.ns k).bind fun r => .ret (.names r)
  | .fits a b => (fitsP cfg.fuel cfg.ns a b).bind fun r => .ret (.bool r)
  | .reflect r => (reflectP cfg.fuel cfg.ns r).bind fun x => .ret (.names x)
  | .reflFits r b => (reflFitsP cfg.fuel cfg.ns r b).bind fun x => .ret (.bool x)
  | .assoc p a => (associationsP cfg.fuel cfg.x p a).bind fun x => .ret (.names x)
  | .impl k => (implementationP cfg.fuel cfg.x k).bind fun x => .ret (.pair x)
  | .fitsRoot w k => (fitsP cfg.fuel cfg.ns k (NsA.rootName w)).bind fun x => .ret (.bool x)
  | .rel recs r term target s =>
    (hasRelationshipP cfg.fuel (recs.length + 1) cfg.x recs r term target s).bind fun x => .ret (.bool x)

/-- a thread issues its queries one after the other -/
def runQs (cfg : Cfg) : List Query → Prog (List Ans)
  | [] => .ret []
  | q :: qs => (queryP cfg q).bind fun a => (runQs cfg qs).bind fun as => .ret (a :: as)

/-! ### the concurrent system -/

structure Caches where
  sup : List (Name × V)
  inh : List (Name × V)
deriving Repr, Inhabited

def alook (k : Name) : List (Name × V) → Option V
  | [] => none
  | (k', v) :: m => if k' = k then some v else alook k m

def look (c : CacheId) (k : Name) (cs : Caches) : Option V :=
  match c with
  | .sup => alook k cs.sup
  | .inh => alook k cs.inh

/-- `insert`: the new binding shadows an older one -/
def put (c : CacheId) (k : Name) (v : V) (cs : Caches) : Caches :=
  match c with
  | .sup => { cs with sup := (k, v) :: cs.sup }
  | .inh => { cs with inh := (k, v) :: cs.inh }

structure Thread where
  prog : Prog (List Ans)
  /-- read guards held (cache, key), most recent first -/
  held : List (CacheId × Name)

structure State where
  c   : Caches
  thr : List Thread

/-- does some thread hold a read guard on the shard of `(c, k)` ? -/
def shardHeld (cfg : Cfg) (s : State) (c : CacheId) (k : Name) : Bool :=
  s.thr.any fun u => u.held.any fun ck => ck.1 = c && cfg.shard ck.2 = cfg.shard k

/-- thread `t` is waiting for a write lock -/
def blocked (cfg : Cfg) (s : State) (t : Nat) : Bool :=
  match s.thr[t]? with
  | some th =>
    match th.prog with
    | .ins c k _ _ => shardHeld cfg s c k
    | _ => false
  | none => false

def finished (s : State) (t : Nat) : Bool :=
  match s.thr[t]? with
  | some th => th.prog.isRet
  | none => true

/-- thread `t` exists, has not finished and is not waiting -/
def enabled (cfg : Cfg) (s : State) (t : Nat) : Bool := !finished s t && !blocked cfg s t

/-- one operation of thread `t` -/
def step (cfg : Cfg) (s : State) (t : Nat) : State :=
  match s.thr[t]? with
  | none => s
  | some th =>
    match th.prog with
    | .ret _ => s
    | .get c k cont =>
      let r := look c k s.c
      { s with thr := s.thr.set t { prog := cont r, held := if r.isSome then (c, k) :: th.held else th.held } }
    | .has c k cont =>
      { s with thr := s.thr.set t { prog := cont (look c k s.c).isSome, held := th.held } }
    | .ins c k v cont =>
      if shardHeld cfg s c k then s
      else { c := put c k v s.c, thr := s.thr.set t { prog := cont, held := th.held } }
    | .drop cont =>
      { s with thr := s.thr.set t { prog := cont, held := th.held.tail } }

/-- run a schedule -/
def run (cfg : Cfg) (s : State) (sched : List Nat) : State := sched.foldl (step cfg) s

/-- the initial state: caches `c0` (cold: both empty), one thread per query list -/
def init (cfg : Cfg) (c0 : Caches) (qss : List (List Query)) : State :=
  { c := c0, thr := qss.map fun qs => { prog := runQs cfg qs, held := [] } }

def cold : Caches := { sup := [], inh := [] }

end Hs.NsCache

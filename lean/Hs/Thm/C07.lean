/-
  C07 — filter evaluation follows the Haystack filter semantics.

  `evalImpl` (Hs.Model.Filter) mirrors the `impl Eval` blocks of filter/nodes.rs as they are after
  the fixes b2483f0 / 13ecceb; `evalSpec` (Hs.Model.FilterSpec) is written from the property text.
  The statements quantify over ALL filters (any number of terms, any nesting of parentheses, paths
  of any length, every literal), all records and all record sets a resolver may supply, every
  namespace oracle, and every way of ordering Numbers with different units (`mixed`): the one point
  the property leaves open is excluded by `noMixed`, not decided.
  The model is tied to the code by the correspondence check (`feval` requests, harness/src/c07.rs).
-/
import Hs.Lemmas.FilterWild
namespace Hs.C07
open Hs

abbrev NsFits := Tags → List Char → Bool
abbrev NsRel := Tags → List Char → Option (List Char) → Option (List Char) → Bool

/-- the specification's environment for a resolver that supplies the records `recs` -/
def recsEnv (recs : List Tags) (fits : NsFits) (rel : NsRel) (mixed : CmpOp → Num → Num → Bool) : SpecEnv :=
  { deref := recsResolveRef recs, hops := recs.length + 2, fits := fits, rel := rel, mixed := mixed }

/-- … and without a resolver (`impl Filtered for Dict`: the record resolves its own paths) -/
def dictEnv (fits : NsFits) (rel : NsRel) (mixed : CmpOp → Num → Num → Bool) : SpecEnv :=
  recsEnv [] fits rel mixed

/-- the filter never asks how two Numbers with different units are ordered -/
@[reducible] def NoMixedUnitOrder (recs : List Tags) (f : FOr) (r : Tags) : Prop :=
  f.noMixed (recsResolveRef recs) r = true

/-! ### the connectives -/

/-- 'or' holds iff some operand holds -/
theorem or_any (cx : Ctx) : (o : FOr) → o.evalImpl cx = o.toList.any (fun a => a.evalImpl cx)
  | .nil => by simp [FOr.evalImpl, FOr.toList]
  | .cons a as => by simp [FOr.evalImpl, FOr.toList, or_any cx as]

/-- 'and' holds iff all operands hold -/
theorem and_all (cx : Ctx) : (a : FAnd) → a.evalImpl cx = a.toList.all (fun t => t.evalImpl cx)
  | .nil => by simp [FAnd.evalImpl, FAnd.toList]
  | .cons t ts => by simp [FAnd.evalImpl, FAnd.toList, and_all cx ts]

/-- parentheses group: a parenthesised filter is a term with the truth value of that filter -/
theorem parens_group (cx : Ctx) (o : FOr) : (FTerm.parens o).evalImpl cx = o.evalImpl cx := by
  simp [FTerm.evalImpl]

/-- 'and' binds tighter than 'or', on the side of evaluation: the Or of the two Ands, the tree of
`a and b or c and d`, holds iff `a` and `b` hold or `c` and `d` do (that the text is read as this tree is the parser's
matter: `Hs.C08.precedence`) -/
theorem and_binds_tighter (cx : Ctx) (a b c d : FTerm) :
    (FOr.cons (.cons a (.cons b .nil)) (.cons (.cons c (.cons d .nil)) .nil)).evalImpl cx
      = ((a.evalImpl cx && b.evalImpl cx) || (c.evalImpl cx && d.evalImpl cx)) := by
  simp [FOr.evalImpl, FAnd.evalImpl]

/-! ### the terms -/

/-- 'tag' holds iff the path resolves to a value, 'not tag' iff it does not -/
theorem has_missing (recs : List Tags) (fits : NsFits) (rel : NsRel) (r : Tags) (p : FPath) :
    (FTerm.has p).evalImpl (recsCtx recs fits rel r) = (lookupSpec (recsResolveRef recs) r p).isSome ∧
    (FTerm.missing p).evalImpl (recsCtx recs fits rel r) = (lookupSpec (recsResolveRef recs) r p).isNone := by
  simp only [FTerm.evalImpl, Ctx.resolve, recsCtx, recsResolver, recsResolveFor_spec, orNull_isNull]
  cases lookupSpec (recsResolveRef recs) r p <;> simp

/-- a comparison holds iff the path resolves to a value that stands in the stated relation to the
literal, or to a list with such an element -/
theorem cmp_holds (recs : List Tags) (fits : NsFits) (rel : NsRel) (mixed : CmpOp → Num → Num → Bool)
    (r : Tags) (p : FPath) (op : CmpOp) (lit : Val)
    (h : mixedCmp op lit (lookupSpec (recsResolveRef recs) r p) = false) :
    (FTerm.cmp p op lit).evalImpl (recsCtx recs fits rel r)
      = cmpSpec (recsEnv recs fits rel mixed) op lit (lookupSpec (recsResolveRef recs) r p) := by
  simp only [FTerm.evalImpl, Ctx.resolve, recsCtx, recsResolver, recsResolveFor_spec]
  cases hl : lookupSpec (recsResolveRef recs) r p with
  | none => simp [orNull, cmpSpec, cmpDispatch]
  | some v =>
    rw [hl] at h
    simpa [orNull, cmpSpec] using cmpDispatch_spec (recsEnv recs fits rel mixed) op lit v h

/-- `path *== @ref` holds iff the Ref chain starting at the path's value reaches `@ref`; the
visited set of the loop never cuts such a chain short -/
theorem wildcard_chain (recs : List Tags) (fits : NsFits) (rel : NsRel) (mixed : CmpOp → Num → Num → Bool)
    (r : Tags) (p : FPath) (t : List Char) :
    (FTerm.wildcardEq p t).evalImpl (recsCtx recs fits rel r)
      = chaseSpec (recsEnv recs fits rel mixed) p t (recs.length + 2) r := by
  simp only [FTerm.evalImpl, wildcardEval, Ctx.resolve, recsCtx]
  have h := wildLoop_spec recs p t ((recsResolver recs).resolveFor r p)
  simp only [recsResolver] at h ⊢
  rw [h, chaseSpec_eq recs (recsEnv recs fits rel mixed) rfl p t]
  rfl

/-- the hop bound of the specification is no restriction -/
theorem wildcard_any_hops (recs : List Tags) (fits : NsFits) (rel : NsRel) (mixed : CmpOp → Num → Num → Bool)
    (r : Tags) (p : FPath) (t : List Char) (n : Nat)
    (h : chaseSpec (recsEnv recs fits rel mixed) p t n r = true) :
    chaseSpec (recsEnv recs fits rel mixed) p t (recs.length + 2) r = true := by
  rw [chaseSpec_eq recs _ rfl] at h ⊢
  exact chaseV_bounded recs p t _ n h

/-- the model's wildcard loop never runs out of fuel -/
theorem wildcard_terminates (recs : List Tags) (fits : NsFits) (rel : NsRel) (r : Tags) (p : FPath)
    (t : List Char) : ∃ b, wildcardEval (recsCtx recs fits rel r) p t = some b :=
  wildLoop_terminates recs p t _

/-! ### the whole filter -/

mutual
theorem term_spec (recs : List Tags) (fits : NsFits) (rel : NsRel) (mixed : CmpOp → Num → Num → Bool)
    (r : Tags) : (t : FTerm) → t.noMixed (recsResolveRef recs) r = true →
      t.evalImpl (recsCtx recs fits rel r) = t.evalSpec (recsEnv recs fits rel mixed) r
  | .parens o, h => by
    rw [FTerm.evalImpl, FTerm.evalSpec]
    exact or_spec recs fits rel mixed r o (by simpa [FTerm.noMixed] using h)
  | .has p, _ => by
    rw [(has_missing recs fits rel r p).1]; rfl
  | .missing p, _ => by
    rw [(has_missing recs fits rel r p).2]; rfl
  | .isA sym, _ => rfl
  | .wildcardEq p t, _ => by
    rw [wildcard_chain recs fits rel mixed r p t]; rfl
  | .relation _ _ _, _ => rfl
  | .cmp p op lit, h => by
    rw [cmp_holds recs fits rel mixed r p op lit (by simpa [FTerm.noMixed] using h)]; rfl
theorem and_spec (recs : List Tags) (fits : NsFits) (rel : NsRel) (mixed : CmpOp → Num → Num → Bool)
    (r : Tags) : (a : FAnd) → a.noMixed (recsResolveRef recs) r = true →
      a.evalImpl (recsCtx recs fits rel r) = a.evalSpec (recsEnv recs fits rel mixed) r
  | .nil, _ => rfl
  | .cons t ts, h => by
    have h' : t.noMixed (recsResolveRef recs) r = true ∧ ts.noMixed (recsResolveRef recs) r = true := by
      simpa [FAnd.noMixed] using h
    rw [FAnd.evalImpl, FAnd.evalSpec, term_spec recs fits rel mixed r t h'.1,
      and_spec recs fits rel mixed r ts h'.2]
theorem or_spec (recs : List Tags) (fits : NsFits) (rel : NsRel) (mixed : CmpOp → Num → Num → Bool)
    (r : Tags) : (o : FOr) → o.noMixed (recsResolveRef recs) r = true →
      o.evalImpl (recsCtx recs fits rel r) = o.evalSpec (recsEnv recs fits rel mixed) r
  | .nil, _ => rfl
  | .cons a as, h => by
    have h' : a.noMixed (recsResolveRef recs) r = true ∧ as.noMixed (recsResolveRef recs) r = true := by
      simpa [FOr.noMixed] using h
    rw [FOr.evalImpl, FOr.evalSpec, and_spec recs fits rel mixed r a h'.1,
      or_spec recs fits rel mixed r as h'.2]
end

/-! ### grids -/

/-- filtering a grid returns exactly the rows for which the filter holds, in order -/
theorem grid_filter_all (flt : Tags → Bool) (rows : Rows) :
    filterAll flt rows = rows.toList.filter flt := by
  simp [filterAll, filterAllLoop_eq]

/-- … and the first of them for a single match -/
theorem grid_filter_first (flt : Tags → Bool) :
    (rows : Rows) → filterFirst flt rows = (filterAll flt rows).head?
  | .nil => by simp [filterFirst, filterAll, filterAllLoop]
  | .cons r rs => by
    have ih := grid_filter_first flt rs
    rw [grid_filter_all] at ih ⊢
    rw [filterFirst]
    cases h : flt r <;> simp [Rows.toList, h, ih]

/-! ### the property -/

/-- The property at full strength: with a caller-supplied resolver and with the record's own
(`Filtered for Dict`), the code's truth value is the specified one whenever no comparison of the filter
meets two Numbers with different units under an ordering operator on that record (`NoMixedUnitOrder`; this leaves out
somewhat more than the property leaves open: `a < 5 or b` holds on `{a: 5m, b}` however the two Numbers are ordered);
`Filtered for Grid` / `ListFiltered for Grid` return the matching rows in order / the first. -/
def C07_full : Prop :=
  (∀ (recs : List Tags) (fits : NsFits) (rel : NsRel) (mixed : CmpOp → Num → Num → Bool)
      (f : FOr) (r : Tags), NoMixedUnitOrder recs f r →
      f.evalImpl (recsCtx recs fits rel r) = f.evalSpec (recsEnv recs fits rel mixed) r) ∧
  (∀ (fits : NsFits) (rel : NsRel) (mixed : CmpOp → Num → Num → Bool) (f : FOr) (r : Tags),
      NoMixedUnitOrder [] f r →
      dictFilter fits rel f r = f.evalSpec (dictEnv fits rel mixed) r) ∧
  (∀ (fits : NsFits) (rel : NsRel) (f : FOr) (rows : Rows),
      filterAll (dictFilter fits rel f) rows = rows.toList.filter (dictFilter fits rel f) ∧
      filterFirst (dictFilter fits rel f) rows = (filterAll (dictFilter fits rel f) rows).head?)

theorem C07_holds : C07_full := by
  refine ⟨?_, ?_, ?_⟩
  · intro recs fits rel mixed f r h
    exact or_spec recs fits rel mixed r f h
  · intro fits rel mixed f r h
    have hctx : dictCtx fits rel r = recsCtx [] fits rel r := by
      simp [dictCtx, recsCtx, dictResolver_eq]
    rw [dictFilter, hctx]
    exact or_spec [] fits rel mixed r f h
  · intro fits rel f rows
    exact ⟨grid_filter_all _ rows, grid_filter_first _ rows⟩

/-! ### non-vacuity: concrete records and filters inside the theorem's hypotheses -/

abbrev five : Val := .num { v := { bits := 0x4014000000000000, txt := ['5'] }, unit := none }
abbrev three : Val := .num { v := { bits := 0x4008000000000000, txt := ['3'] }, unit := none }
abbrev seven : Val := .num { v := { bits := 0x401C000000000000, txt := ['7'] }, unit := none }
abbrev fiveM : Val := .num { v := { bits := 0x4014000000000000, txt := ['5'] }, unit := some ['m'] }
abbrev noFits : NsFits := fun _ _ => false
abbrev noRel : NsRel := fun _ _ _ _ => false
abbrev anyMixed : CmpOp → Num → Num → Bool := fun _ _ _ => true
abbrev one (t : FTerm) : FOr := .cons (.cons t .nil) .nil

/-- a record without the tag `a`: `a != 5`, `a < 5`, `a` do not hold, `not a` does (F1/F2) -/
abbrev recNoA : Tags := .cons ['b'] three .nil
example : NoMixedUnitOrder [] (one (.cmp [['a']] .ne five)) recNoA ∧
    dictFilter noFits noRel (one (.cmp [['a']] .ne five)) recNoA = false ∧
    dictFilter noFits noRel (one (.cmp [['a']] .lt five)) recNoA = false ∧
    dictFilter noFits noRel (one (.has [['a']])) recNoA = false ∧
    dictFilter noFits noRel (one (.missing [['a']])) recNoA = true ∧
    (one (.cmp [['a']] .ne five)).evalSpec (dictEnv noFits noRel anyMixed) recNoA = false := by decide +kernel

/-- a Str where a Number is compared: no ordering operator holds, `!=` does (F2) -/
abbrev recStr : Tags := .cons ['s'] (.str ['x']) .nil
example : NoMixedUnitOrder [] (one (.cmp [['s']] .gt five)) recStr ∧
    dictFilter noFits noRel (one (.cmp [['s']] .gt five)) recStr = false ∧
    dictFilter noFits noRel (one (.cmp [['s']] .ge five)) recStr = false ∧
    dictFilter noFits noRel (one (.cmp [['s']] .lt five)) recStr = false ∧
    dictFilter noFits noRel (one (.cmp [['s']] .ne five)) recStr = true ∧
    (one (.cmp [['s']] .gt five)).evalSpec (dictEnv noFits noRel anyMixed) recStr = false := by decide +kernel

/-- a list value is searched element-wise: `[3, 7]` is `< 5`, `> 5`, `!= 5` and not `== 5` -/
abbrev recList : Tags := .cons ['l'] (.list (.cons three (.cons seven .nil))) .nil
example : NoMixedUnitOrder [] (one (.cmp [['l']] .lt five)) recList ∧
    dictFilter noFits noRel (one (.cmp [['l']] .lt five)) recList = true ∧
    dictFilter noFits noRel (one (.cmp [['l']] .gt five)) recList = true ∧
    dictFilter noFits noRel (one (.cmp [['l']] .ne five)) recList = true ∧
    dictFilter noFits noRel (one (.cmp [['l']] .eq five)) recList = false ∧
    (one (.cmp [['l']] .gt five)).evalSpec (dictEnv noFits noRel anyMixed) recList = true := by
  refine ⟨by decide +kernel, ?_, ?_, by decide +kernel, by decide +kernel, by decide +kernel⟩
  -- ordering two Numbers goes through `Val.pcmp`, which is compiled by well-founded recursion and does not reduce
  -- under evaluation: these two are unfolded by `simp`
  all_goals
    simp [dictFilter, FOr.evalImpl, FAnd.evalImpl, FTerm.evalImpl, Ctx.resolve, dictCtx, dictResolver, dictResolveFor,
      Tags.isEmpty, walkPath, Val.isNull, dictStep, Tags.getOrNull, Tags.get?, cmpDispatch, Val.isList, cmpDispatchAny,
      CmpOp.apply, sameKind, Val.kindIdx, ordLt, ordGt, Val.pcmp, Val.pcmpSame, Num.pcmp, Flt.pcmp, Flt.isNaN, Flt.key]
    decide

/-- `d->a` through a nested dict, `r->a` through the resolver (and not without it), and a Ref cycle
`p -> q -> p` on which `r *== @z` ends with `false` and `r *== @p` with `true` -/
abbrev recP : Tags := .cons ['i', 'd'] (.ref ['p'] none) (.cons ['r'] (.ref ['q'] none) .nil)
abbrev recQ : Tags :=
  .cons ['a'] five (.cons ['i', 'd'] (.ref ['q'] none) (.cons ['r'] (.ref ['p'] none) .nil))
abbrev recD : Tags := .cons ['d'] (.dict (.cons ['a'] five .nil)) .nil
example : dictFilter noFits noRel (one (.cmp [['d'], ['a']] .eq five)) recD = true ∧
    (one (.cmp [['r'], ['a']] .eq five)).evalImpl (recsCtx [recP, recQ] noFits noRel recP) = true ∧
    dictFilter noFits noRel (one (.cmp [['r'], ['a']] .eq five)) recP = false ∧
    (one (.wildcardEq [['r']] ['z'])).evalImpl (recsCtx [recP, recQ] noFits noRel recP) = false ∧
    (one (.wildcardEq [['r']] ['p'])).evalImpl (recsCtx [recP, recQ] noFits noRel recP) = true := by
  decide +kernel

/-- the excluded class is not empty, and only ordering operators put a filter into it: `a < 5` on a record
with `a: 5m` is outside `NoMixedUnitOrder`, `a == 5` on the same record is inside -/
abbrev recM : Tags := .cons ['a'] fiveM .nil
example : ¬ NoMixedUnitOrder [] (one (.cmp [['a']] .lt five)) recM ∧
    NoMixedUnitOrder [] (one (.cmp [['a']] .eq five)) recM ∧
    dictFilter noFits noRel (one (.cmp [['a']] .eq five)) recM = false := by decide +kernel

end Hs.C07

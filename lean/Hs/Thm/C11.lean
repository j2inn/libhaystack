/-
  C11 — re-encoding decoded text is stable; stream decoding equals buffer decoding; lazy rows.

  * stream = buffer: the model's scanner pulls one byte per request (`Scan.readByte`); the translated
    table `Hs.Gen.ScannerRead` shows that the only calls scanner.rs makes on its reader are
    `read_exact` on 1-byte buffers, so chunk boundaries and `Interrupted` are invisible above it.
  * `parse_grid` is, by definition, the lazy iterator collected (`grid_is_collect`); on the writer's output the rows
    `rowNext` hands out one by one are the rows of the parsed grid, in order (`C11_iterator_rows_eq_grid_rows`).
  * the look-ahead of the iterator: the model reports, for every row handed out, how many bytes had
    been pulled from the reader; these counts are string-compared with a counting reader under the
    real iterator on every run (C11 `rows` requests), and checked against the bound "end of the
    first token after the row + 3".  PROVED here for the writer's own output (`C11_lookahead`, `C11_lookahead_bound`,
    `C11_token_ends`): for every well-formed top-level grid the count is exactly `min (e + 1) |text|`, `e` the end of
    the first token of the line after the row; and for ARBITRARY input the structural half
    (`C11_next_reads_one_token`): after a row's newline a `next()` call skips white space and reads one token
    (two for `>>`).  "Still-arriving grid" (`C11_rows_available_on_prefix`): the writer's text cut one byte after the
    first token of a row line and continued by ANY bytes still yields the rows in front of that line, with the same
    byte counts.
  * re-encode stability is the round trip of C01 applied to the decoder's image; it is decided on the
    implementation by the exact-component oracle on accepted texts (spelled, corpus, accepted mutants).
    PROVED here in the model: on the writer's image (`C11_stable_on_writer_image`: one normalisation pass is a fixed
    point); the IMAGE INVARIANT of the reader for ALL accepted texts (`C11_decoder_image`: ids over their alphabets,
    identifier keys strictly ascending, grid shape, nesting at most 64 — lemma files `Hs/Lemmas/ZincImage*.lean`); from
    it re-encode stability for ALL accepted texts whose value has no Number / Date / Time / DateTime / Coord leaf
    (`C11_stable_struct`), up to an explicit exclusion list (`excluded`: grid `ver` other than "3.0", known finding Z4;
    both needed: `C11_excluded_ver_needed`, `C11_excluded_Z4_needed`) and one shape the proof does not reach
    (nesting exactly 64; a kernel-checked example shows it stable); with Date and Coord leaves outright and with
    Number / Time / DateTime leaves under the hypothesis that each is a lexeme C01 covers (`C11_stable_full_partial`); for every decoded value that passes
    an executable certificate (`C11_stable_partial`, `C11_stable_cert_partial`); the unrestricted statement
    `C11_stable` is false on the pinned tree (`C11_stable_fails_Z4`, `C11_stable_fails_ver`).
-/
import Hs.Gen.ScannerRead
import Hs.Thm.C04
import Hs.Lemmas.ZincBeq
import Hs.Lemmas.ZincLazyShape
import Hs.Lemmas.ZincLazyAvail
import Hs.Lemmas.StrLit
import Hs.Lemmas.ZincImageTop
namespace Hs.C11
open Hs Hs.Zinc Hs.C01

/-- scanner.rs hands its reader 1-byte buffers only, and fills them completely (table from the text of scanner.rs —
every use of `input` is `read_exact(&mut buf)` on a `[u8; 1]` — or, after a rewrite, measured on the real decoder) -/
theorem scanner_reads_one_byte_at_a_time :
    Hs.Gen.scannerBufSizes = [1] ∧ Hs.Gen.scannerReadsExact = true ∧ 0 < Hs.Gen.scannerReadObservations := by
  decide

/-- one request to the reader consumes exactly one byte of the input, whatever came before -/
theorem readByte_one (s : Scan) (b : UInt8) (rest : List UInt8) (h : s.inp = b :: rest) :
    s.readByte = (some b, { s with inp := rest }) := by
  simp [Scan.readByte, h]

/-- `parse_grid` = header, then the lazy row iterator driven to its end -/
theorem grid_is_collect (fuel depth : Nat) (p : PS) :
    parseGrid (fuel + 1) depth p =
      (match gridHeader fuel depth p with
       | .ok ((md, cols, ver), r) =>
         match rowsLoop fuel depth r (cols.map (·.1)) [] with
         | .ok (rows, r1) => .ok (.grid md (Cols.ofList cols) (Rows.ofList rows) ver, r1.p)
         | .err => .err | .panic => .panic | .diverge => .diverge | .depth => .depth
       | .err => .err | .panic => .panic | .diverge => .diverge | .depth => .depth) := by
  rw [parseGrid]
  rfl

/-- `rowsLoop` hands rows out in the order `rowNext` produces them -/
theorem rowsLoop_step (fuel depth : Nat) (r : RowState) (cols : List (List Char)) (acc : List Tags) :
    rowsLoop (fuel + 1) depth r cols acc =
      (match rowNext fuel depth r cols with
       | .ok (Option.none, r1) => .ok (acc, r1)
       | .ok (some row, r1) => rowsLoop fuel depth r1 cols (acc ++ [row])
       | .err => .err | .panic => .panic | .diverge => .diverge | .depth => .depth) := by
  rw [rowsLoop]
  rfl

/-! ## The lazy row iterator on the writer's output: rows, order, look-ahead

Helper lemmas: `Hs/Lemmas/ZincLazy{Row,Grid,Count,Avail}.lean`, on top of the C01 ladder.
Vocabulary:
* `pulls F D names total n r0` (`ZincLazyCount`) drives `rowNext` from the iterator state `r0` until it reports
  the end (at most `n` calls) and returns every row handed out together with `total - r.p.sc.inp.length` for the
  state `r` returned with that row: the number of bytes pulled from the reader so far.  This is the number the
  driver prints (`Hs.Drv.Zinc.rowsTrace`) and that is string-compared on every run with a counting reader under
  the real `RowIterator`.
* `headerBytes md cols` is the text in front of the first row line; `rowBytes r names single` is the text of a
  row line without its newline; `rowFirstLen r names` is the length of the FIRST TOKEN of that line: the whole
  first cell when it is a scalar, its opening bracket when it is a list / dict / nested grid, the `,` when the
  first cell is missing.
* `tokEnds names single off rows` lists, for every row, the offset (in the whole text) at which the first token of
  the FOLLOWING line ends; the line after the last row is the blank line that ends the grid and its newline is the
  token.  `Layout` (`ZincLazyAvail`, theorem `C11_token_ends`) ties these offsets to the text and to the lexer.
-/

/-- **C11 look-ahead, general form.**  `g` a top-level grid satisfying C01's `wfV`, `t = encode g`, any recursion
depth `D` the reader admits and any fuel `F ≥ 4·|t| + 44`.  `gridHeader` returns the header (meta, columns,
version: the lexical image) and the iterator state `r0`; driving `rowNext` from `r0` hands out exactly the rows of
`lexImage g`, in order, then the end; and when row `i` is handed out the number of bytes pulled from the reader
is `min (e_i + 1) |t|`, where `e_i` is the offset of the end of the first token of the line after row `i`
(`+ 1`: the scanner's current byte; the `min` only matters after the last row, where `e + 1 = |t| + 1`). -/
theorem C11_lookahead_general (md : OTags) (cols : Cols) (rows : Rows) (ver : List Char)
    (hwf : wfV (.grid md cols rows ver) = true) (D F : Nat)
    (hD : D + nestV (.grid md cols rows ver) ≤ 64)
    (hF : 4 * (encode (.grid md cols rows ver)).length + 44 ≤ F) :
    ∃ p0 r0,
      lexRead F (Scan.make (encode (.grid md cols rows ver))) = .ok p0 ∧
      gridHeader F D p0 = .ok ((lexOTags md, (lexCols cols).toList, ver), r0) ∧
      ∀ n, rows.length < n →
        pulls F D cols.names (encode (.grid md cols rows ver)).length n r0 =
          .ok (List.zip (lexRows rows).toList
            ((tokEnds cols.names (cols.length == 1) (headerBytes md cols).length rows).map
              (fun e => min (e + 1) (encode (.grid md cols rows ver)).length))) := by
  obtain ⟨p0, r0, _, e0, eh, hp, _⟩ := lazy_of_wf md cols rows ver hwf D F hD hF
  rw [lexOTags_eq, lexCols_eq, lexRows_eq]
  exact ⟨p0, r0, e0, eh, hp⟩

/-- **C11 look-ahead, with the parameters of `parse_grid_iterator` as the driver runs it** (`Hs.Drv.Zinc.rowsTrace`:
depth 0, fuel `fuelFor |t|`, at most `|t| + 3` calls).  The property's sentence "the iterator hands out each row
having consumed the stream no further than the first token after that row" reads here: the `i`-th entry of the
result is (row `i` of `lexImage g`, `min (e_i + 1) |t|`) with `e_i` = `(tokEnds …)[i]` = end of the first token of
the line after row `i`; see `C11_lookahead_bound` for the inequality and `C11_token_ends` for what `e_i` is. -/
theorem C11_lookahead (md : OTags) (cols : Cols) (rows : Rows) (ver : List Char)
    (hwf : wfV (.grid md cols rows ver) = true) (hdep : depthOk (.grid md cols rows ver) = true) :
    ∃ p0 r0,
      lexRead (fuelFor (encode (.grid md cols rows ver)).length) (Scan.make (encode (.grid md cols rows ver))) = .ok p0 ∧
      gridHeader (fuelFor (encode (.grid md cols rows ver)).length) 0 p0
        = .ok ((lexOTags md, (lexCols cols).toList, ver), r0) ∧
      pulls (fuelFor (encode (.grid md cols rows ver)).length) 0 cols.names (encode (.grid md cols rows ver)).length
          ((encode (.grid md cols rows ver)).length + 3) r0 =
        .ok (List.zip (lexRows rows).toList
          ((tokEnds cols.names (cols.length == 1) (headerBytes md cols).length rows).map
            (fun e => min (e + 1) (encode (.grid md cols rows ver)).length))) := by
  have hn : nestV (.grid md cols rows ver) < 64 := depthOk_iff.mp hdep
  obtain ⟨p0, r0, e0, eh, hp⟩ := C11_lookahead_general md cols rows ver hwf 0
    (fuelFor (encode (.grid md cols rows ver)).length) (by omega) (by unfold fuelFor; omega)
  exact ⟨p0, r0, e0, eh, hp _ (rows_length_lt md cols rows ver hwf)⟩

/-- **the bound**: whatever `pulls` reports at position `i` is row `i` of the image together with a byte count
`k ≤ e_i + 1` (and `k ≤ |t|`), `e_i` the end of the first token of the line after row `i` -/
theorem C11_lookahead_bound (md : OTags) (cols : Cols) (rows : Rows) (ver : List Char)
    (hwf : wfV (.grid md cols rows ver) = true) (hdep : depthOk (.grid md cols rows ver) = true) :
    ∃ p0 r0 l,
      lexRead (fuelFor (encode (.grid md cols rows ver)).length) (Scan.make (encode (.grid md cols rows ver))) = .ok p0 ∧
      gridHeader (fuelFor (encode (.grid md cols rows ver)).length) 0 p0
        = .ok ((lexOTags md, (lexCols cols).toList, ver), r0) ∧
      pulls (fuelFor (encode (.grid md cols rows ver)).length) 0 cols.names (encode (.grid md cols rows ver)).length
          ((encode (.grid md cols rows ver)).length + 3) r0 = .ok l ∧
      l.length = rows.length ∧
      ∀ (i : Nat) (row : Tags) (k : Nat), l[i]? = some (row, k) →
        (lexRows rows).toList[i]? = some row ∧
        ∃ e, (tokEnds cols.names (cols.length == 1) (headerBytes md cols).length rows)[i]? = some e ∧
          k ≤ e + 1 ∧ k ≤ (encode (.grid md cols rows ver)).length := by
  obtain ⟨p0, r0, e0, eh, hp⟩ := C11_lookahead md cols rows ver hwf hdep
  refine ⟨p0, r0, _, e0, eh, hp, ?_, ?_⟩
  · rw [List.length_zip, List.length_map, tokEnds_length, lexRows_eq, lexImgR_length]; simp
  · intro i row k hi
    obtain ⟨e, he, hrow, hk⟩ := zip_min_bound _ _ _ i (row, k) hi
    simp only at hrow hk
    exact ⟨hrow, e, he, by rw [hk]; exact Nat.min_le_left _ _, by rw [hk]; exact Nat.min_le_right _ _⟩

/-- **what the offsets are** (`Layout`, unfolded along the rows): at offset `|headerBytes md cols|` of the text the
first row line begins; every row line `rowBytes r …` is followed by its newline and then by the next line; after
the last row comes the blank line `[10]` that ends the text; and ONE `lexRead` by a clean scanner positioned at the
start of a row line leaves the scanner positioned `rowFirstLen r names` bytes further: that prefix of the line is
its first token, as the model's lexer itself delimits it.  `tokEnds` adds exactly these lengths:
`e_i = start of line (i+1) + rowFirstLen r_{i+1} names`, and `e_last = start of the blank line + 1`. -/
theorem C11_token_ends (md : OTags) (cols : Cols) (rows : Rows) (ver : List Char)
    (hwf : wfV (.grid md cols rows ver) = true) (hdep : depthOk (.grid md cols rows ver) = true) :
    Layout (encode (.grid md cols rows ver)) cols.names (cols.length == 1) (headerBytes md cols).length rows :=
  -- where the lines lie in the text does not depend on the nesting depth
  have _ := hdep
  layout_of_wf md cols rows ver hwf

/-! ### `parse_grid` = the collected iterator, on the writer's output -/

/-- **the rows handed out one by one are the rows of the parsed grid, in order.**  From the SAME iterator state
`r0`: calling `rowNext` until the end (`pulls`) hands out the list `l`; collecting the iterator (`rowsLoop`, which
is what `parse_grid` does — `grid_is_collect`) yields the same rows; `parseGrid` builds the grid from them; and
that grid is what `fromBytes` returns for the text (`C01_wf`). -/
theorem C11_iterator_rows_eq_grid_rows (md : OTags) (cols : Cols) (rows : Rows) (ver : List Char)
    (hwf : wfV (.grid md cols rows ver) = true) (hdep : depthOk (.grid md cols rows ver) = true) :
    ∃ p0 r0 r' l,
      lexRead (fuelFor (encode (.grid md cols rows ver)).length) (Scan.make (encode (.grid md cols rows ver))) = .ok p0 ∧
      gridHeader (fuelFor (encode (.grid md cols rows ver)).length) 0 p0
        = .ok ((lexOTags md, (lexCols cols).toList, ver), r0) ∧
      pulls (fuelFor (encode (.grid md cols rows ver)).length) 0 cols.names (encode (.grid md cols rows ver)).length
          ((encode (.grid md cols rows ver)).length + 3) r0 = .ok l ∧
      rowsLoop (fuelFor (encode (.grid md cols rows ver)).length) 0 r0 cols.names [] = .ok (l.map Prod.fst, r') ∧
      parseGrid (fuelFor (encode (.grid md cols rows ver)).length + 1) 0 p0
        = .ok (.grid (lexOTags md) (lexCols cols) (Rows.ofList (l.map Prod.fst)) ver, r'.p) ∧
      fromBytes (encode (.grid md cols rows ver))
        = .ok (.grid (lexOTags md) (lexCols cols) (Rows.ofList (l.map Prod.fst)) ver) := by
  have hn : nestV (.grid md cols rows ver) < 64 := depthOk_iff.mp hdep
  obtain ⟨p0, r0, r', e0, eh, hp, el⟩ := lazy_of_wf md cols rows ver hwf 0
    (fuelFor (encode (.grid md cols rows ver)).length) (by omega) (by unfold fuelFor; omega)
  have hp := hp _ (rows_length_lt md cols rows ver hwf)
  rw [← lexRows_eq] at hp
  have hfst : (List.zip (lexRows rows).toList
      ((tokEnds cols.names (cols.length == 1) (headerBytes md cols).length rows).map
        (fun e => min (e + 1) (encode (.grid md cols rows ver)).length))).map Prod.fst = (lexRows rows).toList := by
    apply List.map_fst_zip
    rw [List.length_map, tokEnds_length, lexRows_eq]; exact Nat.le_refl _
  have hnames : (lexImgC cols).toList.map (·.1) = cols.names := lexImgC_names cols
  refine ⟨p0, r0, r', _, e0, by rw [lexOTags_eq, lexCols_eq]; exact eh, hp, ?_, ?_, ?_⟩
  · rw [hfst, lexRows_eq]; exact el
  · rw [hfst, grid_is_collect, eh]
    simp only [hnames, el, Cols.ofList_toList, Rows.ofList_toList, lexOTags_eq, lexCols_eq, lexRows_eq]
  · rw [hfst, Rows.ofList_toList]
    have := C01_wf (.grid md cols rows ver) ⟨hwf, hdep⟩
    simpa [lexImage] using this

/-! ### rows of a still-arriving grid -/

/-- offset at which the first token of the line of `rn` ends, when the rows `rowsP` precede it -/
def firstTokEnd (md : OTags) (cols : Cols) (rowsP : Rows) (rn : Tags) : Nat :=
  (headerBytes md cols).length + (encRows rowsP cols.names (cols.length == 1)).length + rowFirstLen rn cols.names

/-- **rows are available as soon as they have been received.**  `g` a well-formed top-level grid whose rows are
`rowsP`, then `rn`, then `more`; `e = firstTokEnd …` the end of the first token of the line of `rn`.  Take the first
`e + 1` bytes of the writer's text (`+ 1`: the byte that ends the token) and let ANY bytes follow — nothing (the
stream has not delivered more yet), the rest of the grid, garbage.  The header is parsed and the first
`rowsP.length` calls of `rowNext` hand out exactly the rows `rowsP` (their images), in order, the `j`-th having
pulled exactly `e_j + 1` bytes (`e_j` = end of the first token of the line after row `j`; `pullsN` = the first calls
of the iterator with the count `total - inp.length`, as `pulls`).  The right-hand side does not depend on `junk`:
in particular it is what happens on the complete text (`junk := the rest of it`), so each row is handed out after
exactly the bytes up to the first token after it, whether or not the rest of the grid has arrived and whatever it
will turn out to be. -/
theorem C11_rows_available_on_prefix (md : OTags) (cols : Cols) (rowsP : Rows) (rn : Tags) (more : Rows)
    (ver : List Char) (hwf : wfV (.grid md cols (Rows.app rowsP (.cons rn more)) ver) = true)
    (hdep : depthOk (.grid md cols (Rows.app rowsP (.cons rn more)) ver) = true) (junk : List UInt8) :
    firstTokEnd md cols rowsP rn + 1 ≤ (encode (.grid md cols (Rows.app rowsP (.cons rn more)) ver)).length ∧
    ∃ p0 r0,
      lexRead (fuelFor (firstTokEnd md cols rowsP rn + 1 + junk.length))
        (Scan.make ((encode (.grid md cols (Rows.app rowsP (.cons rn more)) ver)).take
          (firstTokEnd md cols rowsP rn + 1) ++ junk)) = .ok p0 ∧
      gridHeader (fuelFor (firstTokEnd md cols rowsP rn + 1 + junk.length)) 0 p0
        = .ok ((lexOTags md, (lexCols cols).toList, ver), r0) ∧
      pullsN (fuelFor (firstTokEnd md cols rowsP rn + 1 + junk.length)) 0 cols.names
          (firstTokEnd md cols rowsP rn + 1 + junk.length) rowsP.length r0 =
        .ok (List.zip (lexRows rowsP).toList
          ((tokEndsP cols.names (cols.length == 1) rn (headerBytes md cols).length rowsP).map (· + 1))) := by
  have hn : nestV (.grid md cols (Rows.app rowsP (.cons rn more)) ver) < 64 := depthOk_iff.mp hdep
  obtain ⟨hle, h⟩ := avail_of_wf md cols rowsP rn more ver hwf 0 (by omega)
  refine ⟨hle, ?_⟩
  obtain ⟨p0, r0, e0, eh, hp⟩ := h junk (fuelFor (firstTokEnd md cols rowsP rn + 1 + junk.length))
    (by unfold fuelFor firstTokEnd; omega)
  rw [lexOTags_eq, lexCols_eq, lexRows_eq]
  exact ⟨p0, r0, e0, eh, hp⟩

/-- the cut text has the length the fuel and the count above are computed from -/
theorem C11_cut_length (t junk : List UInt8) (k : Nat) (h : k ≤ t.length) : (t.take k ++ junk).length = k + junk.length := by
  simp [List.length_take, Nat.min_eq_left h]

/-! ### the look-ahead of one `next()` call on ARBITRARY input

No hypothesis on the text: this is the structural half of the property ("`RowIterator::next` parses exactly one row
and reads one token ahead to detect the end of the grid"), for every state the iterator can be in. -/

/-- **any input, any iterator state**: when `rowNext` hands out a row, (1) the row's cells were read up to the row's
newline token (`p2`), (2) the row is the dict of those cells, and (3) all that is read after that newline is: the
white space that follows (`consume_white_spaces`: blank lines are skipped too), and then — unless the input ends
there — exactly ONE token; a second token is read only when the first one is `>` inside a nested grid (`>>`).
The byte bound of `C11_lookahead` is this statement with the positions made explicit, which needs the text to be
known (there: the writer's output, where no white space follows a row's newline). -/
theorem C11_next_reads_one_token (f d : Nat) (r : RowState) (cols : List (List Char)) (row : Tags) (r3 : RowState)
    (h : rowNext (f + 2) d r cols = .ok (some row, r3)) :
    ∃ (r1 : RowState) (kvs : List (List Char × Val)) (p2 : PS) (sc' : Scan),
      consumeEnd (f + 1) r = .ok r1 ∧ rowLoop (f + 1) d r1.p cols 0 [] = .ok (kvs, p2) ∧ p2.isChar 10 = true ∧
      row = dictOf kvs ∧ Scan.consumeWhiteSpaces (f + 1) p2.sc = .ok sc' ∧
      ((sc'.eof = true ∧ r3.p = { p2 with sc := sc' }) ∨
       (sc'.eof = false ∧ ∃ p1, lexRead f sc' = .ok p1 ∧
          (r3.p = p1 ∨
           (r1.nestedStart = true ∧ PS.isChar p1 62 = true ∧ lexRead f p1.sc = .ok r3.p ∧ r3.nestedEnd = true)))) := by
  obtain ⟨r1, kvs, p2, e1, e2, h10, hrow, e3⟩ := rowNext_shape (f + 1) d r cols row r3 h
  obtain ⟨sc', ew, hcase⟩ := consumeEnd_reads f { r1 with p := p2 } r3 h10 e3
  exact ⟨r1, kvs, p2, sc', e1, e2, h10, hrow, ew, hcase⟩

/-! ## Re-encode stability (model side)

In the model a decoded number / coordinate / timestamp IS the text of its token (`lexImage`; what `f64::from_str`
and chrono make of that text, and what they print for the result, is the trusted base the harness validates on
every run with the exact-component oracle `decode (encode (decode t)) = decode t` on accepted texts).  The model's
writer prints numbers and coordinates from their text; for a timestamp it prints `txt`, a space and `zone` unless
`tzid` is "UTC", whereas the reader's timestamp carries the whole token in `txt` and empty `tzid` / `zone`.
`asRead` (`ZincReenc`) marks every timestamp of a decoded value "print the text as read" (`tzid := "UTC"`) and
changes nothing else; on values without timestamps (`noDT`) it is the identity. -/

/-- the writer prints the reader's image of ANY value exactly like the value itself -/
theorem C11_encode_lexImage (v : Val) : encode (asRead (lexImage v)) = encode v := by
  rw [lexImage_eq]; exact enc_image v false

/-- … literally `encode (lexImage v) = encode v` when no timestamp occurs in `v` -/
theorem C11_encode_lexImage_noDT (v : Val) (h : noDT v = true) : encode (lexImage v) = encode v := by
  have := C11_encode_lexImage v
  rwa [lexImage_eq, asRead_noDT v h, ← lexImage_eq] at this

/-- the timestamp caveat is a property of the MODEL's lexical timestamps, not of the code: without `asRead` the
model's writer appends the (empty) zone name after a space -/
theorem C11_lexical_timestamp_needs_asRead :
    encode (lexImage (.dateTime ⟨0, 0, 0, "UTC".toList, "UTC".toList, "2024-02-29T12:34:56Z".toList⟩))
      = encode (.dateTime ⟨0, 0, 0, "UTC".toList, "UTC".toList, "2024-02-29T12:34:56Z".toList⟩) ++ [32] := by
  decide +kernel

/-- **one normalisation pass is a fixed point, on the writer's image**: for every well-formed `v`, the value the
reader returns for the writer's text (`lexImage v`, by `C01_wf`) re-encodes to a text that decodes to itself -/
theorem C11_stable_on_writer_image (v : Val) (h : wfV v = true ∧ depthOk v = true) :
    fromBytes (encode v) = .ok (lexImage v) ∧
    fromBytes (encode (asRead (lexImage v))) = .ok (lexImage v) := by
  refine ⟨C01_wf v h, ?_⟩
  rw [C11_encode_lexImage]; exact C01_wf v h

/-- **whatever spelling arrived, one normalisation pass reaches a fixed point** - for EVERY sentence of the Zinc
grammar (`Hs.Spell.SpellsTop`, the relation of C04: any blanks, LF/CRLF/CR, any escapes, trailing commas, tag
separators, `:M`, grid layout) that denotes a well-formed value: the text is accepted, and encoding the decoded
value and decoding again yields the decoded value.  (`wfV` fixes the numerals to the writer's spelling: what a
non-canonical numeral such as `1_000.5e+3` re-encodes to is a question about `f64`'s printer, decided on the
implementation; every other freedom of the grammar is covered.) -/
theorem C11_stable_on_sentences (v : Val) (bs : List UInt8) (hwf : wfV v = true) (hd : depthOk v = true)
    (hs : Hs.Spell.SpellsTop v bs) :
    ∃ w, fromBytes bs = .ok w ∧ fromBytes (encode (asRead w)) = .ok w :=
  ⟨lexImage v, Hs.C04.C04_read_wfV v bs hwf hd hs, (C11_stable_on_writer_image v ⟨hwf, hd⟩).2⟩

/-- non-vacuity: a grid document written with lone CRs, a tab and a blank before line endings, blank lines at
the end (`Hs.C04.exOuterB`, not the writer's spelling) is such a sentence of a well-formed value -/
example : ∃ w, fromBytes Hs.C04.exOuterB = .ok w ∧ fromBytes (encode (asRead w)) = .ok w :=
  C11_stable_on_sentences Hs.C04.exOuterG Hs.C04.exOuterB (by decide +kernel) (by decide +kernel) Hs.C04.exOuter_sp

theorem C11_stable_on_writer_image_noDT (v : Val) (h : wfV v = true ∧ depthOk v = true) (hdt : noDT v = true) :
    fromBytes (encode (lexImage v)) = .ok (lexImage v) := by
  rw [C11_encode_lexImage_noDT v hdt]; exact C01_wf v h

/-- Re-encode stability for the decoder's values that satisfy `P`: for any text the decoder accepts, encoding the
decoded value and decoding again yields the same value -/
def C11_stable_on (P : Val → Prop) : Prop :=
  ∀ (t : List UInt8) (v : Val), fromBytes t = .ok v → P v → fromBytes (encode (asRead v)) = .ok v

/-- **the property at full strength (model side)**: all accepted texts.  FALSE on the pinned tree: known finding
Z4, `C11_stable_fails_Z4`.  (Known finding INFUNIT — `1e999kW` overflows to an infinity that keeps its unit, the
writer prints `INF` without one — is NOT visible in this statement: a decoded number is lexical in the model, its
value under `f64::from_str` belongs to the trusted base; that finding is decided on the implementation only.) -/
def C11_stable : Prop := C11_stable_on (fun _ => True)

/-- PARTIAL: stability for every decoded value that is well-formed (`wfV`, `depthOk`) and lexical (a fixed point of
the reader's image).  These three facts are the reader's IMAGE INVARIANT; `C11_stable_full_partial` below derives
them for ALL accepted texts from the analysis of the lexer and parser on arbitrary input (`C11_decoder_image`: ids
come from the id alphabets, `dictOf` yields ascending keys, the header parser yields identifier column names and
non-empty metas, rows carry only column names, the depth counter bounds the nesting), leaving as hypotheses only
(a) the exclusion list on which the statement is false (Z4, `ver`), (b) the lexical leaves (number / time /
timestamp lexemes must be ones C01 covers; dates and coordinates always are) and (c) one shape C01's round trip does not cover
(nesting exactly 64).  On the implementation the statement is decided for accepted texts
(spelled, corpus, accepted mutants) by the exact-component oracle on every run. -/
theorem C11_stable_partial :
    C11_stable_on (fun v => wfV (asRead v) = true ∧ depthOk (asRead v) = true ∧ lexImage (asRead v) = v) := by
  intro t v _ ⟨hwf, hd, hlex⟩
  have := C01_wf (asRead v) ⟨hwf, hd⟩
  rwa [hlex] at this

/-- the three hypotheses of `C11_stable_partial` as one executable test on a decoded value: a certificate that can
be evaluated (in the kernel, or by the driver) for every accepted text of a run -/
def stableCert (v : Val) : Bool :=
  wfV (asRead v) && depthOk (asRead v) && beqV (lexImage (asRead v)) v

theorem stableCert_sound {v : Val} (h : stableCert v = true) :
    wfV (asRead v) = true ∧ depthOk (asRead v) = true ∧ lexImage (asRead v) = v := by
  simp only [stableCert, Bool.and_eq_true] at h
  exact ⟨h.1.1, h.1.2, beqV_sound _ _ h.2⟩

/-- PARTIAL (same gap as `C11_stable_partial`): a decoded value that passes the executable certificate is stable -/
theorem C11_stable_cert_partial : C11_stable_on (fun v => stableCert v = true) := by
  intro t v ht hc
  exact C11_stable_partial t v ht (stableCert_sound hc)

/-- values built from the kinds on which the reader and the writer impose no condition: Null, Remove, Marker, NA,
Bool, Str (any text), Uri (any text), and lists of such -/
def plainV : Val → Bool
  | .null => true | .remove => true | .marker => true | .na => true | .bool _ => true
  | .str _ => true | .uri _ => true
  | .list xs => plainVs xs
  | _ => false
where plainVs : Vals → Bool
  | .nil => true
  | .cons v vs => plainV v && plainVs vs

mutual
theorem plain_facts : ∀ v : Val, plainV v = true → wfV v = true ∧ asRead v = v ∧ lexImg v = v
  | .null, _ => ⟨rfl, rfl, rfl⟩
  | .remove, _ => ⟨rfl, rfl, rfl⟩
  | .marker, _ => ⟨rfl, rfl, rfl⟩
  | .na, _ => ⟨rfl, rfl, rfl⟩
  | .bool _, _ => ⟨rfl, rfl, rfl⟩
  | .str _, _ => ⟨rfl, rfl, rfl⟩
  | .uri _, _ => ⟨rfl, rfl, rfl⟩
  | .list xs, h => by
    simp only [plainV] at h
    obtain ⟨h1, h2, h3⟩ := plains_facts xs h
    exact ⟨by simpa [wfV] using h1, by simp [asRead, h2], by simp [lexImg, h3]⟩
  | .num _, h | .ref _ _, h | .sym _, h | .date _, h | .time _, h | .dateTime _, h | .coord _ _, h
  | .xstr _ _, h | .dict _, h | .grid _ _ _ _, h => by simp [plainV] at h
theorem plains_facts : ∀ xs : Vals, plainV.plainVs xs = true → wfVs xs = true ∧ asReads xs = xs ∧ lexImgs xs = xs
  | .nil, _ => ⟨rfl, rfl, rfl⟩
  | .cons v vs, h => by
    simp only [plainV.plainVs, Bool.and_eq_true] at h
    obtain ⟨a1, a2, a3⟩ := plain_facts v h.1
    obtain ⟨b1, b2, b3⟩ := plains_facts vs h.2
    exact ⟨by simp [wfVs, a1, b1], by simp [asReads, a2, b2], by simp [lexImgs, a3, b3]⟩
end

/-- PARTIAL: re-encode stability for ALL accepted texts whose value is plain (no hypothesis on the text or on the
payloads: any Str, any Uri, nested lists up to the reader's depth limit).  A special case of `C11_stable_struct`,
which adds Ref, Symbol, XStr, Dict and Grid. -/
theorem C11_stable_plain_partial : C11_stable_on (fun v => plainV v = true ∧ depthOk v = true) := by
  intro t v _ ⟨hp, hd⟩
  obtain ⟨hwf, ha, hl⟩ := plain_facts v hp
  rw [ha]
  have := C01_wf v ⟨hwf, hd⟩
  rwa [lexImage_eq, hl] at this

/-! ### known finding Z4: the unrestricted statement is false on the pinned tree -/

/-- `ver:"3.0"`, one column `a`, one row line `,` (no cell), blank line -/
def z4Text : List UInt8 := bytesOfAscii "ver:\"3.0\"\na\n,\n\n"
/-- what the reader returns for it: a row without its cell -/
def z4Val : Val := .grid .none (.cons ['a'] .none .nil) (.cons .nil .nil) ['3', '.', '0']
/-- what comes back after one re-encode: the missing cell of a single-column grid is written `N` -/
def z4Val' : Val := .grid .none (.cons ['a'] .none .nil) (.cons (.cons ['a'] .null .nil) .nil) ['3', '.', '0']

theorem z4_accepted : fromBytes z4Text = .ok z4Val := isOkEq_sound (by decide +kernel)
theorem z4_reencoded : encode (asRead z4Val) = bytesOfAscii "ver:\"3.0\"\na\nN\n\n" := by decide +kernel
theorem z4_redecoded : fromBytes (encode (asRead z4Val)) = .ok z4Val' := isOkEq_sound (by decide +kernel)

/-- a witness against stability on `P`: an accepted text whose value satisfies `P` and comes back different -/
theorem not_stable_on {P : Val → Prop} (t : List UInt8) (v w : Val) (ht : fromBytes t = .ok v) (hp : P v)
    (hre : fromBytes (encode (asRead v)) = .ok w) (hne : w ≠ v) : ¬ C11_stable_on P := by
  intro h
  have h1 := h t v ht hp
  rw [hre] at h1
  exact hne (Res.ok.inj h1)

/-- **Z4 is a counterexample to the unrestricted statement** (kernel-checked witness) -/
theorem C11_stable_fails_Z4 : ¬ C11_stable :=
  not_stable_on z4Text z4Val z4Val' z4_accepted trivial z4_redecoded (by simp [z4Val, z4Val'])


/-! ### the reader's image invariant and what follows from it, for ALL accepted texts

Lemma files `Hs/Lemmas/ZincImage{Ids,Leaf,Lex,Base,Dup,Wf,Parse,Top}.lean`, `Hs/Lemmas/ZincTotalLex{,Strict}.lean`
and `Hs/Lemmas/ZincParseSpec.lean`.
No hypothesis on the text anywhere: the lexer lemmas speak about what `parse_literal`, `parse_id`, the Ref / Symbol
readers and `Lexer::read` RETURN on any scanner state; for the parser, each of the thirteen functions of the mutual
block of `Hs.Model.ZincParse` has ONE specification (`ParserSpec.…`, `ZincParseSpec`) that says what the call leaves
of the input (C03 uses that half) and what it returns, and `parserSpecs` proves them together by induction on the
fuel. -/

/-- **the image invariant of the Zinc reader.**  Whatever the bytes, when `decode::from_str` accepts them the value
has the reader's shape `decV`: Ref ids non-empty over the id alphabet, Symbol bodies a lower-case letter followed
by id characters, XStr types capitalised names other than `C`; dict, meta and row keys strictly ascending (`dictOf` =
`BTreeMap`, also when a key is repeated in the text); dict / meta keys and column names identifiers; every grid has
at least one column, grid and column meta absent or NON-empty, row keys among the column names; numbers,
coordinates and timestamps in the reader's lexical normal form, dates and coordinate components lexemes that re-lex
to themselves (`dateOk`, `decTextOk`); and the value is nested at most 64 deep (`nestV`
counts a tag as a level even when its value is the implicit Marker, read without a recursive call: 64 is reached
only by such a tag at the reader's depth limit, see `deep64_*`). -/
theorem C11_decoder_image (t : List UInt8) (v : Val) (h : fromBytes t = .ok v) : decV v = true ∧ nestV v ≤ 64 :=
  fromBytes_image t v h

/-- PARTIAL: **re-encode stability for ALL accepted texts, every kind**, under
* `lexLeavesOk v` — each Number / Time / DateTime leaf of the decoded value is a lexeme the round trip of C01 covers
  (`numOk`, `timeOk`, `dtOk`: a decidable test on the value, evaluated by the certificate of every run).  This is
  where the model stops: a decoded number is the text handed to `f64::from_str` and what `Display` prints for the
  result belongs to std; the lexemes NOT covered are the legal but non-canonical ones (`5e+3`, which the model's
  writer would print back verbatim while the real one prints `5000`).  Date and Coord leaves need NO hypothesis: every
  date and every coordinate the reader returns is a covered lexeme (`parseDate_img`, `parseDecimal_img`; part of
  `decV`);
* `excluded v = false` — the exclusion list: the statement is FALSE on these (`C11_excluded_ver_needed`,
  `C11_excluded_Z4_needed`);
* `depthOk v = true` (`nestV v < 64`) — NOT a counterexample (`deep64_stable` below): the reader guarantees
  `nestV v ≤ 64` (`C11_decoder_image`), and 64 is reached only by a tag with the implicit Marker at the reader's depth
  limit, which lies outside the depth hypothesis of C01's round trip, through which this proof goes.
Everything else is PROVED from `fromBytes t = .ok v` alone (`C11_decoder_image`, `image_good`, and C01's ladder, which
does not ask for distinct column names and so covers grids that name a column twice — the reader keeps both columns:
`GoodVG` in `ZincRtTop`, `ZincImageDup`, `dup_stable`). -/
theorem C11_stable_full_partial :
    C11_stable_on (fun v => lexLeavesOk v = true ∧ excluded v = false ∧ depthOk v = true) := by
  intro t v ht ⟨hl, hx, hn⟩
  exact fromBytes_stable t v ht hl hx hn

/-- **re-encode stability for ALL accepted texts whose value has no lexical leaf** (`structV`: built from Null,
Remove, Marker, NA, Bool, Str, Uri, Ref with or without display name, Symbol, XStr, List, Dict, Grid with meta /
column meta / Null and missing cells / nested grids / repeated column names): encoding the decoded value and
decoding again yields the decoded value, unless the value is on the exclusion list (`excluded`: a grid `ver` other
than "3.0", Z4) or is nested exactly 64 deep (see `C11_stable_full_partial` for the status of the latter). -/
theorem C11_stable_struct :
    C11_stable_on (fun v => structV v = true ∧ excluded v = false ∧ depthOk v = true) := by
  intro t v ht ⟨hs, hx, hn⟩
  exact C11_stable_full_partial t v ht ⟨lexLeaves_of_struct v hs, hx, hn⟩

/-! #### the exclusion list is sharp: one kernel-checked witness text per member -/

/-- `ver` ≠ "3.0": the FORMAT VERSION of the document, not a component of the value in the property's sense (the
property's list of components — kind, payloads, elements, tags, grid meta tags, columns, rows — does not name it, the
round-trip oracle `same.rs` deliberately does not compare it, C01 / C02 carry `ver = "3.0"` as a stated hypothesis).
The reader keeps whatever string follows `ver:` (`Grid::ver`), the writer always writes 3.0.  The model's `Val`
does carry `ver`, so the LITERAL statement `fromBytes (encode (asRead v)) = .ok v` needs the exclusion: this is the
kernel-checked witness (`ver:"2.0"`, one column, no row). -/
def verText : List UInt8 := bytesOfAscii "ver:\"2.0\"\na\n\n"
def verVal : Val := .grid .none (.cons ['a'] .none .nil) .nil ['2', '.', '0']
def verVal' : Val := .grid .none (.cons ['a'] .none .nil) .nil ['3', '.', '0']

theorem ver_accepted : fromBytes verText = .ok verVal := isOkEq_sound (by decide +kernel)
theorem ver_reencoded : encode (asRead verVal) = bytesOfAscii "ver:\"3.0\"\na\n\n" := by decide +kernel
theorem ver_redecoded : fromBytes (encode (asRead verVal)) = .ok verVal' := isOkEq_sound (by decide +kernel)

/-- **`ver` must be on the list**: without it the literal statement is false (all other hypotheses hold of the
witness); not a defect of the code, see `verText` -/
theorem C11_excluded_ver_needed :
    ¬ C11_stable_on (fun v => structV v = true ∧ hasZ4 v = false ∧ depthOk v = true) :=
  not_stable_on verText verVal verVal' ver_accepted (by decide +kernel) ver_redecoded (by simp [verVal, verVal'])

/-- the literal unrestricted statement also fails on the format version alone (see `verText`: not a finding) -/
theorem C11_stable_fails_ver : ¬ C11_stable :=
  not_stable_on verText verVal verVal' ver_accepted trivial ver_redecoded (by simp [verVal, verVal'])

/-- **Z4 must be on the list** (witness `z4Text` above) -/
theorem C11_excluded_Z4_needed :
    ¬ C11_stable_on (fun v => structV v = true ∧ hasVer v = false ∧ depthOk v = true) :=
  not_stable_on z4Text z4Val z4Val' z4_accepted (by decide +kernel) z4_redecoded (by simp [z4Val, z4Val'])

example : excluded verVal = true ∧ hasZ4 verVal = false := by decide +kernel
example : excluded z4Val = true ∧ hasVer z4Val = false := by decide +kernel

/-! #### repeated column names are covered; the one shape outside C01's hypotheses is NOT a counterexample -/

/-- two columns `a`: the reader keeps both, a row gets ONE cell `a` (the last one read); re-encoded, that cell is
written under both columns and read back as the same row -/
def dupText : List UInt8 := bytesOfAscii "ver:\"3.0\"\na,a,b\n\"x\",,\"z\"\n,\"y\",\n\n"
def dupVal : Val :=
  .grid .none (.cons ['a'] .none (.cons ['a'] .none (.cons ['b'] .none .nil)))
    (.cons (.cons ['a'] (.str ['x']) (.cons ['b'] (.str ['z']) .nil)) (.cons (.cons ['a'] (.str ['y']) .nil) .nil))
    ['3', '.', '0']
theorem dup_accepted : fromBytes dupText = .ok dupVal := isOkEq_sound (by decide +kernel)
theorem dup_is_dup : dupCols dupVal = true ∧ structV dupVal = true ∧ excluded dupVal = false ∧ depthOk dupVal = true := by
  decide +kernel
/-- by the theorem (no evaluation of the second decode) … -/
theorem dup_stable : fromBytes (encode (asRead dupVal)) = .ok dupVal :=
  C11_stable_struct dupText dupVal dup_accepted ⟨dup_is_dup.2.1, dup_is_dup.2.2.1, dup_is_dup.2.2.2⟩
/-- … and by running the model -/
example : fromBytes (encode (asRead dupVal)) = .ok dupVal := isOkEq_sound (by decide +kernel)

/-- 63 lists around a dict with one Marker tag: accepted (the tag's implicit Marker needs no recursive call),
`nestV = 64`, and stable -/
def deep64 : Nat → Val
  | 0 => .dict (.cons ['a'] .marker .nil)
  | n + 1 => .list (.cons (deep64 n) .nil)
theorem deep64_nest : nestV (deep64 63) = 64 ∧ depthOk (deep64 63) = false := by decide +kernel
theorem deep64_accepted :
    fromBytes (List.replicate 63 91 ++ bytesOfAscii "{a}" ++ List.replicate 63 93) = .ok (deep64 63) :=
  isOkEq_sound (by decide +kernel)
theorem deep64_stable : fromBytes (encode (asRead (deep64 63))) = .ok (deep64 63) := isOkEq_sound (by decide +kernel)

/-! ## The hypotheses are satisfiable: concrete non-trivial inputs -/

section examples

def exMd : OTags := .some (.cons "dis".toList (.str "Site é".toList) (.cons "hisRef".toList (.ref "h".toList none)
  (.cons "m".toList .marker .nil)))
def exCols : Cols :=
  .cons "a".toList (.some (.cons "dis".toList (.str "A".toList) (.cons "unitRef".toList (.ref "u".toList none) .nil)))
    (.cons "b".toList .none (.cons "c".toList (.some (.cons "x".toList .marker .nil)) .nil))
/-- first cells: a nested grid (first token `<`), a Ref with display name (first token `@r "Room 1"`, a space
inside), a missing cell (first token `,`), a timestamp with zone name, an empty row -/
def exRows : Rows :=
  .cons (.cons "a".toList exInner (.cons "c".toList
      (.list (.cons (.dict (.cons "k".toList (.uri "http://x/`".toList) .nil)) (.cons (.coord ⟨0, "-1.5".toList⟩ ⟨0, "3".toList⟩)
        (.cons (.xstr "Bin".toList "a\"b".toList) .nil)))) .nil))
  (.cons (.cons "a".toList (.ref "r".toList (some "Room 1".toList)) (.cons "b".toList exNum .nil))
  (.cons (.cons "b".toList .na .nil)
  (.cons (.cons "a".toList (.dateTime ⟨0, 0, -18000, "New_York".toList, "America/New_York".toList,
      "2024-02-29T12:34:56.789-05:00".toList⟩) (.cons "c".toList (.str "x,\ny".toList) .nil))
  (.cons .nil .nil))))
def exVer : List Char := "3.0".toList
def exG : Val := .grid exMd exCols exRows exVer

theorem exG_length : (encode exG).length = 293 := by decide +kernel
/-- the text: 293 bytes, header 63 bytes -/
example : (encode exG).length = 293 ∧ (headerBytes exMd exCols).length = 63 := by
  exact ⟨exG_length, by decide +kernel⟩

theorem exG_wf : wfV exG = true ∧ depthOk exG = true := by
  simp only [exG, exRows, wfV, wfR, wfT, exInner_wf, exNum_wf, dtOk_newYork]; decide +kernel
example : 1 + nestV exG ≤ 64 := by decide +kernel

/-- `C11_lookahead` on the example … -/
example := C11_lookahead exMd exCols exRows exVer exG_wf.1 exG_wf.2
example := C11_lookahead_general exMd exCols exRows exVer exG_wf.1 1 5000 (by decide +kernel)
  (by have h := exG_length; rw [exG] at h; omega)
example := C11_lookahead_bound exMd exCols exRows exVer exG_wf.1 exG_wf.2
example := C11_token_ends exMd exCols exRows exVer exG_wf.1 exG_wf.2
example := C11_iterator_rows_eq_grid_rows exMd exCols exRows exVer exG_wf.1 exG_wf.2

theorem exG_tokEnds : tokEnds exCols.names (exCols.length == 1) (headerBytes exMd exCols).length exRows
    = [226, 237, 279, 290, 293] := by decide +kernel
/-- … the ends of the first tokens of the lines after rows 0‥4, … -/
example : tokEnds exCols.names (exCols.length == 1) (headerBytes exMd exCols).length exRows
    = [226, 237, 279, 290, 293] := exG_tokEnds
/-- … and the byte counts the theorem gives (the last one is capped by the length of the text) -/
example : (tokEnds exCols.names (exCols.length == 1) (headerBytes exMd exCols).length exRows).map
    (fun e => min (e + 1) (encode exG).length) = [227, 238, 280, 291, 293] := by
  rw [exG_length, exG_tokEnds]; decide

/-- The model's iterator run on the whole text and on the text cut after 238 bytes and continued by an unterminated
string (`exJunk` below).  Both runs meet the timestamp of the nested grid and look `New_York` up in the zone table;
evaluated together, the kernel turns the table's names into bytes once for the two. -/
theorem exG_pulled :
    (match lexRead (fuelFor (encode exG).length) (Scan.make (encode exG)) with
     | .ok p0 =>
       match gridHeader (fuelFor (encode exG).length) 0 p0 with
       | .ok (_, r0) =>
         match pulls (fuelFor (encode exG).length) 0 exCols.names (encode exG).length ((encode exG).length + 3) r0 with
         | .ok l => l.map Prod.snd
         | _ => []
       | _ => []
     | _ => []) = [227, 238, 280, 291, 293] ∧
    ∀ junk, junk = "\"never closed".toUTF8.toList →
    (match lexRead (fuelFor (238 + junk.length)) (Scan.make ((encode exG).take 238 ++ junk)) with
     | .ok p0 =>
       match gridHeader (fuelFor (238 + junk.length)) 0 p0 with
       | .ok (_, r0) =>
         match pullsN (fuelFor (238 + junk.length)) 0 exCols.names (238 + junk.length) 2 r0 with
         | .ok l => l.map Prod.snd
         | _ => []
       | _ => []
     | _ => []) = [227, 238] := by
  simp only [forall_eq]
  decide +kernel

/-- the same numbers by running the model's iterator on the text in the kernel (no theorem involved) -/
example :
    (match lexRead (fuelFor (encode exG).length) (Scan.make (encode exG)) with
     | .ok p0 =>
       match gridHeader (fuelFor (encode exG).length) 0 p0 with
       | .ok (_, r0) =>
         match pulls (fuelFor (encode exG).length) 0 exCols.names (encode exG).length ((encode exG).length + 3) r0 with
         | .ok l => l.map Prod.snd
         | _ => []
       | _ => []
     | _ => []) = [227, 238, 280, 291, 293] := exG_pulled.1

/-- `C11_rows_available_on_prefix`: the example grid split after its second row; the text is cut one byte after
the first token (`,`) of the third line and continued by an unterminated string … -/
def exP : Rows := .cons (.cons "a".toList exInner (.cons "c".toList
      (.list (.cons (.dict (.cons "k".toList (.uri "http://x/`".toList) .nil)) (.cons (.coord ⟨0, "-1.5".toList⟩ ⟨0, "3".toList⟩)
        (.cons (.xstr "Bin".toList "a\"b".toList) .nil)))) .nil))
  (.cons (.cons "a".toList (.ref "r".toList (some "Room 1".toList)) (.cons "b".toList exNum .nil)) .nil)
def exN : Tags := .cons "b".toList .na .nil
def exMore : Rows :=
  .cons (.cons "a".toList (.dateTime ⟨0, 0, -18000, "New_York".toList, "America/New_York".toList,
      "2024-02-29T12:34:56.789-05:00".toList⟩) (.cons "c".toList (.str "x,\ny".toList) .nil))
  (.cons .nil .nil)
example : Rows.app exP (.cons exN exMore) = exRows := rfl
def exJunk : List UInt8 := "\"never closed".toUTF8.toList
example := C11_rows_available_on_prefix exMd exCols exP exN exMore exVer exG_wf.1 exG_wf.2 exJunk
example : firstTokEnd exMd exCols exP exN = 237 ∧
    (tokEndsP exCols.names (exCols.length == 1) exN (headerBytes exMd exCols).length exP).map (· + 1) = [227, 238] := by
  decide +kernel
/-- … the same by running the model on the cut text in the kernel: two rows after 227 and 238 bytes (the third
call then fails on the unterminated string: that row has not arrived) -/
example :
    (match lexRead (fuelFor (238 + exJunk.length)) (Scan.make ((encode exG).take 238 ++ exJunk)) with
     | .ok p0 =>
       match gridHeader (fuelFor (238 + exJunk.length)) 0 p0 with
       | .ok (_, r0) =>
         match pullsN (fuelFor (238 + exJunk.length)) 0 exCols.names (238 + exJunk.length) 2 r0 with
         | .ok l => l.map Prod.snd
         | _ => []
       | _ => []
     | _ => []) = [227, 238] := exG_pulled.2 exJunk (by rw [exJunk])

/-- re-encode stability on the writer's image of the example (it contains timestamps: `asRead`) … -/
example := C11_stable_on_writer_image exG exG_wf
/-- … and without `asRead` on a grid without timestamps -/
example : noDT exInner = false := by decide +kernel
example : noDT exZeroRows = true := by decide +kernel
example := C11_stable_on_writer_image_noDT exZeroRows (by decide +kernel) (by decide +kernel)
example := C11_encode_lexImage_noDT exZeroRows (by decide +kernel)

/-- one evaluation answers both "the text is accepted with value `v`" and "`v` is this value" -/
theorem run_intro {t : List UInt8} {v w : Val} (hv : fromBytes t = .ok w → v = w) (h : isOkEq (fromBytes t) w = true) :
    fromBytes t = .ok v ∧ v = w := by
  -- `v` is DEFINED as what the reader returns on `t` (`hv`, by unfolding `v`); the reader is run once, against `w`, on
  -- the text with its characters in the place of the literal (`StrLit.utf8_lit`): evaluating `v` would run it again
  have h := isOkEq_sound h
  rw [hv h]; exact ⟨h, rfl⟩

/-- `C11_stable_partial` on a text that is NOT writer output (spaces around separators, a trailing comma in a
list, `Z UTC`, a number with a trailing zero): the decoded value satisfies the three hypotheses -/
def exSpelled : List UInt8 :=
  "ver:\"3.0\"   dis:\"x\" m\nid , n,t\n@a \"A\" , 1.50kW ,  [1, 2 ,T,]\n  ,2024-02-29T12:34:56Z UTC,`u`\n\n".toUTF8.toList
def exSpelledVal : Val :=
  match fromBytes exSpelled with
  | .ok v => v
  | _ => .null
/-- the reader run ONCE on `exSpelled`: it accepts, and this is the value (the trailing zero and the whole timestamp
token are kept as text, the list's trailing comma is gone); the checks below are evaluated on the value written out -/
theorem exSpelled_run : fromBytes exSpelled = .ok exSpelledVal ∧ exSpelledVal =
    .grid (.some (.cons "dis".toList (.str "x".toList) (.cons "m".toList .marker .nil)))
      (.cons "id".toList .none (.cons "n".toList .none (.cons "t".toList .none .nil)))
      (.cons (.cons "id".toList (.ref "a".toList (some "A".toList))
          (.cons "n".toList (.num ⟨⟨lexBits, "1.50".toList⟩, some "kW".toList⟩)
          (.cons "t".toList (.list (.cons (.num ⟨⟨lexBits, "1".toList⟩, none⟩)
            (.cons (.num ⟨⟨lexBits, "2".toList⟩, none⟩) (.cons (.bool true) .nil)))) .nil)))
      (.cons (.cons "n".toList (.dateTime ⟨0, 0, 0, [], [], "2024-02-29T12:34:56Z UTC".toList⟩)
          (.cons "t".toList (.uri "u".toList) .nil)) .nil))
      "3.0".toList := by
  refine run_intro (fun h => by rw [exSpelledVal, h]) ?_
  rw [exSpelled, StrLit.utf8_lit]
  decide +kernel
example : (fromBytes exSpelled).isOk = true := by rw [exSpelled_run.1]; rfl
theorem exSpelled_ok : fromBytes exSpelled = .ok exSpelledVal := exSpelled_run.1
/-- the one leaf of `exSpelledVal` whose check looks a unit up in the table -/
theorem numOk_kW : numOk ⟨⟨lexBits, "1.50".toList⟩, some "kW".toList⟩ = true := by
  simp only [numOk, finiteNumOk, Hs.C04.unitOk_kW, Bool.and_true]; decide +kernel
theorem exSpelled_cert : stableCert exSpelledVal = true := by
  rw [exSpelled_run.2]
  simp only [stableCert, asRead, asReadO, asReadT, asReadC, asReadR, asReads, wfV, wfO, wfT, wfC, wfR, wfVs, numOk_kW]
  decide +kernel
example : wfV (asRead exSpelledVal) = true ∧ depthOk (asRead exSpelledVal) = true := by
  obtain ⟨hwf, hd, _⟩ := stableCert_sound exSpelled_cert
  exact ⟨hwf, hd⟩
example : lexImage (asRead exSpelledVal) = exSpelledVal := (stableCert_sound exSpelled_cert).2.2
example : fromBytes (encode (asRead exSpelledVal)) = .ok exSpelledVal :=
  C11_stable_partial exSpelled exSpelledVal exSpelled_ok (stableCert_sound exSpelled_cert)

example : fromBytes (encode (asRead exSpelledVal)) = .ok exSpelledVal :=
  C11_stable_cert_partial exSpelled exSpelledVal exSpelled_ok exSpelled_cert

theorem ok_of_bind_isOk {α β} {x : Res α} {f : α → Res β} (h : (x.bind f).isOk = true) :
    ∃ a, x = .ok a ∧ (f a).isOk = true := by
  cases x with
  | ok a => exact ⟨a, rfl, h⟩
  | _ => cases h

/-- `C11_next_reads_one_token` on a text that is not writer output: spaces around the comma, a blank line and a
line of spaces between the rows (skipped by `consume_end`), no blank line at the end -/
def exLoose : List UInt8 := "ver:\"3.0\"\na,b\n1 , 2\n\n  \n3,4\n".toUTF8.toList
theorem exLoose_next : ∃ r row r3, rowNext (398 + 2) 0 r [['a'], ['b']] = .ok (some row, r3) := by
  have hdec : ((lexRead 400 (Scan.make exLoose)).bind fun p0 => (gridHeader 400 0 p0).bind fun hr =>
      (rowNext (398 + 2) 0 hr.2 [['a'], ['b']]).bind fun x => if x.1.isSome then .ok () else .err).isOk = true := by
    decide +kernel
  obtain ⟨p0, _, h⟩ := ok_of_bind_isOk hdec
  obtain ⟨hr, _, h⟩ := ok_of_bind_isOk h
  obtain ⟨⟨o, r1⟩, h3, h⟩ := ok_of_bind_isOk h
  cases o with
  | some row => exact ⟨hr.2, row, r1, h3⟩
  | none => cases h
example : True := by
  obtain ⟨r, row, r3, h⟩ := exLoose_next
  have := C11_next_reads_one_token 398 0 r [['a'], ['b']] row r3 h
  trivial

/-- `C11_stable_plain_partial`: a list with a Str containing every kind of escape and a Uri with a backquote,
written with extra spaces and a trailing comma -/
def exPlainText : List UInt8 := "[ \"a\\t\\\"\\\\\\$\\u00e9\" , `http://x/\\`y`,[N,T, ],M ,]".toUTF8.toList
def exPlainVal : Val :=
  .list (.cons (.str "a\t\"\\$é".toList) (.cons (.uri "http://x/`y".toList)
    (.cons (.list (.cons .null (.cons (.bool true) .nil))) (.cons .marker .nil))))
theorem exPlain_ok : fromBytes exPlainText = .ok exPlainVal := by
  rw [exPlainText, StrLit.utf8_lit]; exact isOkEq_sound (by decide +kernel)
example : fromBytes (encode (asRead exPlainVal)) = .ok exPlainVal :=
  C11_stable_plain_partial exPlainText exPlainVal exPlain_ok ⟨by decide +kernel, by decide +kernel⟩

/-- `C11_stable_struct` on a text that is NOT writer output: two blanks between the header tags, a `\u00e9` and a
`\u0031` escape, blanks around commas, a Ref with display name, a list with a trailing comma, a dict with its tags
out of order and separated by blanks and commas, a nested grid with column meta, a Symbol and an XStr in it, a missing
and a Null cell, a row indented by a blank, an empty list, a missing last cell, no blank line at the end -/
def exStructText : List UInt8 :=
  "ver:\"3.0\"  dis:\"Caf\\u00e9\"  site\nid  dis:\"Id\" ,  tags foo bar:`u` , g\n@a-1 \"Room \\u0031\" , [ \"x\" , M ,{ b , a:T } , ] , <<\nver:\"3.0\"\nk  doc:\"K\" x,w\n^sym, Bin(\"q\")\n,N\n>>\n @b  , [], \n".toUTF8.toList
def exStructVal : Val :=
  match fromBytes exStructText with
  | .ok v => v
  | _ => .null
/-- the reader run once: dict tags and column meta tags come out in key order, the escapes are resolved, the row
without its last cell and the Null cell of the nested grid have no tag for that column -/
theorem exStruct_run : fromBytes exStructText = .ok exStructVal ∧ exStructVal =
    .grid (.some (.cons "dis".toList (.str "Café".toList) (.cons "site".toList .marker .nil)))
      (.cons "id".toList (.some (.cons "dis".toList (.str "Id".toList) .nil))
        (.cons "tags".toList (.some (.cons "bar".toList (.uri "u".toList) (.cons "foo".toList .marker .nil)))
        (.cons "g".toList .none .nil)))
      (.cons (.cons "g".toList (.grid .none
            (.cons "k".toList (.some (.cons "doc".toList (.str "K".toList) (.cons "x".toList .marker .nil)))
              (.cons "w".toList .none .nil))
            (.cons (.cons "k".toList (.sym "sym".toList) (.cons "w".toList (.xstr "Bin".toList "q".toList) .nil))
              (.cons (.cons "w".toList .null .nil) .nil))
            "3.0".toList)
          (.cons "id".toList (.ref "a-1".toList (some "Room 1".toList))
          (.cons "tags".toList (.list (.cons (.str "x".toList) (.cons .marker
            (.cons (.dict (.cons "a".toList (.bool true) (.cons "b".toList .marker .nil))) .nil)))) .nil)))
      (.cons (.cons "id".toList (.ref "b".toList none) (.cons "tags".toList (.list .nil) .nil)) .nil))
      "3.0".toList := by
  refine run_intro (fun h => by rw [exStructVal, h]) ?_
  rw [exStructText, StrLit.utf8_lit]
  decide +kernel
theorem exStruct_ok : fromBytes exStructText = .ok exStructVal := exStruct_run.1
/-- the text is not what the writer prints for its value -/
example : (encode (asRead exStructVal) == exStructText) = false := by
  rw [exStruct_run.2, exStructText, StrLit.utf8_lit]; decide +kernel
example : structV exStructVal = true ∧ excluded exStructVal = false ∧ depthOk exStructVal = true := by
  rw [exStruct_run.2]; decide +kernel
example : fromBytes (encode (asRead exStructVal)) = .ok exStructVal :=
  C11_stable_struct exStructText exStructVal exStruct_ok (by rw [exStruct_run.2]; decide +kernel)
/-- `C11_decoder_image` on the same text and on `exSpelled` (numbers, a timestamp) -/
example := C11_decoder_image exStructText exStructVal exStruct_ok
example := C11_decoder_image exSpelled exSpelledVal exSpelled_ok
/-- `C11_stable_full_partial` on `exSpelled`: its lexical leaves (`1.50kW`, `1`, `2`, `2024-02-29T12:34:56Z UTC`) are
covered -/
example : fromBytes (encode (asRead exSpelledVal)) = .ok exSpelledVal :=
  C11_stable_full_partial exSpelled exSpelledVal exSpelled_ok (by
    rw [exSpelled_run.2]
    simp only [lexLeavesOk, lexLeavesOkO, lexLeavesOkT, lexLeavesOkC, lexLeavesOkR, lexLeavesOks, numOk_kW]
    decide +kernel)

/-- dates and coordinates need no hypothesis: a text with odd spacing inside `C( … )`, a trailing `.` and a sign -/
def exDateCoordText : List UInt8 := "[ 2024-02-29 ,C( -33.8688 ,151. ) , {d:1999-12-31} ,]".toUTF8.toList
def exDateCoordVal : Val :=
  match fromBytes exDateCoordText with
  | .ok v => v
  | _ => .null
theorem exDateCoord_run : fromBytes exDateCoordText = .ok exDateCoordVal ∧ exDateCoordVal =
    .list (.cons (.date ⟨2024, 2, 29, "2024-02-29".toList⟩)
      (.cons (.coord ⟨lexBits, "-33.8688".toList⟩ ⟨lexBits, "151.".toList⟩)
      (.cons (.dict (.cons "d".toList (.date ⟨1999, 12, 31, "1999-12-31".toList⟩) .nil)) .nil))) := by
  refine run_intro (fun h => by rw [exDateCoordVal, h]) ?_
  rw [exDateCoordText, StrLit.utf8_lit]
  decide +kernel
theorem exDateCoord_ok : fromBytes exDateCoordText = .ok exDateCoordVal := exDateCoord_run.1
example : fromBytes (encode (asRead exDateCoordVal)) = .ok exDateCoordVal :=
  C11_stable_full_partial exDateCoordText exDateCoordVal exDateCoord_ok (by rw [exDateCoord_run.2]; decide +kernel)

end examples

end Hs.C11

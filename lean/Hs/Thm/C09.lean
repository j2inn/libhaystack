/-
  C09 — the filter parser is total; evaluation terminates.

  Model: `Hs.FText.parseFilter` (filter/lexer.rs + filter/parser.rs over the concrete scanner model,
  with the nesting counter of fix 8030c9f) and the two Ref-chasing evaluation loops
  `Hs.FLoops.weqLoop` (`WildcardEq::eval`) and `Hs.FLoops.relLoop` (`Namespace::has_relationship`).
  Outcomes `panic` / `diverge` (fuel ran out) / `depth` are what the property forbids.

  Proof structure of the parser's totality (`C09_parse_total_holds`; helper lemmas in
  `Hs/Lemmas/FilterTotal{Err,Lex,Parse}.lean`, built on the scanner and scalar-reader lemmas of C03, `Hs/Lemmas/ZincTotal*.lean`):
  * `Scan.mu s` = stash + unread input + 1 while `eof` is false (the `unread` of `Hs.Lemmas.FilterTotal`).
    Every scanner primitive and every scalar reader is non-increasing in `mu` and needs fuel `> mu`;
    `parse_number_date_time`'s reset `eof := false` merely restores the value `mu` had on entry.
  * The parser swallows lexer errors and goes on with the scanner where the failed reader stopped
    (`Hs.Model.FilterLexErr`): for every `…Err` function `mu` is no larger than at the reader's start
    (`FilterTotalErr`).
  * `Lexer::read` (`lexRead`, with `greater_or_less`, `parse_path` and the identifier arm): no `panic`/`depth`,
    `diverge` only when `fuel ≤ mu + 1`, `mu` does not grow on `Ok` or `Err`, a token read away from the end of
    the input consumes at least one byte, the token `none` only comes with `eof`
    (`FilterTotalLex`; here `filterLexRead_total`, `filterLexRead_progress`).
  * parser: `FLex.M l = mu + [cur ≠ none]`.  A `read` never increases it (the token is paid for by the bytes it
    consumed; after a swallowed error the token is unchanged).  By mutual induction on the fuel every function
    of the parser's `mutual` block needs fuel at most `8 * M + c`, `c ≤ 13` — an `or`/`and` iteration consumes
    the operator token, a group consumes its `(` — so `fuelFor n = 8 n + 64` suffices
    (`FilterTotalParse`: `Specs`, `specsAll`, `parseFilter_spec`).
-/
import Hs.Lemmas.FilterLoops
import Hs.Lemmas.FilterTotal
import Hs.Lemmas.FilterTotalParse
namespace Hs.C09
open Hs Hs.FText Hs.FLoops

/-- The property's first sentence at full strength: for every byte string the parser's outcome is
a filter or an error.  Proved in full as `C09_parse_total_holds` below: no function of the lexer or of
the parser has a `panic` or `depth` outcome for any fuel and any state (`parse_never_panic`,
`parse_never_depth`, `filterLexRead_total`), every token read away from the end of the input consumes at
least one byte and a failed read never moves the scanner back (`filterLexRead_progress`), and from that
the parser's fuel `fuelFor n = 8n + 64` suffices for every input of `n` bytes (`parse_never_diverge`).
The nesting bound is `parse_depth_bound` / `parse_depth_step`. -/
def C09_parse_total : Prop :=
  ∀ bs : List UInt8,
    filterOfBytes bs ≠ .panic ∧ filterOfBytes bs ≠ .diverge ∧ filterOfBytes bs ≠ .depth

/-- Nesting is bounded: whatever the tokens, a group nested deeper than `maxNestingDepth` is an
error, not a deeper recursion (this is what keeps the native stack bounded). -/
theorem parse_depth_bound (fuel depth : Nat) (l : FLex) (h : maxNestingDepth ≤ depth) :
    parseParens (fuel + 1) depth l = .err := by
  simp [parseParens, h]

/-- the only place where the parser recurses into a sub-expression is `parse_parens`, and it does so
with the depth counter raised by exactly one: a group that parses at depth `d` has its inside
parsed by `parse_or` at depth `d + 1`, and `d` is below the limit -/
theorem parse_depth_step (fuel depth : Nat) (l l3 : FLex) (o : Ors)
    (h : parseParens (fuel + 1) depth l = .ok (o, l3)) :
    depth < maxNestingDepth ∧ ∃ l1 l2, l.read fuel = .ok l1 ∧ parseOr fuel (depth + 1) l1 = .ok (o, l2) := by
  unfold parseParens at h
  split at h
  · simp at h
  · rename_i hd
    refine ⟨Nat.not_le.1 hd, ?_⟩
    split at h
    · rename_i l1 hl1
      split at h
      · rename_i o' l2 hl2
        split at h
        · simp at h
        · split at h
          · simp only [Res.ok.injEq, Prod.mk.injEq] at h
            exact ⟨l1, l2, hl1, by rw [hl2, h.1]⟩
          all_goals simp at h
      all_goals simp at h
    all_goals simp at h

/-- every byte loop the filter lexer runs — white space, identifiers, Ref/Symbol bodies, decimals,
units, fractions, zone names, Str and Uri bodies with their escapes — ends with a value or an error
once the fuel exceeds the unread bytes, for every scanner state and accumulator -/
theorem lexer_loops_total (fuel : Nat) (s : Scan) (acc : List UInt8) (h : unread s < fuel) :
    (∃ s', Scan.consumeWhiteSpaces fuel s = .ok s') ∧ (∃ s', Scan.consumeSpaces fuel s = .ok s') ∧
    (∃ r, Hs.Zinc.literalLoop fuel s acc = .ok r) ∧ (∃ r, Hs.Zinc.refLoop fuel s acc = .ok r) ∧
    (∃ r, Hs.Zinc.decimalLoop fuel s acc = .ok r) ∧ (∃ r, Hs.Zinc.unitLoop fuel s acc = .ok r) ∧
    (∃ r, Hs.Zinc.fracLoop fuel s acc = .ok r) ∧ (∃ r, Hs.Zinc.tzNameLoop fuel s acc = .ok r) ∧
    Fine (Hs.Zinc.strLoop fuel s acc) ∧ Fine (Hs.Zinc.uriLoop fuel s acc) := by
  rw [unread_mu] at h
  exact ⟨Scan.consumeWhiteSpaces_eq fuel s ▸ skipLoop_total h, Scan.consumeSpaces_eq fuel s ▸ skipLoop_total h,
    Hs.Zinc.literalLoop_eq fuel s acc ▸ classLoop_total h, Hs.Zinc.refLoop_eq fuel s acc ▸ classLoop_total h,
    Hs.Zinc.decimalLoop_eq fuel s acc ▸ classLoop_total h, Hs.Zinc.unitLoop_eq fuel s acc ▸ classLoop_total h,
    Hs.Zinc.fracLoop_eq fuel s acc ▸ classLoop_total h, Hs.Zinc.tzNameLoop_eq fuel s acc ▸ classLoop_total h,
    Fine.of_sat (Hs.Zinc.strLoop_spec fuel s acc) h, Fine.of_sat (Hs.Zinc.uriLoop_spec fuel s acc) h⟩

/-- the scalar readers the filter lexer calls for Str, Uri, Ref (with its display name), Symbol and
identifiers, and the decimal / exponent parts of a number, end with a value or an error and leave
the scanner no further back than they found it -/
theorem scalar_readers_total (fuel : Nat) (s : Scan) (h : unread s < fuel) :
    FineLe s (Hs.Zinc.parseStr fuel s) ∧ FineLe s (Hs.Zinc.parseUri fuel s) ∧ FineLe s (Hs.Zinc.parseRef fuel s) ∧
    FineLe s (Hs.Zinc.parseSymbol fuel s) ∧ FineLe s (Hs.Zinc.parseId fuel s) ∧
    FineLe s (Hs.Zinc.parseDecimal fuel s) ∧ FineLe s (Hs.Zinc.parseExponent fuel s) := by
  rw [unread_mu] at h
  exact ⟨.of_spec (Hs.Zinc.parseStr_spec fuel s) h, .of_spec (Hs.Zinc.parseUri_adv fuel s).le_of_adv h,
    .of_spec (Hs.Zinc.parseRef_adv fuel s).le.le_of_adv h, .of_spec (Hs.Zinc.parseSymbol_adv fuel s).le.le_of_adv h,
    .of_spec (Hs.Zinc.parseId_adv fuel s).le.le_of_adv h, .of_spec (Hs.Zinc.parseDecimal_spec fuel s) h,
    .of_spec (Hs.Zinc.parseExponent_spec fuel s) h⟩

/-! ### the lexer: total, and it makes progress -/

/-- the measure of this file's earlier lemmas is the scanner measure of the totality proof -/
theorem unread_eq_mu (s : Scan) : unread s = s.mu :=
  unread_mu s

/-- `Lexer::read` never panics and never exceeds a depth limit, for any fuel and any scanner state; it does
not run out of fuel once the fuel exceeds the unread bytes by two -/
theorem filterLexRead_total (fuel : Nat) (s : Scan) :
    lexRead fuel s ≠ .panic ∧ lexRead fuel s ≠ .depth ∧ (s.mu + 1 < fuel → lexRead fuel s ≠ .diverge) :=
  ⟨(lexRead_spec fuel s).ne_panic, (lexRead_spec fuel s).ne_depth, fun h => (lexRead_spec fuel s).ne_diverge h⟩

/-- the same with the fuel bound stated on the scanner's fields (stash + unread input) -/
theorem filterLexRead_total_remaining (fuel : Nat) (s : Scan) (h : s.remaining + 2 < fuel) :
    lexRead fuel s ≠ .panic ∧ lexRead fuel s ≠ .depth ∧ lexRead fuel s ≠ .diverge := by
  have hm := Scan.mu_le_remaining s
  exact ⟨(filterLexRead_total fuel s).1, (filterLexRead_total fuel s).2.1,
    (filterLexRead_total fuel s).2.2 (by omega)⟩

/-- progress of `Lexer::read`: a returned token leaves no more unread bytes than before, strictly fewer when
the scanner was not at the end of the input; the token `none` is only returned at the end of the input; and a
failed read (whose scanner state the parser keeps when it swallows the error) does not move the scanner back -/
theorem filterLexRead_progress (fuel : Nat) (s : Scan) :
    (∀ s' t, lexRead fuel s = .ok s' t →
      s'.mu ≤ s.mu ∧ (s.eof = false → s'.mu < s.mu) ∧ (t = .none → s'.eof = true)) ∧
    (∀ s', lexRead fuel s = .err s' → s'.mu ≤ s.mu) :=
  ⟨fun _ _ e => (lexRead_spec fuel s).post_ok e, fun _ e => (lexRead_spec fuel s).post_err e⟩

/-- at the end of the input the lexer returns the token `none` and leaves the scanner alone -/
theorem filterLexRead_at_eof (fuel : Nat) (s : Scan) (he : s.eof = true) : lexRead (fuel + 1) s = .ok s .none :=
  lexRead_at_eof fuel s he

/-- the fuel hypotheses are satisfiable: the scanner `Parser::make` builds over `bs`, with the fuel the model
uses for `bs` -/
theorem fuel_make (bs : List UInt8) :
    (Scan.make bs).mu + 1 < fuelFor bs.length ∧ (Scan.make bs).remaining + 2 < fuelFor bs.length := by
  have h1 := Scan.mu_make bs
  have h2 := Scan.remaining_le_mu (Scan.make bs)
  have hf : fuelFor bs.length = 8 * bs.length + 64 := rfl
  omega

example : (Scan.make [97, 32, 61, 61, 32, 49]).mu + 1 < fuelFor 6 := by decide
example : (Scan.make [97, 32, 61, 61, 32, 49]).eof = false := by decide

/-! ### the parser: total -/

/-- no `panic` outcome, for any fuel -/
theorem parse_never_panic (fuel : Nat) (bs : List UInt8) : parseFilter fuel bs ≠ .panic :=
  (parseFilter_fuel_spec fuel bs).ne_panic
/-- no `depth` outcome, for any fuel (over-deep nesting is an ordinary error, `parse_depth_bound`) -/
theorem parse_never_depth (fuel : Nat) (bs : List UInt8) : parseFilter fuel bs ≠ .depth :=
  (parseFilter_fuel_spec fuel bs).ne_depth
/-- fuel above `8 * length + 12` never runs out -/
theorem parse_never_diverge (fuel : Nat) (bs : List UInt8) (h : 8 * bs.length + 12 < fuel) :
    parseFilter fuel bs ≠ .diverge :=
  (parseFilter_fuel_spec fuel bs).ne_diverge h

example : 8 * (List.replicate 65 (40 : UInt8)).length + 12 < fuelFor (List.replicate 65 (40 : UInt8)).length := by
  decide

/-- the same for `parse_or` entered in any parser state at any depth: never `panic`/`depth`, the measure
`FLex.M` (unread bytes + pending token) does not grow, and fuel above `8 * M + 12` never runs out -/
theorem parseOr_total (fuel depth : Nat) (l : FLex) :
    parseOr fuel depth l ≠ .panic ∧ parseOr fuel depth l ≠ .depth ∧
    (8 * l.M + 12 < fuel → parseOr fuel depth l ≠ .diverge) ∧
    (∀ o l', parseOr fuel depth l = .ok (o, l') → l'.M ≤ l.M) :=
  ⟨(parseOr_spec fuel depth l).ne_panic, (parseOr_spec fuel depth l).ne_depth,
   fun h => (parseOr_spec fuel depth l).ne_diverge h, fun _ _ e => (parseOr_spec fuel depth l).post e⟩

/-- **C09, parser part**: `Filter::try_from` yields a filter or an error on every byte string. -/
theorem C09_parse_total_holds : C09_parse_total := fun bs =>
  ⟨(parseFilter_spec bs).ne_panic, (parseFilter_spec bs).ne_diverge Nat.zero_lt_one, (parseFilter_spec bs).ne_depth⟩

/-- the hypothesis is satisfiable with the fuel the model uses: a fresh scanner over `bs` has at most
`bs.length` unread bytes -/
theorem unread_make (bs : List UInt8) : unread (Scan.make bs) ≤ bs.length ∧ bs.length < fuelFor bs.length := by
  have hf : fuelFor bs.length = 8 * bs.length + 64 := rfl
  rw [unread_mu, Scan.mu_make]
  omega

/-- `WildcardEq::eval` terminates against every finite record set, cyclic ref graphs included:
with fuel above the number of record ids the loop never runs out of fuel. -/
theorem wildcard_terminates (recs : List RecView) (target : RefId) (start : Val) (fuel : Nat)
    (h : (viewIds recs).length + 1 ≤ fuel) : weqEval recs target start fuel ≠ .diverge := by
  have hb := unseen_le_length (viewIds recs) []
  obtain ⟨b, e⟩ := weqLoop_ok recs target fuel [] start (by omega)
  unfold weqEval
  rw [e]
  nofun

/-- `Namespace::has_relationship` terminates against every finite record set -/
theorem relationship_terminates (recs : List Rec) (isRel tr hr : Bool) (target : Option RefId)
    (subject : Rec) (fuel : Nat) (h : (recIds recs).length + 1 ≤ fuel) :
    hasRelationship recs isRel tr hr target subject fuel ≠ .diverge := by
  unfold hasRelationship
  split
  · simp
  · apply relLoop_terminates
    have := unseen_le_length (recIds recs) []
    omega

/-- the wildcard loop has no panicking or depth-limited step either: within the fuel it answers.  (For the relationship
loop this file proves termination only, `relationship_terminates`; that it answers is `FLoops.relLoop_ok` in
`FilterLoops`.) -/
theorem wildcard_ok (recs : List RecView) (target : RefId) (start : Val) (fuel : Nat)
    (h : (viewIds recs).length + 1 ≤ fuel) : ∃ b, weqEval recs target start fuel = .ok b := by
  have hb := unseen_le_length (viewIds recs) []
  exact weqLoop_ok recs target fuel [] start (by omega)

/-! ### non-vacuity: a cyclic record set -/

/-- three records whose `a` tags point round in a circle; the wanted ref is not on it -/
def cyc : List RecView :=
  [ { id := some ['r', '0'], empty := false, target := .ref ['r', '1'] none },
    { id := some ['r', '1'], empty := false, target := .ref ['r', '2'] none },
    { id := some ['r', '2'], empty := false, target := .ref ['r', '0'] none } ]

example : weqEval cyc ['x'] (.ref ['r', '0'] none) ((viewIds cyc).length + 1) = .ok false := by decide
example : weqEval cyc ['r', '2'] (.ref ['r', '0'] none) ((viewIds cyc).length + 1) = .ok true := by decide
/-- with less fuel than records the model does report `diverge`: the bound is not vacuous -/
example : weqEval cyc ['x'] (.ref ['r', '0'] none) 2 = .diverge := by decide

def cycRecs : List Rec :=
  [ { key := some ['r', '0'], id := some ['r', '0'], entries := [{ ref := some ['r', '1'], rel := .sym true, recip := .absent }] },
    { key := some ['r', '1'], id := none, entries := [{ ref := some ['r', '0'], rel := .sym true, recip := .absent }] } ]

example : hasRelationship cycRecs true true false (some ['x']) cycRecs.head! ((recIds cycRecs).length + 1) = .ok false := by
  decide
example : hasRelationship cycRecs true true false (some ['x']) cycRecs.head! 1 = .diverge := by decide

/-! ### the inputs on which the pinned tree overflowed the stack are errors of the model -/

def bytes (s : String) : List UInt8 := s.toUTF8.toList

def outcome (r : Res Ors) : Nat :=
  match r with
  | .ok _ => 0 | .err => 1 | .panic => 2 | .diverge => 3 | .depth => 4

/-- 65 nested groups (was: unbounded recursion) -/
theorem deep_parens : outcome (filterOfBytes (List.replicate 65 40)) = 1 := by decide +kernel
theorem deep_parens_closed :
    outcome (filterOfBytes (List.replicate 65 40 ++ [97] ++ List.replicate 65 41)) = 1 := by decide +kernel
/-- 64 levels are accepted when they are closed again -/
theorem deep_parens_ok :
    outcome (filterOfBytes (List.replicate 64 40 ++ [97] ++ List.replicate 64 41)) = 0 := by decide +kernel
/-- operators without operands, unbalanced parentheses: errors, not crashes -/
theorem dangling_and : outcome (filterOfBytes (bytes "a and")) = 1 := by decide +kernel
theorem dangling_or : outcome (filterOfBytes (bytes "or or")) = 1 := by decide +kernel
theorem dangling_not : outcome (filterOfBytes (bytes "not")) = 1 := by decide +kernel
theorem dangling_cmp : outcome (filterOfBytes (bytes "a ==")) = 1 := by decide +kernel
theorem unbalanced_open : outcome (filterOfBytes (bytes "((a)")) = 1 := by decide +kernel
theorem unbalanced_close : outcome (filterOfBytes (bytes "(a))")) = 1 := by decide +kernel
theorem empty_input : outcome (filterOfBytes []) = 1 := by decide +kernel
/-- with too little fuel the model does report `diverge`: the fuel bound is not vacuous -/
theorem small_fuel_diverges : outcome (parseFilter 3 (bytes "a and b")) = 3 := by decide +kernel

end Hs.C09

/-
  C05 (part) — member order does not matter to the Hayson decoder visitor.

  `visit_map` (src/haystack/encoding/json/decode.rs) reads the members in the order the `MapAccess` delivers
  them (document order for `from_str`/`from_slice`, key order for `from_value`): it decodes the member's
  value, treats a `_kind` member as the type tag (returning AT ONCE for `marker`/`remove`/`na` — and
  serde_json then refuses the map unless that member was the last one, `Hs.Hayson.earlyReturn`), inserts
  every other member into a `BTreeMap` (last wins) and dispatches on the remembered kind after the last
  member.  So the outcome is independent of the member order when (1) the keys are pairwise distinct
  (otherwise "last wins" can depend on the order) and (2) no `_kind` member holds one of the three early-return
  kinds — unless the object has no other member.  `{"_kind":"marker","x":1}` (an error) and
  `{"x":1,"_kind":"marker"}` (Marker) violate (2) (witness below, reproduced on the real code with
  `from_str`); neither is a Hayson document.

  All statements are about the tree-level model `Hs.Hayson.fromJson`/`visitMap` (members in visiting
  order); permutations are `List.Perm` on `Members.toList`.

  One object: `visitMap_perm`, `fromJson_obj_perm`, hypotheses exact (witnesses).  Reordering at every depth
  (`JPerm`), for documents all of whose objects satisfy the hypotheses or have at most one member (`OrdOK`): the
  vocabulary and the argument are in Lemmas/HaysonJPerm (`fromJson_jperm`; every Hayson document is `OrdOK`,
  `ordOK_of_denotes`; hence `fromJson_denotes_jperm`: any member order, at any depth, of any Hayson document of a
  value decodes to that value).  The encoder's document is one (`denotes_val`): `ordOK_val`, `C05_order`.
  Optional members present/absent, number spellings, `"_kind":"dict"`: Thm/C05.lean.
-/
import Hs.Thm.C02
import Hs.Lemmas.HaysonJPerm
namespace Hs.C05perm
open Hs Hs.Hayson Hs.C02

/-- The full statement: under distinct keys and no early-return kind, the visitor — started with any
remembered kind and any collected entries — gives the same outcome on every reordering of the members. -/
def visitMap_perm_full : Prop :=
  ∀ ms ms' : Members, MPerm ms ms' → KeysDistinct ms → NoEarlyKind ms →
    ∀ kind d, visitMap ms kind d = visitMap ms' kind d

theorem visitMap_perm : visitMap_perm_full := by
  intro ms ms' hp hd hh kind d
  rw [visitMap_eq_runR, visitMap_eq_runR]
  exact runR_perm (Spec.Hayson.view_perm hp) (by rw [Spec.Hayson.view_keys]; exact hd) (Spec.Hayson.orderHyp_view ms hh) kind d

/-- … in particular for a whole JSON object -/
theorem fromJson_obj_perm (ms ms' : Members) (hp : MPerm ms ms') (hd : KeysDistinct ms)
    (hh : NoEarlyKind ms) : fromJson (.obj ms) = fromJson (.obj ms') := by
  rw [fromJson, fromJson]
  exact visitMap_perm ms ms' hp hd hh [] []

/-- the hypotheses travel along a reordering (so the statement is symmetric) -/
theorem hyps_of_perm (ms ms' : Members) (hp : MPerm ms ms') (hd : KeysDistinct ms)
    (hh : NoEarlyKind ms) : KeysDistinct ms' ∧ NoEarlyKind ms' := by
  have hk : (ms.toList.map (·.1)).Perm (ms'.toList.map (·.1)) := hp.map _
  exact ⟨hk.nodup_iff.mp hd, fun p hp' => hh p (hp.mem_iff.mpr hp')⟩

/-! ### the hypotheses are satisfiable and each is needed -/

def m_ref : Members :=
  .cons (s "_kind") (.str (s "ref")) (.cons (s "val") (.str (s "a")) (.cons (s "dis") (.str (s "A")) .nil))
def m_ref' : Members :=
  .cons (s "dis") (.str (s "A")) (.cons (s "val") (.str (s "a")) (.cons (s "_kind") (.str (s "ref")) .nil))

example : MPerm m_ref m_ref' ∧ KeysDistinct m_ref ∧ AllDecode m_ref ∧ NoEarlyKind m_ref := by
  refine ⟨?_, ?_, ?_, ?_⟩
  · show m_ref.toList.Perm m_ref'.toList
    have : m_ref'.toList = m_ref.toList.reverse := rfl
    rw [this]
    exact (List.reverse_perm _).symm
  · show (m_ref.toList.map (·.1)).Nodup
    decide
  · intro p hp
    simp [m_ref] at hp
    rcases hp with e | e | e <;> subst e <;> simp [fromJson]
  · intro p hp hk
    simp [m_ref] at hp
    rcases hp with e | e | e <;> subst e <;> simp [fromJson, isEarly, s] at hk ⊢

def one : Json := .int 1 { bits := 0x3FF0000000000000, txt := ['1'] }
/-- (2) is needed, even when every member value decodes: `{"_kind":"marker","x":1}` is an error (the
visitor returns at `_kind`, serde_json refuses the unconsumed map), `{"x":1,"_kind":"marker"}` is Marker.
Reproduced on the real code (`from_str`: "trailing comma at line 1 column 18" / `Ok(Marker)`). -/
example :
    (fromJson (.obj (.cons (s "_kind") (.str (s "marker")) (.cons (s "x") one .nil)))).tag = "err" ∧
    okIs (fromJson (.obj (.cons (s "x") one (.cons (s "_kind") (.str (s "marker")) .nil))))
      (fun v => match v with | .marker => true | _ => false) = true := by
  decide +kernel

/-- (1) is needed: `{"a":true,"a":false}` and `{"a":false,"a":true}` decode to different dicts -/
example :
    (match fromJson (.obj (.cons (s "a") (.bool true) (.cons (s "a") (.bool false) .nil))) with
      | .ok (.dict (.cons _ (.bool b) .nil)) => b == false | _ => false) = true ∧
    (match fromJson (.obj (.cons (s "a") (.bool false) (.cons (s "a") (.bool true) .nil))) with
      | .ok (.dict (.cons _ (.bool b) .nil)) => b == true | _ => false) = true := by
  decide +kernel

/-! ## Member values that are scalar tokens decode

Facts of their own about `AllDecode` (which `visitMap_perm` does not ask for: a member that does not decode fails
alike wherever it stands, `fromJson_okOrErr`). -/

def flatJ : Json → Bool
  | .arr _ => false
  | .obj _ => false
  | _ => true
/-- every member value is a scalar token -/
def flat : Members → Bool
  | .nil => true
  | .cons _ j ms => flatJ j && flat ms

theorem flatJ_decodes (j : Json) (h : flatJ j = true) : ∃ v, fromJson j = .ok v := by
  cases j <;> simp [flatJ, fromJson] at h ⊢

theorem flat_allDecode : (ms : Members) → flat ms = true → AllDecode ms
  | .nil, _ => nofun
  | .cons k j ms, h => by
    simp [flat] at h
    intro p hp
    simp only [Members.toList_cons, List.mem_cons] at hp
    rcases hp with e | hp
    · subst e; exact flatJ_decodes j h.1
    · exact flat_allDecode ms h.2 p hp

@[simp] theorem flatJ_str (x : List Char) : flatJ (.str x) = true := rfl

theorem allDecode_of_view (ms : Members) (l : List (List Char × Val)) (hv : view ms = okView l) :
    AllDecode ms := by
  intro p hp
  have : (p.1, fromJson p.2) ∈ view ms := by
    rw [Spec.Hayson.view_eq_decView]
    exact List.mem_map_of_mem (f := fun p => (p.1, fromJson p.2)) hp
  rw [hv] at this
  obtain ⟨q, _, e⟩ := List.mem_map.mp this
  exact ⟨q.2, by simpa using (congrArg Prod.snd e).symm⟩

/-! ## Reordering at every depth: the encoder's document -/

theorem ordOK_val (v : Val) (h : wfj v = true) : OrdOK (toJson v) :=
  ordOK_of_denotes (Spec.Hayson.denotes_val v h)
theorem ordOK_vals : (vs : Vals) → wfjs vs = true → OrdOKs (listJson vs) :=
  fun vs h => ordOK_of_denotesL (Spec.Hayson.denotes_vals vs h)
theorem ordOK_tags : (t : Tags) → wfTags t = true → OrdOKm (tagsJson t) :=
  fun t h => (ordOKm_iff _).mpr (ordOK_of_denotesM (Spec.Hayson.denotes_tags t h))
theorem ordOK_cols : (c : Cols) → wfCols c = true → OrdOKs (colsJson c) :=
  fun c h => ordOK_of_denotesCols (Spec.Hayson.denotes_cols c h)
theorem ordOK_rows : (r : Rows) → wfRows r = true → OrdOKs (rowsJson r) :=
  fun r h => ordOK_of_denotesRows (Spec.Hayson.denotes_rows r h)

/-- **C02 ∘ C05 (order)**: the encoder's document of a well-formed value, with the members of any of its
objects at any depth in any order, decodes to the image of the value. -/
def C05_order_full : Prop :=
  ∀ v, WFj v → ∀ j', JPerm (toJson v) j' → fromJson j' = .ok (jImage v)

theorem C05_order : C05_order_full := fun v hw _ hp =>
  fromJson_denotes_jperm (Spec.Hayson.denotes_val v hw) hp


/-! ### non-vacuity of the deep statement -/

mutual
theorem JPerm.refl : (j : Json) → JPerm j j
  | .null => by simp [JPerm]
  | .bool _ => by simp [JPerm]
  | .int _ _ => by simp [JPerm]
  | .flt _ => by simp [JPerm]
  | .str _ => by simp [JPerm]
  | .arr xs => JPerm.mk_arr (JsPerm.refl xs)
  | .obj ms => JPerm.mk_obj (MsPerm.refl ms) (List.Perm.refl _)
theorem JsPerm.refl : (js : Jsons) → JsPerm js js
  | .nil => by simp [JsPerm]
  | .cons j js => JsPerm.mk_cons (JPerm.refl j) (JsPerm.refl js)
theorem MsPerm.refl : (ms : Members) → MsPerm ms ms
  | .nil => by simp [MsPerm]
  | .cons _ j ms => MsPerm.mk_cons (JPerm.refl j) (MsPerm.refl ms)
end

/-- `[{a: @a "A", b: M}]` -/
def v0 : Val :=
  .list (.cons (.dict (.cons (s "a") (.ref (s "a") (some (s "A"))) (.cons (s "b") .marker .nil))) .nil)

/-- `[{"b":{"_kind":"marker"},"a":{"dis":"A","val":"a","_kind":"ref"}}]`: the encoder's document of `v0`
with the members of both the dict and the ref object reversed -/
def j0' : Json :=
  .arr (.cons (.obj
    (.cons (s "b") (.obj (.cons (s "_kind") (.str (s "marker")) .nil))
      (.cons (s "a") (.obj m_ref') .nil))) .nil)

example : WFj v0 ∧ JPerm (toJson v0) j0' := by
  refine ⟨by decide +kernel, ?_⟩
  simp only [v0, j0', toJson, listJson, tagsJson, kindObj]
  refine JPerm.mk_arr (JsPerm.mk_cons ?_ (JsPerm.refl _))
  refine JPerm.mk_obj
    (ms1 := .cons (s "a") (.obj m_ref') (.cons (s "b") (.obj (.cons (s "_kind") (.str (s "marker")) .nil)) .nil))
    (MsPerm.mk_cons ?_ (MsPerm.refl _)) ?_
  · refine JPerm.mk_obj (MsPerm.refl _) ?_
    show List.Perm m_ref.toList m_ref'.toList
    have : m_ref'.toList = m_ref.toList.reverse := rfl
    rw [this]
    exact (List.reverse_perm _).symm
  · exact List.Perm.swap _ _ _

end Hs.C05perm

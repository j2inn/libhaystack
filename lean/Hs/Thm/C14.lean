/-
  C14 — namespace caches are invisible: answers ignore query history and thread schedule.

  Model: Hs.Model.NsCache - the two DashMap caches of `Namespace` as shared state, every thread a program of
  atomic cache operations (`get` with read guard, `contains_key`, `insert`, drop of the guard) that is the code
  of `supertypes_of` / `inheritance` and their callers as written; `step` runs one operation of one thread;
  ANY number of threads, ANY schedule (a `List Nat` of thread indices), ANY initial caches satisfying the invariant (cold
  caches do), any per-thread query sequence.  The cache-free functions `pureAns` are those of Hs.Model.Ns (C13).

  What is proved is about this model.  That the Rust code performs exactly these operations in this order, that
  it holds at most one DashMap guard and drops it before the next cache operation, is read off the call sites
  (`supertypes_of`, `inheritance`, `all_supertypes_of`, `fits`, `find_reciprocal_associations`,
  `compute_entity_type`, `has_relationship`) by hand, and OS schedules are sampled by the harness, not
  enumerated: the property is claimed PARTIAL.

  CALLERS THAT KEEP AN ANSWER (from the section of that name on; known finding GUARD, known/C14.json).
  `supertypes_of` / `inheritance` RETURN the DashMap read guard.  The theorems before that section are about the
  programs the library itself runs, which drop every guard before their next cache operation.  For callers of the
  public functions (Hs.Model.NsCacheCaller: scripts of `ask` / `keep` / `release`, or arbitrary `Prog`s) the
  sections (a), (b), (c) and the counterexample prove
    - the counterexample: `C14_kept_answer_deadlocks_one_thread`, `C14_kept_answers_deadlock_two_threads`,
      `C14_deadlock_free_fails_for_keeping_callers` (kernel-checked, two defs in one shard);
    - the boundary, for ALL configurations and schedules: `C14_deadlock_free_disciplined` (drop before the next
      query: deadlock free, the library's programs are of this kind), `C14_kept_answer_warm_ok` (a kept answer
      followed by warm queries only never waits), `C14_kept_answer_answers_unchanged` (a kept answer never changes
      an answer).
  Between (a) and the counterexample stands the section on the association / implementation / relationship
  queries of C13 part 2, which are further library programs: it needs `DropsBeforeNext`, defined just before (a).
-/
import Hs.Lemmas.NsRelLazy
import Hs.Lemmas.NsCacheKept
namespace Hs.C14
open Hs Hs.Ns Hs.NsCache

variable {cfg : Cfg} {qss : List (List Query)}

/-- One step of any thread preserves `GInv`: `Inv` (every cached value is the value of the cache-free function for
its key) together with: every thread's remaining program is correct against any invariant-preserving environment
and obeys the guard discipline. -/
theorem inv_step {s : State} (h : GInv cfg qss s) (t : Nat) : GInv cfg qss (step cfg s t) :=
  ginv_of (ainv_step h.ainv t) (sinv_step h.sinv t)

/-- induction over any schedule of any number of threads, from any invariant-satisfying caches -/
theorem inv_reachable (c0 : Caches) (h0 : Inv cfg c0) (sched : List Nat) :
    GInv cfg qss (run cfg (init cfg c0 qss) sched) := ginv_run sched _ (ginv_init cfg c0 h0 qss)

theorem cold_inv : Inv cfg cold := by
  intro c k v h
  cases c <;> simp [look, cold, alook] at h

/-- the caches of every reachable state hold only values of the cache-free functions -/
theorem cache_inv_reachable (c0 : Caches) (h0 : Inv cfg c0) (sched : List Nat) :
    ∀ c k v, look c k (run cfg (init cfg c0 qss) sched).c = some v → Correct cfg c k v :=
  (inv_reachable (qss := qss) c0 h0 sched).inv

/-- every completed thread returned, for each of its queries in order, the answer of the cache-free function -/
theorem answer_eq_pure (c0 : Caches) (h0 : Inv cfg c0) (sched : List Nat) (t : Nat) (th : Thread)
    (as : List Ans) (ht : (run cfg (init cfg c0 qss) sched).thr[t]? = some th) (hp : th.prog = .ret as) :
    as = (qss.getD t []).map (pureAns cfg) :=
  ainv_answer (inv_reachable (qss := qss) c0 h0 sched).ainv ht hp

/-- History and schedule independence: two runs of the same namespace - different initial cache contents,
different other threads, different schedules, different positions of the thread - give a thread with the same
query list the same answers. -/
theorem answers_independent {qss' : List (List Query)} (c0 c0' : Caches) (h0 : Inv cfg c0) (h0' : Inv cfg c0')
    (sched sched' : List Nat) (t t' : Nat) (th th' : Thread) (as as' : List Ans)
    (hq : qss.getD t [] = qss'.getD t' [])
    (ht : (run cfg (init cfg c0 qss) sched).thr[t]? = some th) (hp : th.prog = .ret as)
    (ht' : (run cfg (init cfg c0' qss') sched').thr[t']? = some th') (hp' : th'.prog = .ret as') :
    as = as' := by
  rw [answer_eq_pure c0 h0 sched t th as ht hp, answer_eq_pure c0' h0' sched' t' th' as' ht' hp', hq]

/-- only complete, correct values are ever inserted -/
theorem no_partial_value (c0 : Caches) (h0 : Inv cfg c0) (sched : List Nat) (t : Nat) (th : Thread)
    (c : CacheId) (k : Name) (v : V) (cont : Prog (List Ans))
    (ht : (run cfg (init cfg c0 qss) sched).thr[t]? = some th) (hp : th.prog = .ins c k v cont) :
    Correct cfg c k v :=
  ainv_insert (inv_reachable (qss := qss) c0 h0 sched).ainv ht hp

/-- a thread holds at most one guard, and a thread that holds one is about to drop it -/
theorem one_guard (c0 : Caches) (h0 : Inv cfg c0) (sched : List Nat) (t : Nat) (th : Thread)
    (ht : (run cfg (init cfg c0 qss) sched).thr[t]? = some th) :
    th.held.length ≤ 1 ∧ (th.held ≠ [] → ∃ cont, th.prog = .drop cont) :=
  ⟨sinv_one_guard (inv_reachable (qss := qss) c0 h0 sched).sinv ht,
   fun hh => sinv_holder_drops (inv_reachable (qss := qss) c0 h0 sched).sinv ht hh⟩

/-- no hold-and-wait: in every reachable state a thread that holds a guard can take its next step -/
theorem no_hold_and_wait (c0 : Caches) (h0 : Inv cfg c0) (sched : List Nat) (t : Nat) (th : Thread)
    (ht : (run cfg (init cfg c0 qss) sched).thr[t]? = some th) (hh : th.held ≠ []) :
    enabled cfg (run cfg (init cfg c0 qss) sched) t = true :=
  sinv_holder_enabled (inv_reachable (qss := qss) c0 h0 sched).sinv ht hh

/-- a thread that waits for a write lock holds no guard -/
theorem waiting_holds_nothing (c0 : Caches) (h0 : Inv cfg c0) (sched : List Nat) (t : Nat)
    (hb : blocked cfg (run cfg (init cfg c0 qss) sched) t = true) :
    ∃ th, (run cfg (init cfg c0 qss) sched).thr[t]? = some th ∧ th.held = [] :=
  sinv_blocked_holds_nothing (inv_reachable (qss := qss) c0 h0 sched).sinv hb

/-- deadlock freedom: in every reachable state, if some thread has not finished, some thread is enabled -/
theorem deadlock_free (c0 : Caches) (h0 : Inv cfg c0) (sched : List Nat) (t : Nat)
    (hf : finished (run cfg (init cfg c0 qss) sched) t = false) :
    ∃ u, enabled cfg (run cfg (init cfg c0 qss) sched) u = true :=
  sinv_some_enabled (inv_reachable (qss := qss) c0 h0 sched).sinv t hf

/-- On EVERY namespace (cyclic `is` graphs included, C13) with the fuel of C13 the `compute_entity_type` loop
always completes, so the answer to a `reflect` query is C13's `reflect`. -/
theorem reflectFull_eq_reflect (rows : List Row) (fuel : Nat)
    (hf : fuelFor (make rows).defs ≤ fuel) (r : Rec) :
    reflectFull fuel (make rows) r = reflect fuel (make rows) r := by
  have hloop : ∀ ds : List Name, entityLoop fuel (make rows) ds = .ok () := by
    intro ds
    induction ds with
    | nil => rfl
    | cons d ds ih =>
      obtain ⟨res, h1, _⟩ := Ns.inheritance_spec rows fuel hf d
      simp only [entityLoop, h1, ih]
  obtain ⟨res, h1, _⟩ := Ns.reflect_spec rows fuel hf r
  unfold reflectFull
  rw [h1]
  simp only [hloop]
  split <;> rfl

/-- The property at full strength (for the model). -/
def C14_full : Prop :=
  ∀ (cfg : Cfg) (qss : List (List Query)) (c0 : Caches), Inv cfg c0 → ∀ sched : List Nat,
    let s := run cfg (init cfg c0 qss) sched
    (∀ c k v, look c k s.c = some v → Correct cfg c k v) ∧
    (∀ (t : Nat) (th : Thread) (as : List Ans), s.thr[t]? = some th → th.prog = .ret as →
      as = (qss.getD t []).map (pureAns cfg)) ∧
    (∀ (t : Nat) (th : Thread) (c : CacheId) (k : Name) (v : V) (cont : Prog (List Ans)),
      s.thr[t]? = some th → th.prog = .ins c k v cont → Correct cfg c k v) ∧
    (∀ (t : Nat) (th : Thread), s.thr[t]? = some th →
      th.held.length ≤ 1 ∧ (th.held ≠ [] → enabled cfg s t = true)) ∧
    (∀ t, finished s t = false → ∃ u, enabled cfg s u = true)

theorem C14_holds : C14_full := fun _ _ c0 h0 sched =>
  ⟨cache_inv_reachable c0 h0 sched,
   fun t th as ht hp => answer_eq_pure c0 h0 sched t th as ht hp,
   fun t th c k v cont ht hp => no_partial_value c0 h0 sched t th c k v cont ht hp,
   fun t th ht => ⟨(one_guard c0 h0 sched t th ht).1, fun hh => no_hold_and_wait c0 h0 sched t th ht hh⟩,
   fun t hf => deadlock_free c0 h0 sched t hf⟩

/-! Non-vacuity.  The example namespace of C13 (diamond, undefined supertype, conjunct), one shard for all
keys (the most blocking choice), two threads asking overlapping queries against cold caches. -/
def exRows : List Row :=
  [ { name := some ['m'], isRaw := [] },
    { name := some ['a'], isRaw := [some ['m']] },
    { name := some ['b'], isRaw := [some ['m'], some ['z', 'z'], none] },
    { name := some ['d'], isRaw := [some ['a'], some ['b']] },
    { name := some ['a', '-', 'b'], isRaw := [some ['d']] } ]
def exCfg : Cfg := { ns := make exRows, fuel := fuelFor (make exRows).defs, shard := fun _ => 0 }
def exQss : List (List Query) :=
  [ [.inh ['d'], .fits ['a', '-', 'b'] ['m']], [.allSup ['d'], .inh ['d'], .reflFits [(['a'], true), (['b'], true)] ['d']] ]

def answers (s : State) (t : Nat) : Option (List Ans) :=
  match s.thr[t]? with
  | some th => match th.prog with
    | .ret as => some as
    | _ => none
  | none => none

/-- strict alternation until both are done: both threads get the cache-free answers -/
example : let s := run exCfg (init exCfg cold exQss) (List.replicate 200 [0, 1]).flatten
    answers s 0 = some (exQss[0]!.map (pureAns exCfg)) ∧ answers s 1 = some (exQss[1]!.map (pureAns exCfg)) ∧
    finished s 0 = true ∧ finished s 1 = true := by decide +kernel

/-- thread 1 first, then thread 0 on warm caches: same answers -/
example : let s := run exCfg (init exCfg cold exQss) (List.replicate 300 1 ++ List.replicate 300 0)
    answers s 0 = some (exQss[0]!.map (pureAns exCfg)) ∧ answers s 1 = some (exQss[1]!.map (pureAns exCfg)) := by
  decide +kernel

/-- a state in which a thread waits: thread 0 has missed `sup d`, found the key absent and is about to insert
when thread 1 (on caches warmed by itself) holds a guard of the same shard; thread 1 is enabled, and after its
drop thread 0 proceeds. -/
def exQss2 : List (List Query) := [[.sup ['d']], [.sup ['a'], .sup ['a']]]
def exWait : State := run exCfg (init exCfg cold exQss2) [1, 1, 1, 1, 1, 0, 0, 1]
example : blocked exCfg exWait 0 = true ∧ enabled exCfg exWait 0 = false ∧ enabled exCfg exWait 1 = true ∧
    blocked exCfg (step exCfg exWait 1) 0 = false := by decide +kernel


/-! ## Callers that KEEP an answer (formal counterpart of known finding GUARD)

`Namespace::supertypes_of` / `inheritance` return a read guard into the cache shard.  Everything above is about
programs that drop it before their next cache operation (`Safe`); the library's own code is of that kind.  The
system itself (`step`, `run`, `blocked`, `enabled`) runs ANY thread program: `initP c0 progs`. -/

/-- THE DISCIPLINE, on arbitrary programs: every `get` / `contains_key` / `insert` is performed while NO answer is
alive, i.e. every answer is dropped before the next query (`Safe false`, Hs.Lemmas.NsCacheLib).  `Prog` is
higher-order (a continuation is a function of the cached vector), so on `Prog` this is an inductive predicate; on
caller SCRIPTS it is the decidable `dropsBeforeNext` (`script_disciplined`). -/
def DropsBeforeNext {α : Type} (p : Prog α) : Prop := Safe false p

/-- Deadlock freedom for the thread programs of a class `P`: from any caches satisfying the invariant, under any
schedule, for any number of threads - if some thread has not finished, some thread can take a step. -/
def DeadlockFreeFor (P : Cfg → Prog (List Ans) → Prop) : Prop :=
  ∀ (cfg : Cfg) (progs : List (Prog (List Ans))) (c0 : Caches), Inv cfg c0 → (∀ p ∈ progs, P cfg p) →
    ∀ (sched : List Nat) (t : Nat), finished (run cfg (initP c0 progs) sched) t = false →
      ∃ u, enabled cfg (run cfg (initP c0 progs) sched) u = true

/-- the programs callers of the public API can write: scripts of `ask` / `keep` / `release` -/
def IsCaller (cfg : Cfg) (p : Prog (List Ans)) : Prop := ∃ sc : Script, p = callerP cfg sc 0

/-! ### (a) the discipline gives deadlock freedom, and the library obeys it -/

/-- **Positive boundary (a).**  Threads that drop every answer before their next query never deadlock: ALL
configurations, shard functions, thread counts, schedules, and (not even needed) all initial caches. -/
theorem C14_deadlock_free_disciplined : DeadlockFreeFor (fun _ p => DropsBeforeNext p) :=
  fun _ _ c0 _ hP sched t hf => sinv_some_enabled (sinv_run sched _ (sinv_initP c0 hP)) t hf

/-- the same without the hypothesis on the caches, with the guard facts: no reachable state is a deadlock, a thread
holds at most one guard, a guard holder is enabled -/
theorem C14_disciplined_never_deadlocks (cfg : Cfg) (progs : List (Prog (List Ans))) (c0 : Caches)
    (hP : ∀ p ∈ progs, DropsBeforeNext p) (sched : List Nat) :
    let s := run cfg (initP c0 progs) sched
    ¬ Deadlock cfg s ∧
    ∀ (t : Nat) (th : Thread), s.thr[t]? = some th → th.held.length ≤ 1 ∧ (th.held ≠ [] → enabled cfg s t = true) := by
  have hs : SInv (run cfg (initP c0 progs) sched) := sinv_run sched _ (sinv_initP c0 hP)
  refine ⟨fun hd => ?_, fun t th ht => ⟨sinv_one_guard hs ht, fun hh => sinv_holder_enabled hs ht hh⟩⟩
  obtain ⟨⟨t, hf⟩, _⟩ := deadlock_stuck hd
  obtain ⟨u, hu⟩ := sinv_some_enabled (cfg := cfg) hs t hf
  rw [stuck_no_enabled (deadlock_stuck hd) u] at hu
  cases hu

/-- every program the library itself runs obeys the discipline: `supertypes_of` + read, `all_supertypes_of`,
`inheritance` + read, `fits`, `reflect` (with the `compute_entity_type` loop), `Reflection::fits` … -/
theorem library_disciplined (cfg : Cfg) :
    (∀ k, DropsBeforeNext (supG cfg.ns.defs k)) ∧
    (∀ k, DropsBeforeNext (allSupP cfg.fuel cfg.ns.defs k)) ∧
    (∀ k, DropsBeforeNext (inhG cfg.fuel cfg.ns k)) ∧
    (∀ a b, DropsBeforeNext (fitsP cfg.fuel cfg.ns a b)) ∧
    (∀ r, DropsBeforeNext (reflectP cfg.fuel cfg.ns r)) ∧
    (∀ r b, DropsBeforeNext (reflFitsP cfg.fuel cfg.ns r b)) ∧
    (∀ q, DropsBeforeNext (queryP cfg q)) ∧
    (∀ qs, DropsBeforeNext (runQs cfg qs)) :=
  ⟨safe_supG _, fun k => (lib_allSupP k).1, fun k => (lib_inhG k).1, fun a b => (lib_fitsP a b).1,
   fun r => (lib_reflectP r).1, fun r b => (lib_reflFitsP r b).1, fun q => (lib_queryP q).1, fun qs => (lib_runQs qs).1⟩

/-- … and so does every caller script that passes the decidable test `dropsBeforeNext`: each `keep` is followed at
once by its `release` (or ends the script) -/
theorem script_disciplined (cfg : Cfg) (sc : Script) (h : dropsBeforeNext sc = true) :
    DropsBeforeNext (callerP cfg sc 0) := by
  unfold DropsBeforeNext
  revert h
  -- `keepP` ends holding a guard exactly when its result is `ok` (`safeTo_keepP`); `callerP` then goes on with
  -- `kept = 1`, so what follows the `keep` starts with the `drop` of the `release` or of the end of the script;
  -- on any other result `kept` stays 0 and what follows holds nothing
  induction sc using dropsBeforeNext.induct with
  | case1 => intro _; exact .ret
  | case2 q cs ih =>
    intro h
    simp only [dropsBeforeNext] at h
    simp only [callerP]
    exact safe_bind (lib_queryP q).1 (fun _ => safe_bind (ih h) (fun _ => .ret))
  | case3 c k =>
    intro _
    simp only [callerP]
    refine safeTo_bind (safeTo_keepP cfg c k) (fun r => ?_)
    cases r <;> first | exact .drop .ret | exact .ret
  | case4 c k cs ih =>
    intro h
    simp only [dropsBeforeNext] at h
    simp only [callerP]
    refine safeTo_bind (safeTo_keepP cfg c k) (fun r => ?_)
    cases r <;> first
      | exact .drop (safe_bind (ih h) (fun _ => .ret))
      | exact safe_bind (ih h) (fun _ => .ret)
  | case5 c k cs h1 h2 =>
    intro h
    simp [dropsBeforeNext] at h
  | case6 cs ih =>
    intro h
    simp only [dropsBeforeNext] at h
    simp only [callerP]
    exact ih h

theorem init_eq_initP (cfg : Cfg) (c0 : Caches) (qss : List (List Query)) :
    init cfg c0 qss = initP c0 (qss.map (runQs cfg)) := init_eq cfg c0 qss

/-- `deadlock_free` above is the instance "threads run the library's programs" - for ANY initial caches -/
theorem C14_deadlock_free_library (cfg : Cfg) (qss : List (List Query)) (c0 : Caches) (sched : List Nat) (t : Nat)
    (hf : finished (run cfg (init cfg c0 qss) sched) t = false) :
    ∃ u, enabled cfg (run cfg (init cfg c0 qss) sched) u = true :=
  sinv_some_enabled (sinv_run sched _ (sinv_init cfg c0 qss)) t hf

/-! ## The association / implementation / relationship queries (C13 part 2)

`Query` also has `assoc p a` (`associations`; `is`, `tag_on`, `tags` are instances), `impl k` (`implementation`),
`fitsRoot w k` (`fits_marker/val/choice/entity`) and `rel ..` (`has_relationship` with the resolver's records, `fits`
called where the code calls it).  Their programs touch the caches only through `inheritance`, `all_supertypes_of`
and `fits`, so everything above - `C14_holds` for every interleaving of any number of threads, the discipline,
deadlock freedom - covers them without a further word.  What their cache-free answers ARE: -/

theorem part2_answers_are_C13 (cfg : Cfg) :
    (∀ p a, pureAns cfg (.assoc p a) = .names (NsA.associations cfg.fuel cfg.x p a)) ∧
    (∀ k, pureAns cfg (.impl k) = .pair (NsA.implementation cfg.fuel cfg.x k)) ∧
    (∀ w k, pureAns cfg (.fitsRoot w k) = .bool (NsA.fitsRoot cfg.fuel cfg.x w k)) ∧
    (∀ recs r term target s, pureAns cfg (.rel recs r term target s)
        = .bool (hasRelationshipL cfg.fuel (recs.length + 1) cfg.x recs r term target s)) :=
  ⟨fun _ _ => rfl, fun _ => rfl, fun _ _ => rfl, fun _ _ _ _ _ => rfl⟩

/-- the configuration of a namespace built by `makeX` -/
def cfgOf (rows : List NsA.RowX) (shard : Name → Nat) : Cfg :=
  { ns := (NsA.makeX rows).ns, fuel := fuelFor (NsA.makeX rows).ns.defs, shard := shard, xd := (NsA.makeX rows).xd }

/-- `has_relationship`: its cache-free answer `pureAns` (by `C14_holds` the answer under every interleaving with
any other queries of any number of threads) is a Bool (no endless walk over the resolver's records, whatever
cycles their Refs form), and is the function of C13 part 2 - the abstract loop of C09 over records classified up
front -/
theorem has_relationship_answer (rows : List NsA.RowX) (shard : Name → Nat) (recs : List NsA.RecX) (r : Name)
    (term target : Option Name) (s : NsA.RecX) :
    pureAns (cfgOf rows shard) (.rel recs r term target s)
      = .bool (NsA.hasRelationship (fuelFor (NsA.makeX rows).ns.defs) (recs.length + 1) (NsA.makeX rows) recs r term target s) ∧
    ∃ b, pureAns (cfgOf rows shard) (.rel recs r term target s) = .bool (.ok b) := by
  -- `pureAns` of a `rel` query is by definition the lazily evaluated `hasRelationshipL`
  have h1 := congrArg Ans.bool (hasRelationshipL_eq rows _ (Nat.le_refl _) (recs.length + 1) recs r term target s)
  obtain ⟨b, hb⟩ := NsA.hasRelationship_total (NsA.makeX rows) _ (Nat.le_refl _) recs (recs.length + 1) (Nat.lt_succ_self _) r term target s
  exact ⟨h1, b, h1.trans (congrArg Ans.bool hb)⟩

/-- the programs of these queries obey the guard discipline like the others -/
theorem library_disciplined_part2 (cfg : Cfg) :
    (∀ p a, DropsBeforeNext (associationsP cfg.fuel cfg.x p a)) ∧
    (∀ k, DropsBeforeNext (implementationP cfg.fuel cfg.x k)) ∧
    (∀ lf recs r term target s, DropsBeforeNext (hasRelationshipP cfg.fuel lf cfg.x recs r term target s)) :=
  ⟨fun p a => (lib_associationsP p a).1, fun k => (lib_implementationP k).1,
   fun lf recs r term target s => (lib_hasRelationshipP lf recs r term target s).1⟩

/-! Non-vacuity: a miniature library (`tags` computed from `tagOn`; `containedBy` transitive), two threads asking
`tags`, `implementation`, `fits_entity` and a transitive `has_relationship` over records whose Refs form a cycle,
against cold caches under strict alternation: the cache-free answers. -/
section
open Hs.NsA
def xRows : List RowX :=
  [ { name := some nAssociation, tags := [] },
    { name := some nRelationship, tags := [] },
    { name := some nTagOn, tags := [(nIs, .list [some nAssociation])] },
    { name := some nTags, tags := [(nIs, .list [some nAssociation]), (nComputed, .marker), (nReciprocalOf, .sym nTagOn)] },
    { name := some nEntity, tags := [] },
    { name := some ['e','q'], tags := [(nIs, .list [some nEntity]), (nMandatory, .marker)] },
    { name := some ['a','h'], tags := [(nIs, .list [some ['e','q']])] },
    { name := some ['f'], tags := [(nTagOn, .list [some ['e','q']])] },
    { name := some ['c','b'], tags := [(nIs, .list [some nRelationship]), (nTransitive, .marker)] },
    { name := some ['e','R'], tags := [(['c','b'], .sym ['e','q'])] } ]
def xCfg : Cfg := cfgOf xRows (fun _ => 0)
def xRecs : List RecX :=
  [ { key := some ['1'], id := some ['1'], tags := [{ key := ['e','R'], ref := some ['2'] }, { key := ['i','d'], ref := some ['1'] }] },
    { key := some ['2'], id := some ['2'], tags := [{ key := ['e','R'], ref := some ['1'] }, { key := ['i','d'], ref := some ['2'] }] } ]
def xQss : List (List Query) :=
  [ [.assoc ['a','h'] nTags, .rel xRecs ['c','b'] (some ['e','q']) (some ['2']) xRecs[0]!],
    [.impl ['a','h'], .fitsRoot 3 ['a','h'], .rel xRecs ['c','b'] none (some ['9']) xRecs[0]!] ]

example : pureAns xCfg (.assoc ['a','h'] nTags) = .names (.ok [['f']]) ∧
    pureAns xCfg (.impl ['a','h']) = .pair (.ok ([['a','h']], [['e','q']])) ∧
    pureAns xCfg (.fitsRoot 3 ['a','h']) = .bool (.ok true) ∧
    pureAns xCfg (.rel xRecs ['c','b'] (some ['e','q']) (some ['2']) xRecs[0]!) = .bool (.ok true) ∧
    pureAns xCfg (.rel xRecs ['c','b'] none (some ['9']) xRecs[0]!) = .bool (.ok false) := by decide +kernel

example : let s := run xCfg (init xCfg cold xQss) (List.replicate 400 [0, 1]).flatten
    answers s 0 = some (xQss[0]!.map (pureAns xCfg)) ∧ answers s 1 = some (xQss[1]!.map (pureAns xCfg)) ∧
    finished s 0 = true ∧ finished s 1 = true := by
  -- both threads have finished after 70 rounds, the other 330 change nothing
  rw [show (List.replicate 400 [0, 1]).flatten = (List.replicate 70 [0, 1]).flatten ++ (List.replicate 330 [0, 1]).flatten
    from by decide +kernel, run_finished_tail _ _ _ (by decide +kernel)]
  decide +kernel
end


/-! ### the counterexample: two defs in one shard -/

/-- five defs; two DashMap shards, the shard of a symbol is the parity of its length: `x`, `y`, `m` share shard 1,
`xx`, `yy` share shard 0 -/
def kRows : List Row :=
  [ { name := some ['m'], isRaw := [] },
    { name := some ['x'], isRaw := [some ['m']] },
    { name := some ['y'], isRaw := [some ['m']] },
    { name := some ['x', 'x'], isRaw := [some ['m']] },
    { name := some ['y', 'y'], isRaw := [some ['m']] } ]
def kCfg : Cfg := { ns := make kRows, fuel := fuelFor (make kRows).defs, shard := fun k => k.length % 2 }

/-- `let g = ns.supertypes_of(^x); ns.supertypes_of(^y);` -/
def kSelf : Script := [.keep .sup ['x'], .ask (.sup ['y'])]

theorem kSelf_is_keepThen : callerP kCfg kSelf 0 = keepThen kCfg .sup ['x'] (.sup ['y']) := rfl

/-- after six steps (miss, absent, insert, get = the kept answer; miss, absent) the thread waits for the write lock
of the shard its own kept answer read-locks -/
theorem kSelf_stuck : Stuck kCfg (run kCfg (initC kCfg cold [kSelf]) (List.replicate 6 0)) :=
  stuckB_sound (by decide +kernel)

/-- **GUARD, one thread.**  A caller that keeps `supertypes_of(x)` alive and asks the cold `supertypes_of(y)`,
`y` in the shard of `x`, never finishes under ANY schedule; after its sixth step the state is a deadlock. -/
theorem C14_kept_answer_deadlocks_one_thread :
    ∃ (cfg : Cfg) (c : CacheId) (k : Name) (q : Query),
      (∀ sched : List Nat, finished (run cfg (initP cold [keepThen cfg c k q]) sched) 0 = false) ∧
      (∃ pre : List Nat, Deadlock cfg (run cfg (initP cold [keepThen cfg c k q]) pre)) := by
  refine ⟨kCfg, .sup, ['x'], .sup ['y'], fun sched => ?_, List.replicate 6 0, stuck_deadlock kSelf_stuck⟩
  exact never_finishes_single (s := initC kCfg cold [kSelf]) rfl 6 (by decide +kernel) kSelf_stuck sched

/-- the same with `inheritance`: `let g = ns.inheritance(^x); ns.inheritance(^y);` is stuck after 23 steps (the
`supertypes_of` inserts of the computation pass - another DashMap -, the `inheritance` insert does not) -/
def kSelfInh : Script := [.keep .inh ['x'], .ask (.inh ['y'])]
theorem kSelfInh_stuck : Stuck kCfg (run kCfg (initC kCfg cold [kSelfInh]) (List.replicate 23 0)) :=
  stuckB_sound (by decide +kernel)
example (sched : List Nat) : finished (run kCfg (initC kCfg cold [kSelfInh]) sched) 0 = false :=
  never_finishes_single rfl 23 (by decide +kernel) kSelfInh_stuck sched

/-- `let g = ns.supertypes_of(^x); ns.supertypes_of(^yy);` and `let g = ns.supertypes_of(^xx); ns.supertypes_of(^y);`
- each keeps an answer in the shard the other's cold query must write -/
def kT0 : Script := [.keep .sup ['x'], .ask (.sup ['y', 'y'])]
def kT1 : Script := [.keep .sup ['x', 'x'], .ask (.sup ['y'])]
/-- thread 0 obtains and keeps its answer (4 steps), thread 1 likewise, then each runs into its insert -/
def kPre : List Nat := [0, 0, 0, 0, 1, 1, 1, 1, 0, 0, 1, 1]

theorem kMutual_stuck : Stuck kCfg (run kCfg (initC kCfg cold [kT0, kT1]) kPre) :=
  stuckB_sound (by decide +kernel)

/-- **GUARD, two threads.**  Neither caller blocks itself (alone, or one after the other, both complete with the
cache-free answers), but after the schedule prefix `kPre` both wait for the other's kept answer for ever: under
every extension of the schedule both stay blocked and unfinished. -/
theorem C14_kept_answers_deadlock_two_threads :
    ∃ (cfg : Cfg) (sc0 sc1 : Script) (pre : List Nat),
      (∃ n, finished (run cfg (initC cfg cold [sc0]) (List.replicate n 0)) 0 = true) ∧
      (∃ n, finished (run cfg (initC cfg cold [sc1]) (List.replicate n 0)) 0 = true) ∧
      (∃ sched, finished (run cfg (initC cfg cold [sc0, sc1]) sched) 0 = true ∧
                finished (run cfg (initC cfg cold [sc0, sc1]) sched) 1 = true) ∧
      Deadlock cfg (run cfg (initC cfg cold [sc0, sc1]) pre) ∧
      ∀ ext : List Nat,
        let s := run cfg (run cfg (initC cfg cold [sc0, sc1]) pre) ext
        finished s 0 = false ∧ finished s 1 = false ∧ blocked cfg s 0 = true ∧ blocked cfg s 1 = true := by
  refine ⟨kCfg, kT0, kT1, kPre, ⟨12, by decide +kernel⟩, ⟨12, by decide +kernel⟩,
    ⟨List.replicate 12 0 ++ List.replicate 12 1, by decide +kernel⟩, stuck_deadlock kMutual_stuck, fun ext => ?_⟩
  simp only
  rw [stuck_run kMutual_stuck ext]
  decide +kernel

/-- **Deadlock freedom does NOT extend to callers of the public API that keep an answer** … -/
theorem C14_deadlock_free_fails_for_keeping_callers : ¬ DeadlockFreeFor IsCaller := by
  intro h
  obtain ⟨u, hu⟩ := h kCfg [callerP kCfg kSelf 0] cold cold_inv
    (fun p hp => ⟨kSelf, by simpa using hp⟩) (List.replicate 6 0) 0 (by decide +kernel)
  have := stuck_no_enabled kSelf_stuck u
  simp only [initC, List.map_cons, List.map_nil] at this
  rw [this] at hu
  cases hu

/-- … hence not to arbitrary thread programs -/
theorem C14_deadlock_free_fails_for_arbitrary_programs : ¬ DeadlockFreeFor (fun _ _ => True) :=
  fun h => C14_deadlock_free_fails_for_keeping_callers (fun cfg progs c0 h0 _ => h cfg progs c0 h0 (fun _ _ => trivial))

/-- the counterexample scripts fail the decidable test, the repaired callers (`release` before the next query)
pass it and complete -/
example : dropsBeforeNext kSelf = false ∧ dropsBeforeNext kT0 = false ∧ dropsBeforeNext kT1 = false := by decide
def kSelfOk : Script := [.keep .sup ['x'], .release, .ask (.sup ['y'])]
example : dropsBeforeNext kSelfOk = true := by decide
example : let s := run kCfg (initC kCfg cold [kSelfOk]) (List.replicate 12 0)
    finished s 0 = true ∧ answers s 0 = some (scriptAns kCfg kSelfOk) := by decide +kernel
example := C14_deadlock_free_disciplined kCfg [callerP kCfg kSelfOk 0] cold cold_inv
  (fun p hp => by rw [List.mem_singleton.1 hp]; exact script_disciplined kCfg kSelfOk (by decide))

/-! ### (b) a kept answer followed by warm queries only -/

/-- **Positive boundary (b).**  ANY configuration, ANY caller scripts in the other threads (keeping what they like),
ANY schedule prefix `pre`: if in the state reached the remaining program of thread `t` is WARM - every key it will
ask for is cached (`allHit`: the dry run meets hits only, no `insert` is reached) - then, whatever answers `t` or
anybody else keeps alive and whatever the rest `ext` of the schedule, `t` is never blocked, and it has finished as
soon as it was scheduled `hitLen` times. -/
theorem C14_kept_answer_warm_ok (cfg : Cfg) (scripts : List Script) (c0 : Caches) (h0 : Inv cfg c0)
    (pre : List Nat) (t : Nat) (th : Thread)
    (ht : (run cfg (initC cfg c0 scripts) pre).thr[t]? = some th)
    (hw : allHit (run cfg (initC cfg c0 scripts) pre).c th.prog = true) (ext : List Nat) :
    blocked cfg (run cfg (run cfg (initC cfg c0 scripts) pre) ext) t = false ∧
    (hitLen (run cfg (initC cfg c0 scripts) pre).c th.prog ≤ ext.count t →
      finished (run cfg (run cfg (initC cfg c0 scripts) pre) ext) t = true) :=
  warm_never_blocked (ainv_run pre _ (ainv_initC h0 scripts)) ht hw ext

/-- the same for arbitrary thread programs that insert only correct values (`Good`, any post-conditions) -/
theorem C14_kept_answer_warm_ok_progs (cfg : Cfg) (post : Nat → List Ans → Prop) (progs : List (Prog (List Ans)))
    (c0 : Caches) (h0 : Inv cfg c0) (hg : ∀ t p, progs[t]? = some p → Good cfg (post t) c0 p)
    (pre : List Nat) (t : Nat) (th : Thread)
    (ht : (run cfg (initP c0 progs) pre).thr[t]? = some th)
    (hw : allHit (run cfg (initP c0 progs) pre).c th.prog = true) (ext : List Nat) :
    blocked cfg (run cfg (run cfg (initP c0 progs) pre) ext) t = false ∧
    (hitLen (run cfg (initP c0 progs) pre).c th.prog ≤ ext.count t →
      finished (run cfg (run cfg (initP c0 progs) pre) ext) t = true) :=
  warm_never_blocked (ainv_run pre _ (ainv_initP h0 hg)) ht hw ext

/-- `supertypes_of(k)` / `inheritance(k)` as a query -/
def directQ : CacheId → Name → Query
  | .sup, k => .sup k
  | .inh, k => .inh k

/-- (b) for the very shape of GUARD, `let g = ns.<c>(k); ns.<c'>(k')`, with BOTH keys cached: whatever the shards,
the caller never waits and is done after four steps of its own (hit, hit, drop, end of scope) -/
theorem C14_keepThen_warm_ok (cfg : Cfg) (c0 : Caches) (h0 : Inv cfg c0) (c c' : CacheId) (k k' : Name)
    (hk : (look c k c0).isSome = true) (hk' : (look c' k' c0).isSome = true) (sched : List Nat) :
    blocked cfg (run cfg (initP c0 [keepThen cfg c k (directQ c' k')]) sched) 0 = false ∧
    (4 ≤ sched.count 0 → finished (run cfg (initP c0 [keepThen cfg c k (directQ c' k')]) sched) 0 = true) := by
  obtain ⟨v, hv⟩ := Option.isSome_iff_exists.1 hk
  obtain ⟨v', hv'⟩ := Option.isSome_iff_exists.1 hk'
  obtain ⟨a, hq, hql⟩ : ∃ a, hitRun c0 (queryP cfg (directQ c' k')) = some a ∧
      hitLen c0 (queryP cfg (directQ c' k')) = 2 := by
    cases c'
    · exact ⟨_, hit_query_sup hv'⟩
    · exact ⟨_, hit_query_inh hv'⟩
  obtain ⟨hw, hl⟩ := hit_keepThen (cfg := cfg) hv hq
  have h4 : hitLen c0 (keepThen cfg c k (directQ c' k')) ≤ 4 := by rw [hl, hql]; exact Nat.le_refl 4
  have h := C14_kept_answer_warm_ok cfg [[.keep c k, .ask (directQ c' k')]] c0 h0 [] 0
    { prog := keepThen cfg c k (directQ c' k'), held := [] } rfl hw sched
  exact ⟨h.1, fun h' => h.2 (Nat.le_trans h4 h')⟩

/-- non-vacuity: the one-thread counterexample `kSelf` (`x`, `y` in one shard) started on caches in which both keys
are present - the caches a thread asking `supertypes_of(x)`, `supertypes_of(y)` leaves behind - never waits -/
def kWarmCaches : Caches := (run kCfg (init kCfg cold [[.sup ['x'], .sup ['y']]]) (List.replicate 10 0)).c
theorem kWarmCaches_inv : Inv kCfg kWarmCaches :=
  cache_inv_reachable (qss := [[.sup ['x'], .sup ['y']]]) cold cold_inv _
example (sched : List Nat) := C14_keepThen_warm_ok kCfg kWarmCaches kWarmCaches_inv .sup .sup ['x'] ['y']
  (by decide +kernel) (by decide +kernel) sched

/-- non-vacuity: `all_supertypes_of(y)` (cold: inserts `y`, `m`), then `let g = supertypes_of(x)` (cold, same
shard 1, kept), then `all_supertypes_of(y)` and `supertypes_of(m)` again: after the first 14 steps the thread HOLDS
a guard on shard 1 and its remaining program is warm; it completes with the cache-free answers.  The same caller
with a cold last query (`yy`, other shard: fine; `y` not asked before: stuck) is the counterexample above. -/
def kWarm : Script := [.ask (.allSup ['y']), .keep .sup ['x'], .ask (.allSup ['y']), .ask (.sup ['m'])]
def kWarmAt : State := run kCfg (initC kCfg cold [kWarm]) (List.replicate 14 0)
/-- guards held by thread `t`, is its remaining program warm, length of the warm run -/
def warmAt (s : State) (t : Nat) : Option (List (CacheId × Name) × Bool × Nat) :=
  (s.thr[t]?).map fun th => (th.held, allHit s.c th.prog, hitLen s.c th.prog)
theorem kWarmAt_warm : warmAt kWarmAt 0 = some ([(.sup, ['x'])], true, 7) := by decide +kernel
example : warmAt kWarmAt 0 = some ([(.sup, ['x'])], true, 7) := kWarmAt_warm
/-- the theorem applied: whatever the rest of the schedule, the thread never waits -/
example (ext : List Nat) : blocked kCfg (run kCfg kWarmAt ext) 0 = false := by
  have hw0 := kWarmAt_warm
  cases ht : kWarmAt.thr[0]? with
  | none => simp [warmAt, ht] at hw0
  | some th =>
    have hw : allHit kWarmAt.c th.prog = true := by
      simp only [warmAt, ht, Option.map_some, Option.some.injEq, Prod.mk.injEq] at hw0
      exact hw0.2.1
    exact (C14_kept_answer_warm_ok kCfg [kWarm] cold cold_inv (List.replicate 14 0) 0 th ht hw ext).1
example : let s := run kCfg kWarmAt (List.replicate 7 0)
    finished s 0 = true ∧ answers s 0 = some (scriptAns kCfg kWarm) := by decide +kernel

/-! ### (c) a kept answer never changes an answer -/

/-- **Positive boundary (c).**  History and schedule independence hold for keeping callers whenever they
terminate: in ANY configuration, from ANY caches satisfying the invariant, under ANY schedule, a caller that has
finished got, for each `ask` and each `keep` in order, the answer of the cache-free function - whatever it or the
other threads kept alive meanwhile. -/
theorem C14_kept_answer_answers_unchanged (cfg : Cfg) (scripts : List Script) (c0 : Caches) (h0 : Inv cfg c0)
    (sched : List Nat) (t : Nat) (th : Thread) (as : List Ans)
    (ht : (run cfg (initC cfg c0 scripts) sched).thr[t]? = some th) (hp : th.prog = .ret as) :
    as = scriptAns cfg (scripts.getD t []) :=
  ainv_answer (ainv_run sched _ (ainv_initC h0 scripts)) ht hp

/-- … and the caches of every state such callers reach hold only values of the cache-free functions, only such
values are inserted -/
theorem C14_kept_answer_cache_inv (cfg : Cfg) (scripts : List Script) (c0 : Caches) (h0 : Inv cfg c0)
    (sched : List Nat) :
    let s := run cfg (initC cfg c0 scripts) sched
    (∀ c k v, look c k s.c = some v → Correct cfg c k v) ∧
    (∀ (t : Nat) (th : Thread) (c : CacheId) (k : Name) (v : V) (cont : Prog (List Ans)),
      s.thr[t]? = some th → th.prog = .ins c k v cont → Correct cfg c k v) := by
  have h := ainv_run sched _ (ainv_initC h0 scripts)
  exact ⟨h.inv, fun t th c k v cont ht hp => ainv_insert h ht hp⟩

/-- a script of `ask`s is a query list of the first half: the statements above extend `answer_eq_pure` -/
theorem scripts_extend_queries (cfg : Cfg) (c0 : Caches) (qss : List (List Query)) :
    initC cfg c0 (qss.map (List.map .ask)) = init cfg c0 qss := by
  simp [initC, init_eq_initP, List.map_map, Function.comp_def, callerP_ask]

/-- non-vacuity of (c): the two keeping callers of the two-thread counterexample under the schedule "thread 0
first" both finish, with the cache-free answers -/
example : let s := run kCfg (initC kCfg cold [kT0, kT1]) (List.replicate 12 0 ++ List.replicate 12 1)
    answers s 0 = some (scriptAns kCfg kT0) ∧ answers s 1 = some (scriptAns kCfg kT1) := by decide +kernel

end Hs.C14

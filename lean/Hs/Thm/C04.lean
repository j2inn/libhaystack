/-
  C04 — Zinc text conforms to the Project Haystack grammar in both directions.

  The independent implementation written from the specification is the reference reader
  `Hs.Spec.read` (Lean) and the reference writer harness/src/spell.rs (Rust).  On every run the
  reference reader reads the library's output for thousands of generated values and the library
  reads the reference writer's random spellings (both compared component by component).
  Theorems here: the escape tables of the library's reader and writer, regenerated from the
  source, agree with the grammar's table and with each other; the byte-exact model of the reader
  maps every grammar escape to the code point the grammar assigns; the reference reader and the
  model of the library's reader agree on the scalar sentences below (exhaustive for the finite kinds).
  The write direction is proved for the model (second half of this file): `C04_write_holds` — the reference
  reader reads `encode v` back as `specImage v` for every well-formed `v` with grammar decimals, at any
  nesting depth (ladder `spec_str` … `spec_rows`; the lemmas behind them in `Hs/Lemmas/SpecRt*.lean`).
  The read direction is proved for the model (last part of this file): `C04_read_holds` — the grammar is the
  relation `Hs.Spell.SpellsTop v bs` ("the text `bs` is a sentence that denotes `v`", Hs/Spec/ZincSpell.lean: every
  legal choice of blanks, LF/CRLF/CR, Str/Uri escape, number spelling, trailing list comma, dict separator and grid
  layout) and the byte-exact model of the library's reader decodes every such sentence of a well-formed value to
  the lexical image of that value (the lemmas behind it in `Hs/Lemmas/ZincSpell*.lean`, which instantiate the generic
  rungs of C01's `ZincRt*.lean`).
-/
import Hs.Gen.ZincEscapes
import Hs.Lemmas.SpecRtTop
import Hs.Lemmas.ZincSpellEnc
import Hs.Thm.C01
import Hs.Lemmas.ZincSpellTop
namespace Hs.C04
open Hs Hs.Zinc

/-- the grammar's Str escapes: `\b \f \n \r \t \" \\ \$` (byte after the backslash, code point) -/
def grammarEscapes : List (Nat × Nat) :=
  [(98, 8), (102, 12), (110, 10), (114, 13), (116, 9), (34, 34), (92, 92), (36, 36)]

/-- every grammar escape is read by the library, as the code point the grammar assigns -/
theorem reader_escapes_conform :
    grammarEscapes.all (fun e => Hs.Gen.strEscapesRead.contains e) = true := by decide

/-- the library reads no escape byte with two meanings -/
theorem reader_escapes_functional :
    Hs.Gen.strEscapesRead.all (fun e =>
      Hs.Gen.strEscapesRead.all (fun f => e.1 != f.1 || e.2 == f.2)) = true := by decide

/-- every escape the writer emits is a grammar escape denoting the character it was written for -/
theorem writer_escapes_conform :
    Hs.Gen.strEscapesWrite.all (fun w => grammarEscapes.contains (w.2, w.1)) = true := by decide

/-- writer and reader tables are inverse on what the writer emits -/
theorem writer_reader_inverse :
    Hs.Gen.strEscapesWrite.all (fun w => Hs.Gen.strEscapesRead.contains (w.2, w.1)) = true := by decide

/-- The model of `parse_str_escape` realises the translated reader table: for each row, the escape
`\x` at the start of any text yields exactly the row's code point (as UTF-8). -/
theorem model_realises_reader_table :
    Hs.Gen.strEscapesRead.all (fun e =>
      match parseStrEscape (Scan.make [92, UInt8.ofNat e.1, 34]) with
      | .ok (bs, _) => bs == encChar (Char.ofNat e.2)
      | _ => false) = true := by decide +kernel

/-- The model of the writer realises the translated writer table. -/
theorem model_realises_writer_table :
    Hs.Gen.strEscapesWrite.all (fun w => encStrChar (Char.ofNat w.1) == [92, UInt8.ofNat w.2]) = true := by
  decide +kernel

/-- control characters without a short escape are written as `\u00XX`, which the reference reader
and the model of the library's reader both read back (29 of the 32 controls; `\t`, `\n`, `\r` have short escapes; all 32
are checked) -/
theorem control_chars_round_trip :
    (List.range 32).all (fun n =>
      let c := Char.ofNat n
      let t := encQuoted [c]
      (match Hs.Spec.read t with
       | some (.str s) => s == [c]
       | _ => false) &&
      (match fromBytes t with
       | .ok (.str s) => s == [c]
       | _ => false)) = true := by decide +kernel

/-- The property's write direction, full strength: the reference reader reads the library's text
for `v` as (the lexical image of) `v`.  `SameLex` compares modulo the lexical representation of
numbers.  Stated here; proved for the model as `C04_write_wf` below; decided on the implementation on every run
(requests `C04 read`). -/
def C04_write (WF : Val → Prop) (SameLex : Val → Val → Prop) : Prop :=
  ∀ v, WF v → ∃ v', Hs.Spec.read (encode v) = some v' ∧ SameLex v v'

/-- finite kinds: both readers agree with the writer -/
theorem literals_conform :
    [Val.null, .marker, .remove, .na, .bool true, .bool false].all (fun v =>
      (match Hs.Spec.read (encode v), fromBytes (encode v) with
       | some a, .ok b => a.kindIdx == v.kindIdx && b.kindIdx == v.kindIdx &&
           (match a, b with
            | .bool x, .bool y => x == y && (match v with | .bool z => x == z | _ => false)
            | _, _ => true)
       | _, _ => false)) = true := by decide +kernel


/-! ## The write direction for the model: a proof

The lemmas are in `Hs/Lemmas/SpecRt*.lean`.  Parsers of the reference reader are plain functions
`In → Option (α × In)` that consume a prefix, so every framing lemma reads `p (text ++ rest) = some (x, rest)`.
Vocabulary (shared with C01; `Hs/Lemmas/ZincFollow.lean`, `ZincWf.lean`): `Delim rest` — what follows a value in writer
output: nothing, `,` `]` `}` newline, or a space followed by the lower-case first letter of a tag name; `wfV` — the
decidable well-formedness predicate of C01; `Hs.Spec.strictV` (`ZincStrict.lean`) — the grammar's decimals.
-/

/-- the image of a number: what the reference reader returns for the printed text (NaN and the infinities without a
unit, a finite number as the decimal text the writer printed) -/
def specNum (n : Num) : Num :=
  if Flt.isNaNBits n.v.bits then { v := { bits := nanBits, txt := "NaN".toList }, unit := none }
  else if Flt.isInfBits n.v.bits then
    (if Flt.signBit n.v.bits then { v := { bits := negInfBits, txt := "-inf".toList }, unit := none }
     else { v := { bits := posInfBits, txt := "inf".toList }, unit := none })
  else { v := { bits := Hs.Spec.specBits, txt := n.v.txt }, unit := n.unit }

mutual
/-- what the reference reader returns for the writer's text of a value: every string, name, tag, cell, row and
nesting identical; numbers and coordinates as the decimal text the writer printed (`Flt.bits = specBits`: "the
double this text denotes"); timestamps as their token text; dates and times as fields -/
def specImage : Val → Val
  | .num n => .num (specNum n)
  | .coord a b => .coord { bits := Hs.Spec.specBits, txt := a.txt } { bits := Hs.Spec.specBits, txt := b.txt }
  | .dateTime t =>
    .dateTime { secs := 0, ns := 0, off := 0, zone := [], tzid := [],
                txt := if t.tzid == "UTC".toList then t.txt else t.txt ++ [' '] ++ t.zone }
  | .list xs => .list (specVals xs)
  | .dict d => .dict (specTags d)
  | .grid md cols rows ver => .grid (specOTags md) (specCols cols) (specRows rows) ver
  | v => v
def specVals : Vals → Vals
  | .nil => .nil
  | .cons v vs => .cons (specImage v) (specVals vs)
def specTags : Tags → Tags
  | .nil => .nil
  | .cons k v t => .cons k (specImage v) (specTags t)
def specOTags : OTags → OTags
  | .none => .none
  | .some t => .some (specTags t)
def specCols : Cols → Cols
  | .nil => .nil
  | .cons n m c => .cons n (specOTags m) (specCols c)
def specRows : Rows → Rows
  | .nil => .nil
  | .cons r rs => .cons (specTags r) (specRows rs)
end

/-! ### `specImage` is the function the lemma files use -/

mutual
theorem specImage_eq : ∀ v : Val, specImage v = Hs.Spec.specImg v
  | .list xs => congrArg Val.list (specVals_eq xs)
  | .dict d => congrArg Val.dict (specTags_eq d)
  | .grid md cols rows ver => by
    simp only [specImage, Hs.Spec.specImg, specOTags_eq md, specCols_eq cols, specRows_eq rows]
  | .num _ | .coord _ _ | .dateTime _ | .null | .remove | .marker | .bool _ | .na | .str _ | .uri _ | .ref _ _
  | .sym _ | .date _ | .time _ | .xstr _ _ => rfl
theorem specVals_eq : ∀ xs : Vals, specVals xs = Hs.Spec.specImgs xs
  | .nil => rfl
  | .cons v vs => by simp only [specVals, Hs.Spec.specImgs, specImage_eq v, specVals_eq vs]
theorem specTags_eq : ∀ t : Tags, specTags t = Hs.Spec.specImgT t
  | .nil => rfl
  | .cons k v t => by simp only [specTags, Hs.Spec.specImgT, specImage_eq v, specTags_eq t]
theorem specOTags_eq : ∀ o : OTags, specOTags o = Hs.Spec.specImgO o
  | .none => rfl
  | .some t => congrArg OTags.some (specTags_eq t)
theorem specCols_eq : ∀ c : Cols, specCols c = Hs.Spec.specImgC c
  | .nil => rfl
  | .cons n m c => by simp only [specCols, Hs.Spec.specImgC, specOTags_eq m, specCols_eq c]
theorem specRows_eq : ∀ r : Rows, specRows r = Hs.Spec.specImgR r
  | .nil => rfl
  | .cons r rs => by simp only [specRows, Hs.Spec.specImgR, specTags_eq r, specRows_eq rs]
end

/-- **spec_str**: every `s : List Char` (controls, quotes, backslash, `$`, astral planes), whatever follows -/
theorem spec_str (s : List Char) (rest : List UInt8) : Hs.Spec.str (encQuoted s ++ rest) = some (s, rest) :=
  by rw [Hs.Spec.encQuoted_append]; exact Hs.Spec.str_quoted s rest

/-- **spec_uri**: every text: the writer escapes `` ` ``, `\` and control characters; the grammar's reader undoes
exactly these -/
theorem spec_uri (s : List Char) (rest : List UInt8) : Hs.Spec.uri (encUri s ++ rest) = some (s, rest) :=
  by rw [Hs.Spec.encUri_append]; exact Hs.Spec.uri_quoted s rest

theorem spec_ref_nodis (f : Nat) (id : List Char) (hid : isRefId id = true) (rest : List UInt8) (hend : RefEnd rest) :
    Hs.Spec.scalar (f + 1) (64 :: encChars id ++ rest) = some (.ref id none, rest) :=
  Hs.Spec.scalar_ref_nodis f id hid rest hend

theorem spec_ref_dis (f : Nat) (id : List Char) (hid : isRefId id = true) (dis : List Char) (rest : List UInt8) :
    Hs.Spec.scalar (f + 1) (64 :: encChars id ++ 32 :: encQuoted dis ++ rest) = some (.ref id (some dis), rest) :=
  Hs.Spec.scalar_ref_dis f id hid dis rest

theorem spec_symbol (f : Nat) (s : List Char) (hs : isSymBody s = true) (rest : List UInt8) (hst : Stop isRefB rest) :
    Hs.Spec.scalar (f + 1) (94 :: encChars s ++ rest) = some (.sym s, rest) :=
  Hs.Spec.scalar_sym f s hs rest hst

theorem spec_xstr (f : Nat) (ty : List Char) (hty : isXStrType ty = true) (v : List Char) (rest : List UInt8) :
    Hs.Spec.scalar (f + 1) (enc (.xstr ty v) true ++ rest) = some (.xstr ty v, rest) :=
  Hs.Spec.scalar_xstr f ty hty v rest

/-- the literal kinds `N M R T F NA`, after any delimiter -/
theorem spec_literals (f : Nat) (rest : List UInt8) (hd : Delim rest) :
    Hs.Spec.scalar (f + 1) (enc .null true ++ rest) = some (.null, rest) ∧
    Hs.Spec.scalar (f + 1) (enc .marker true ++ rest) = some (.marker, rest) ∧
    Hs.Spec.scalar (f + 1) (enc .remove true ++ rest) = some (.remove, rest) ∧
    Hs.Spec.scalar (f + 1) (enc .na true ++ rest) = some (.na, rest) ∧
    Hs.Spec.scalar (f + 1) (enc (.bool true) true ++ rest) = some (.bool true, rest) ∧
    Hs.Spec.scalar (f + 1) (enc (.bool false) true ++ rest) = some (.bool false, rest) := by
  simp only [enc]
  exact ⟨Hs.Spec.scalar_null f rest hd.kwEnd, Hs.Spec.scalar_marker f rest hd.kwEnd,
    Hs.Spec.scalar_remove f rest hd.kwEnd, Hs.Spec.scalar_na f rest hd.kwEnd,
    Hs.Spec.scalar_true f rest hd.kwEnd, Hs.Spec.scalar_false f rest hd.kwEnd⟩

/-- **spec_decimal**: the grammar's decimal `["-"] digits ["." digits]` (`strictDec`), followed by anything that
does not continue it (`Stop isDecCont`: not a digit, `_`, `.`; with exponents allowed: not an exponent) -/
theorem spec_decimal (allowExp : Bool) (tb : List UInt8) (h : Hs.Spec.strictDec tb = true) (rest : List UInt8)
    (hst : Stop Hs.Spec.isDecCont rest) (hexp : allowExp = true → Hs.Spec.NoExp rest) :
    Hs.Spec.decimal allowExp (tb ++ rest) = some (tb, rest) :=
  Hs.Spec.decimal_rt allowExp tb h rest hst hexp

/-- **spec_number**: finite number = strict decimal text + optional symbol of the unit table + delimiter;
the text is not taken for a date or a time, a unit starting with `e`/`E` is not taken for an exponent -/
theorem spec_number (f : Nat) (tb : List UInt8) (hs : Hs.Spec.strictDec tb = true) (uo : Option (List Char))
    (hu : unitOk uo = true) (rest : List UInt8) (hd : Delim rest) :
    Hs.Spec.scalar (f + 1) (tb ++ (unitBytes uo ++ rest)) =
      some (.num { v := { bits := Hs.Spec.specBits, txt := Hs.Spec.chars tb }, unit := uo }, rest) :=
  Hs.Spec.scalar_num_finite f tb hs uo hu rest hd

theorem spec_coord (f : Nat) (la lo : List UInt8) (hla : Hs.Spec.strictDec la = true)
    (hlo : Hs.Spec.strictDec lo = true) (rest : List UInt8) :
    Hs.Spec.scalar (f + 1) (67 :: 40 :: (la ++ 44 :: (lo ++ 41 :: rest))) =
      some (.coord { bits := Hs.Spec.specBits, txt := Hs.Spec.chars la }
                   { bits := Hs.Spec.specBits, txt := Hs.Spec.chars lo }, rest) :=
  Hs.Spec.scalar_coord f la lo hla hlo rest

theorem spec_date (f : Nat) (d : Date) (hok : dateOk d = true) (rest : List UInt8) (hd : Delim rest) :
    Hs.Spec.scalar (f + 1) (encChars d.txt ++ rest) = some (.date d, rest) :=
  Hs.Spec.scalar_date f d hok rest hd

theorem spec_time (f : Nat) (t : Time) (hok : timeOk t = true) (rest : List UInt8) (hd : Delim rest) :
    Hs.Spec.scalar (f + 1) (encChars t.txt ++ rest) = some (.time t, rest) :=
  Hs.Spec.scalar_time f t hok rest hd

/-- **spec_datetime**: date `T` time [fraction] `Z` | `Z Name` | `±hh:mm Name` comes back as its token text -/
theorem spec_datetime (f : Nat) (t : DateTime) (hok : dtOk t = true) (rest : List UInt8) (hd : Delim rest) :
    Hs.Spec.scalar (f + 1) (encDateTime t ++ rest) = some (specImage (.dateTime t), rest) := by
  rw [Hs.Spec.scalar_datetime f t hok rest hd]
  simp [specImage, dtVal, dtText]

/-- **spec_value**: every well-formed value with grammar decimals, nested anywhere (list element, tag value, cell):
`value` reads its text back and leaves what follows (`Hs.Spec.Rd`, by mutual induction on `Val`; the fuel bound is
explained there) -/
theorem spec_value (v : Val) (hwf : wfV v = true) (hs : Hs.Spec.strictV v = true) (fuel : Nat) (rest : List UInt8)
    (hd : Delim rest) (hf : (enc v true).length + 2 ≤ fuel) :
    Hs.Spec.value fuel (enc v true ++ rest) = some (specImage v, rest) := by
  rw [specImage_eq]
  exact (Hs.Spec.rd_of_wf v hwf hs).reads fuel rest hd hf

/-- **spec_list_items**: the elements of a non-empty list up to and including `]` -/
theorem spec_list_items (v : Val) (vs : Vals) (hwf : wfVs (.cons v vs) = true) (hs : Hs.Spec.strictVs (.cons v vs) = true)
    (fuel : Nat) (rest : List UInt8) (acc : List Val) (hf : (encVals (.cons v vs)).length + 3 ≤ fuel) :
    Hs.Spec.listItems fuel (encVals (.cons v vs) ++ 93 :: rest) acc =
      some (.list (Vals.ofList (acc ++ (specVals (.cons v vs)).toList)), rest) := by
  rw [specVals_eq]
  exact Hs.Spec.listItems_rt v vs (Hs.Spec.rdVs_of_wf _ hwf hs) fuel rest acc hf

/-- **spec_tags**: the tags of a dict (`,`-separated, up to `}`) -/
theorem spec_tags (k : List Char) (v : Val) (t : Tags) (hk : keysIdent (.cons k v t) = true)
    (hwf : wfT (.cons k v t) = true) (hs : Hs.Spec.strictT (.cons k v t) = true)
    (fuel : Nat) (rest : List UInt8) (acc : List (List Char × Val))
    (hf : (encTags (.cons k v t) 44).length + 3 ≤ fuel) :
    Hs.Spec.tags fuel (encTags (.cons k v t) 44 ++ 125 :: rest) true acc =
      some (acc ++ (specTags (.cons k v t)).toList, 125 :: rest) := by
  rw [specTags_eq]
  exact Hs.Spec.tags_rt Hs.Spec.ctx_dict k v t hk (Hs.Spec.rdT_of_wf _ hwf hs) fuel rest acc hf

/-- **spec_meta_tags**: grid meta / column meta (space-separated, up to the newline) -/
theorem spec_meta_tags (k : List Char) (v : Val) (t : Tags) (hk : keysIdent (.cons k v t) = true)
    (hwf : wfT (.cons k v t) = true) (hs : Hs.Spec.strictT (.cons k v t) = true)
    (fuel : Nat) (rest : List UInt8) (acc : List (List Char × Val))
    (hf : (encTags (.cons k v t) 32).length + 3 ≤ fuel) :
    Hs.Spec.tags fuel (encTags (.cons k v t) 32 ++ 10 :: rest) false acc =
      some (acc ++ (specTags (.cons k v t)).toList, 10 :: rest) := by
  rw [specTags_eq]
  exact Hs.Spec.tags_rt Hs.Spec.ctx_meta k v t hk (Hs.Spec.rdT_of_wf _ hwf hs) fuel rest acc hf

/-- **spec_cols**: the column line (names, metas on the first, middle and last column) including its newline -/
theorem spec_cols (n : List Char) (md : OTags) (c : Cols) (hshape : colsShapeAux (.cons n md c) = true)
    (hwf : wfC (.cons n md c) = true) (hs : Hs.Spec.strictC (.cons n md c) = true)
    (fuel : Nat) (rest : List UInt8) (acc : List (List Char × OTags)) (hf : colsLen (.cons n md c) + 3 ≤ fuel) :
    Hs.Spec.cols fuel (encCols (.cons n md c) ++ 10 :: rest) acc =
      some (acc ++ (specCols (.cons n md c)).toList, rest) := by
  rw [specCols_eq]
  exact Hs.Spec.cols_rt n md c hshape (Hs.Spec.rdC_of_wf _ hwf hs) fuel rest acc hf

/-- **spec_cells**: one row line (present, Null and missing cells) including its newline -/
theorem spec_cells (r : Tags) (names : List (List Char)) (single : Bool) (hne : names ≠ [])
    (hshape : rowShape names single r = true) (hwf : wfT r = true) (hs : Hs.Spec.strictT r = true)
    (fuel : Nat) (rest : List UInt8) (acc : List (List Char × Val)) (hf : (rowBytes r names single).length + 3 ≤ fuel) :
    Hs.Spec.cells fuel (rowBytes r names single ++ 10 :: rest) names acc =
      some (acc ++ Hs.Spec.cellsOfS r names, rest) :=
  Hs.Spec.cells_rt r single names hne (Hs.Spec.rowOkS_of_shape names single r hshape (Hs.Spec.rdT_of_wf r hwf hs)).cells
    fuel rest acc hf

/-- **spec_rows**: all rows up to the grid's end (`>>` nested, the blank line at top level); each row dict is
rebuilt from the cells in column order -/
theorem spec_rows (names : List (List Char)) (single nested : Bool) (rest : List UInt8) (hne : names ≠ [])
    (hsingle : names.length = 1 → single = true) (hnd : names.Nodup) (rws : Rows)
    (hshape : rowsShape names single rws = true) (hwf : wfR rws = true) (hs : Hs.Spec.strictR rws = true)
    (fuel : Nat) (acc : List Tags) (hf : (encRows rws names single).length + 3 ≤ fuel) :
    Hs.Spec.rows fuel (encRows rws names single ++ tailR nested rest) names acc =
      some (acc ++ (specRows rws).toList, Hs.Spec.afterRows nested rest) := by
  -- `hnd` is not used: a row is rebuilt whatever the column names (`dictOf_cells_img`)
  rw [specRows_eq]
  exact Hs.Spec.rows_rt names single nested rest hne hsingle rws
    (Hs.Spec.rowsOkS_of_shape names single rws hshape (Hs.Spec.rdR_of_wf rws hwf hs)) fuel acc hf

/-- **C04, write direction, for the model**: for every value that is well-formed in the sense of C01 (`wfV`: identifier
names, id alphabets, capitalised XStr types other than `C`, database units, unit-less non-finite numbers, valid
calendar fields and resolvable zones, grids with `ver` 3.0, at least one column, distinct identifier column names,
meta absent or non-empty, row keys among the column names, no missing cell in a single-column grid) and whose
finite numbers and coordinates print as the grammar's decimal `-?d+(.d+)?` (`strictV`; Rust's `Display for f64`
prints exactly this shape, `wfV` alone also allows `5.` and `.5`), **at any nesting depth**, the reference reader
written from the grammar reads the writer's text back as the image of the value.

Numbers, coordinates and timestamps are compared lexically (`specImage`): `parse (fmt x) = x` for `f64` and chrono's
text round trip are trusted-base assumptions validated by the harness on every run. -/
theorem C04_write_holds (v : Val) (hwf : wfV v = true) (hs : Hs.Spec.strictV v = true) :
    Hs.Spec.read (encode v) = some (specImage v) := by
  rw [specImage_eq]
  exact Hs.Spec.read_of_wf v hwf hs

/-- the stated property `C04_write`, for the explicit decidable predicates -/
theorem C04_write_wf :
    C04_write (fun v => wfV v = true ∧ Hs.Spec.strictV v = true) (fun v v' => v' = specImage v) :=
  fun v h => ⟨specImage v, C04_write_holds v h.1 h.2, rfl⟩

/-! ### the hypotheses cannot be dropped; the nesting bound of C01 is not needed -/

def optIs (r : Option Val) (p : Val → Bool) : Bool :=
  match r with
  | some v => p v
  | none => false

/-- `wfV` allows the decimal text `5.` (accepted by `f64::from_str`); the grammar requires a digit after the point -/
theorem C04_cex_strict_num :
    wfV (.num ⟨⟨0, ['5', '.']⟩, none⟩) = true ∧ (Hs.Spec.read (encode (.num ⟨⟨0, ['5', '.']⟩, none⟩))).isSome = false := by
  decide +kernel
/-- … and a digit before it -/
theorem C04_cex_strict_coord :
    wfV (.coord ⟨0, ['.', '5']⟩ ⟨0, ['1']⟩) = true ∧
      (Hs.Spec.read (encode (.coord ⟨0, ['.', '5']⟩ ⟨0, ['1']⟩))).isSome = false := by
  decide +kernel

/-- the writer always prints `ver:"3.0"`: another version string does not come back -/
theorem C04_cex_ver :
    optIs (Hs.Spec.read (encode (.grid .none (.cons ['a'] .none .nil) .nil ['2', '.', '0'])))
      (fun v => match v with | .grid _ _ _ ver => ver == ['3', '.', '0'] | _ => false) = true := by decide +kernel

/-- known finding Z4: in a single-column grid a missing cell is written `N` and comes back as a Null cell -/
theorem C04_cex_single_missing :
    optIs (Hs.Spec.read (encode (.grid .none (.cons ['a'] .none .nil) (.cons .nil .nil) ['3', '.', '0'])))
      (fun v => match v with | .grid _ _ (.cons (.cons _ .null .nil) .nil) _ => true | _ => false) = true := by
  decide +kernel

/-- a grid without columns is written `empty`, which the grammar reads as a column named `empty` -/
theorem C04_cex_no_cols :
    optIs (Hs.Spec.read (encode (.grid .none .nil .nil ['3', '.', '0'])))
      (fun v => match v with | .grid _ (.cons _ _ .nil) _ _ => true | _ => false) = true := by decide +kernel

def deepList : Nat → Val
  | 0 => .list .nil
  | n + 1 => .list (.cons (deepList n) .nil)

/-- the reference reader has no nesting limit: 64 levels (which libhaystack's own reader refuses, see
`Hs.C01.C01_cex_depth`) are read back; the writer's text is a sentence of the grammar at any depth -/
theorem deep64_ok : Hs.Spec.read (encode (deepList 64)) = some (specImage (deepList 64)) :=
  C04_write_holds _ (by decide +kernel) (by decide +kernel)

/-! ### the hypotheses are satisfiable: concrete non-trivial inputs -/

section examples

/-- Str: controls, quote, backslash, `$`, BMP and astral characters -/
example : Hs.Spec.str (encQuoted "a\t\"\\$\x01é€😀".toList ++ [44, 49]) = some ("a\t\"\\$\x01é€😀".toList, [44, 49]) :=
  spec_str _ _
/-- Uri with a control character, a backquote, a backslash and non-ASCII text -/
example : Hs.Spec.uri (encUri "http://x/`a\\b\n é😀".toList ++ [93]) = some ("http://x/`a\\b\n é😀".toList, [93]) :=
  spec_uri _ _

example : isRefId "p:demo:r:2a.b-c~d_E".toList = true := by decide
/-- a Ref followed by a space and a tag name (grid meta): `RefEnd` -/
example : RefEnd [32, 97, 58] := Or.inr (Or.inr ⟨97, [58], rfl, by decide⟩)
example : Hs.Spec.scalar 1 (64 :: encChars "a-1".toList ++ [32, 97, 58]) = some (.ref "a-1".toList none, [32, 97, 58]) :=
  spec_ref_nodis 0 _ (by decide) _ (Or.inr (Or.inr ⟨97, [58], rfl, by decide⟩))
example : isSymBody "lib:ph.a-b".toList = true := by decide
example : Stop isRefB [44] := Stop_cons (by decide)
example : isXStrType "Bin".toList = true := by decide
example : Delim [32, 100, 105, 115] := Or.inr (Or.inr ⟨100, [105, 115], rfl, by decide⟩)
example : Delim [10, 62, 62] := Or.inr (Or.inl ⟨10, [62, 62], rfl, by decide⟩)

/-- decimals: negative fraction, integer; what may follow: a unit starting with `E` is not an exponent -/
example : Hs.Spec.strictDec [45, 49, 50, 46, 53] = true := by decide
example : Hs.Spec.strictDec [49, 48, 48] = true ∧ Stop Hs.Spec.isDecCont [69, 69, 82] ∧ Hs.Spec.NoExp [69, 69, 82] :=
  ⟨by decide, Stop_cons (by decide), by
    intro e r he _ c r' hr
    cases he; cases hr; decide⟩
theorem units_ok :
    unitOk (some "°F".toList) = true ∧ unitOk (some "EER".toList) = true ∧ unitOk (some "kW/m²".toList) = true :=
  Hs.C01.unitOk_samples
example : unitOk (some "°F".toList) = true ∧ unitOk (some "EER".toList) = true ∧ unitOk (some "kW/m²".toList) = true := by
  exact units_ok
/-- `100EER,` : number 100 with unit EER -/
example : Hs.Spec.scalar 1 ([49, 48, 48] ++ (unitBytes (some "EER".toList) ++ [44])) =
    some (.num ⟨⟨Hs.Spec.specBits, "100".toList⟩, some "EER".toList⟩, [44]) :=
  spec_number 0 _ (by decide) _ units_ok.2.1 _ (.of_end [] (by simp))

example : dateOk ⟨2024, 2, 29, "2024-02-29".toList⟩ = true := by decide +kernel
example : timeOk ⟨1, 2, 3, 500000000, "01:02:03.500".toList⟩ = true := by decide +kernel
/-- a leap second -/
example : timeOk ⟨23, 59, 59, 1000000000, "23:59:60".toList⟩ = true := by decide +kernel
/-- timestamps: UTC, an offset zone with a fraction, a zone with offset zero, an `Etc/GMT-3` style name -/
example : dtOk ⟨0, 0, 0, "UTC".toList, "UTC".toList, "2024-02-29T12:34:56Z".toList⟩ = true := by exact Hs.C01.dtOk_utc
theorem dtNY_ok : dtOk ⟨0, 0, -18000, "New_York".toList, "America/New_York".toList,
    "2024-02-29T12:34:56.789-05:00".toList⟩ = true := Hs.C01.dtOk_newYork
example : dtOk ⟨0, 0, -18000, "New_York".toList, "America/New_York".toList,
    "2024-02-29T12:34:56.789-05:00".toList⟩ = true := by exact dtNY_ok
example : dtOk ⟨0, 0, 0, "London".toList, "Europe/London".toList, "2024-01-01T00:00:00Z".toList⟩ = true := by exact Hs.C01.dtOk_london
example : dtOk ⟨0, 0, 10800, "GMT-3".toList, "Etc/GMT-3".toList, "2024-01-01T00:00:00.123456789+03:00".toList⟩ = true := by exact Hs.C01.dtOk_gmt3

def exNum : Val := .num ⟨⟨0, "21.5".toList⟩, some "°C".toList⟩
def exRow1 : Tags := .cons "id".toList (.ref "a-1".toList (some "Room \"1\"".toList))
  (.cons "temp".toList exNum (.cons "ts".toList (.date ⟨2024, 2, 29, "2024-02-29".toList⟩) .nil))
def exRow2 : Tags := .cons "temp".toList .null (.cons "ts".toList
  (.dateTime ⟨0, 0, -18000, "New_York".toList, "America/New_York".toList, "2024-02-29T12:34:56.789-05:00".toList⟩) .nil)
def exRow3 : Tags := .nil
def exInner : Val :=
  .grid .none (.cons "id".toList .none (.cons "temp".toList .none (.cons "ts".toList .none .nil)))
    (.cons exRow1 (.cons exRow2 (.cons exRow3 .nil))) "3.0".toList
/-- a grid with meta (Marker, Str, Ref followed by the next tag), column meta on the first and the last
column, a nested grid and a list of dicts in cells, Null and missing cells -/
def exGrid : Val :=
  .grid (.some (.cons "dis".toList (.str "Site é".toList) (.cons "hisRef".toList (.ref "h".toList none)
      (.cons "m".toList .marker .nil))))
    (.cons "a".toList (.some (.cons "dis".toList (.str "A".toList) (.cons "unitRef".toList (.ref "u".toList none) .nil)))
      (.cons "b".toList .none (.cons "c".toList (.some (.cons "x".toList .marker .nil)) .nil)))
    (.cons (.cons "a".toList exInner (.cons "c".toList
        (.list (.cons (.dict (.cons "k".toList (.uri "http://x/`".toList) (.cons "t".toList
          (.time ⟨1, 2, 3, 0, "01:02:03".toList⟩) .nil))) (.cons (.coord ⟨0, "-1.5".toList⟩ ⟨0, "3".toList⟩)
          (.cons (.xstr "Bin".toList "a\"b".toList) (.cons (.sym "ph-lib".toList) .nil))))) .nil))
      (.cons (.cons "b".toList .na .nil) (.cons .nil .nil)))
    "3.0".toList
def exZeroRows : Val := .grid .none (.cons "only".toList .none .nil) .nil "3.0".toList

/-- the samples are those of C01 (the same definitions, repeated here), well-formed by its lemmas -/
theorem exInner_ok : wfV exInner = true ∧ Hs.Spec.strictV exInner = true :=
  ⟨Hs.C01.exInner_wf, by decide +kernel⟩
theorem exGrid_ok : wfV exGrid = true ∧ Hs.Spec.strictV exGrid = true :=
  ⟨Hs.C01.exGrid_wf.1, by decide +kernel⟩
theorem exZeroRows_ok : wfV exZeroRows = true ∧ Hs.Spec.strictV exZeroRows = true := by decide +kernel

example : wfV exGrid = true ∧ Hs.Spec.strictV exGrid = true := by exact exGrid_ok
example : wfV exZeroRows = true ∧ Hs.Spec.strictV exZeroRows = true := by exact exZeroRows_ok
example : wfVs (.cons exNum (.cons exInner .nil)) = true ∧ Hs.Spec.strictVs (.cons exNum (.cons exInner .nil)) = true := by
  have hn : wfV exNum = true ∧ Hs.Spec.strictV exNum = true := ⟨Hs.C01.exNum_wf, by decide +kernel⟩
  simp only [wfVs, Hs.Spec.strictVs, hn.1, hn.2, exInner_ok.1, exInner_ok.2, Bool.and_self, and_self]
example : keysIdent exRow1 = true ∧ wfT exRow1 = true ∧ Hs.Spec.strictT exRow1 = true :=
  ⟨by decide +kernel, Hs.C01.exRow1_wf, by decide +kernel⟩
example : rowShape ["id".toList, "temp".toList, "ts".toList] false exRow2 = true := by decide +kernel

/-- the nested grid as a list element: `value` leaves the `]` -/
example : Hs.Spec.value 400 (enc exInner true ++ [93]) = some (specImage exInner, [93]) :=
  spec_value exInner exInner_ok.1 exInner_ok.2 400 [93] (.of_end [] (by simp))
    (by decide +kernel)

/-- the example grids through the reference reader, via `C04_write_holds` -/
example : Hs.Spec.read (encode exGrid) = some (specImage exGrid) :=
  C04_write_holds exGrid exGrid_ok.1 exGrid_ok.2
example : Hs.Spec.read (encode exZeroRows) = some (specImage exZeroRows) :=
  C04_write_holds exZeroRows exZeroRows_ok.1 exZeroRows_ok.2

end examples

/-! ## The read direction for the model: a proof

`Hs.Spell.Spells v bs` / `Hs.Spell.SpellsTop v bs` (Hs/Spec/ZincSpell.lean, written from the grammar and from the reference
writer harness/src/spell.rs) say that the text `bs` is a sentence of the Zinc grammar denoting `v` (nested resp. as a
whole document).  The freedoms of the relation are those the property lists: blanks (space, tab) after
`[` `{` `,` `:` and before `,` `]` `}`, inside `C( , )` and `Type( )`, before every line ending, before a document;
line endings LF, CRLF or a lone CR, chosen line by line; every Str / Uri character raw when legal, by its short
escape, or as `\uXXXX` with upper- or lower-case hex digits; the Uri escapes of the library's full table (`` \` ``
`\\` `\[ \] \@ \& \= \;` denote the character, `\: \/ \? \#` are kept verbatim: they denote backslash + character);
numbers with sign, fraction, exponent (`e`/`E`, optional sign) and `_` after any digit of any digit run; trailing
list comma; dict tags separated by blanks (space or tab, at least one) or by a comma (with blanks around); Marker
tags with or without `:M`; grid meta on the `ver` line, column meta, empty cells, nested grids in `<<` … `>>`;
after a grid document any number of further (blank) lines, after any other document blanks and line endings;
time fractions with 1–9 digits.

Numbers, coordinates and timestamps are lexical, as in C01: the value carries the numeral / token text (`Flt.txt`:
the sentence's numeral without `_`, exponent letter `e`; `DateTime.txt`: the token, so `…Z` and `…Z UTC` are two
lexical values), and the theorem says the reader returns exactly that numeral / token.  `wfS` is C01's `wfV`
without the conditions on the numeral (which the spelling relation itself fixes).

Not in the relation: one single blank as the only text after a document that is not a grid (the library reads it;
the scanner's end-of-input flag is raised one byte early there, which the framing lemmas do not follow), blank lines
between rows or before `>>` (the library skips them; the grammar has none).  A lone CR that ends a grid document's
last line, directly followed by an LF, is the CRLF line ending and not two line endings (`SpellsTop.gridNl`).
Residual hypotheses as in C01: nesting ≤ 63, `ver` 3.0, meta not `Some(empty)`, single-column grids without missing
cell, XStr type other than `C`. -/

open Hs.Spell in
/-- The property's read direction, full strength: every sentence is decoded to (the lexical image of) the value it
denotes. -/
def C04_read (WF : Val → Prop) : Prop :=
  ∀ v bs, WF v → SpellsTop v bs → fromBytes bs = .ok (Hs.C01.lexImage v)

/-- … "at any nesting depth" -/
def C04_read_full : Prop := C04_read (fun v => wfS v = true)

open Hs.Spell in
/-- **C04, read direction, for the model**: every sentence of the grammar that denotes a well-formed value `v` (`wfS`:
identifier names, id alphabets, capitalised XStr types other than `C`, database units, valid calendar fields and
resolvable zones, sorted dict keys, grids with `ver` 3.0, at least one column, distinct column names, meta absent
or non-empty, row keys among the column names, no missing cell in a single-column grid) nested at most 63 deep
(`depthOk`: the reader refuses more, see `Hs.C01.C01_cex_depth`) — with ANY legal choice of blanks, line endings,
escapes, number spellings, trailing comma, dict separators and grid layout — is decoded by the model of
`decode::from_str` to the lexical image of `v`. -/
theorem C04_read_holds (v : Val) (bs : List UInt8) (hwf : wfS v = true) (hd : depthOk v = true)
    (h : SpellsTop v bs) : fromBytes bs = .ok (Hs.C01.lexImage v) := by
  rw [Hs.C01.lexImage_eq]
  exact read_of_spells v bs hwf (depthOk_iff.mp hd) h

/-- the stated property `C04_read`, for the explicit decidable predicates -/
theorem C04_read_partial : C04_read (fun v => wfS v = true ∧ depthOk v = true) :=
  fun v bs h hs => C04_read_holds v bs h.1 h.2 hs

/-- C01's well-formedness implies `wfS`: the theorem covers every value C01 covers -/
theorem C04_read_wfV (v : Val) (bs : List UInt8) (hwf : wfV v = true) (hd : depthOk v = true)
    (h : Hs.Spell.SpellsTop v bs) : fromBytes bs = .ok (Hs.C01.lexImage v) :=
  C04_read_holds v bs (wfS_of_wfV v hwf) hd h

open Hs.Spell in
/-- nested position (list element, tag value, cell): after any text that may legally follow a value (`DelimW`:
nothing, `,` `]` `}`, a line ending, or blanks followed by one of these or by a tag name) the reader returns the
image of `v` and stops right behind the sentence -/
theorem C04_read_nested (v : Val) (bs : List UInt8) (hwf : wfS v = true) (h : Spells v bs)
    (depth f1 f2 : Nat) (s : Scan) (rest : List UInt8) (hat : At s (bs ++ rest)) (hs : s.stash = [])
    (hdl : DelimW rest) (hf1 : 4 * bs.length + 8 ≤ f1) (hf2 : 4 * bs.length + 8 ≤ f2) (hn : depth + nestV v < 64) :
    ∃ p p', lexRead f1 s = .ok p ∧ parseValue f2 depth p = .ok (Hs.C01.lexImage v, p') ∧ At p'.sc rest := by
  obtain ⟨p, p', e1, _, _, e2, hp⟩ := (spV v bs hwf h).rd depth f1 f2 s rest hat hs hdl hf1 hf2 hn
  exact ⟨p, p', e1, by rw [Hs.C01.lexImage_eq]; exact e2, hp.1⟩

/-- **the writer's document is one of the sentences** (non-vacuity of the relation; numbers printed as
`-?d+(.d+)?`, i.e. what Rust's `Display for f64` prints) -/
theorem C04_writer_spells (v : Val) (hwf : wfV v = true) (hs : Hs.Spec.strictV v = true) :
    Hs.Spell.SpellsTop v (encode v) :=
  spellsTop_encode v hwf hs

/-- C01 for strict values is a corollary of the read direction -/
theorem C04_read_implies_C01 (v : Val) (hwf : wfV v = true) (hs : Hs.Spec.strictV v = true) (hd : depthOk v = true) :
    fromBytes (encode v) = .ok (Hs.C01.lexImage v) :=
  C04_read_wfV v (encode v) hwf hd (C04_writer_spells v hwf hs)

/-- the nesting bound cannot be dropped: 64 nested lists are a sentence (the writer's), and the reader refuses it -/
theorem C04_read_cex_depth : ¬ C04_read_full := by
  intro h
  have hsp := C04_writer_spells (deepList 64) (by decide +kernel) (by decide +kernel)
  have := h (deepList 64) _ (by decide +kernel) hsp
  have hno : (fromBytes (encode (deepList 64))).isOk = false := by decide +kernel
  rw [this] at hno
  cases hno

/-! ### sentences beyond the writer's image -/

section spellings
open Hs.Spell

abbrev B (s : String) : List UInt8 := bytesOfAscii s

theorem digitsOf (ds bs : List UInt8) (h1 : ds.all digitB = true) (h2 : bs.filter (· != 95) = ds)
    (h3 : (match bs with | d :: _ => digitB d | [] => false) = true) : Digits ds bs := by
  refine ⟨by simpa using h1, h2, ?_⟩
  cases bs with
  | nil => simp at h3
  | cons d r => exact ⟨d, r, rfl, h3⟩

theorem blanksOf (ws : List UInt8) (h : ws.all (fun b => b == 32 || b == 9) = true) : Blanks ws := by
  intro b hb
  have := List.all_eq_true.mp h b hb
  simpa using this

/-- `1_000.5e+3kW`: the numeral is `1000.5e+3` -/
def nKw : Num := ⟨⟨0, "1000.5e+3".toList⟩, some "kW".toList⟩
theorem nKw_sp : NumSp nKw (B "1_000.5e+3kW") :=
  (by decide : B "1_000.5" ++ 101 :: ([43] ++ B "3") ++ unitText nKw.unit = B "1_000.5e+3kW") ▸
  NumSp.exp nKw (by decide) (by decide) (B "1000.5") (B "1_000.5")
    ((by decide : (if false then [45] else []) ++ B "1000" ++ 46 :: B "5" = B "1000.5") ▸
     (by decide : (if false then [45] else []) ++ B "1_000" ++ 46 :: B "5" = B "1_000.5") ▸
      Decimal.frac false (B "1000") (B "1_000") (B "5") (B "5")
      (digitsOf _ _ (by decide) (by decide) (by decide)) (digitsOf _ _ (by decide) (by decide) (by decide)))
    101 (Or.inl rfl) [43] (Or.inr (Or.inl rfl)) (B "3") (B "3") (digitsOf _ _ (by decide) (by decide) (by decide))
    (by decide)

/-- `-2_5E-07`: upper-case exponent letter, sign, `_`, leading zero -/
def nNeg : Num := ⟨⟨0, "-25e-07".toList⟩, none⟩
theorem nNeg_sp : NumSp nNeg (B "-2_5E-0_7") :=
  (by decide : B "-2_5" ++ 69 :: ([45] ++ B "0_7") ++ unitText nNeg.unit = B "-2_5E-0_7") ▸
  NumSp.exp nNeg (by decide) (by decide) (B "-25") (B "-2_5")
    ((by decide : (if true then [45] else []) ++ B "25" = B "-25") ▸
     (by decide : (if true then [45] else []) ++ B "2_5" = B "-2_5") ▸
      Decimal.int true (B "25") (B "2_5") (digitsOf _ _ (by decide) (by decide) (by decide)))
    69 (Or.inr rfl) [45] (Or.inr (Or.inr rfl)) (B "07") (B "0_7") (digitsOf _ _ (by decide) (by decide) (by decide))
    (by decide)

/-- `"aéé😀\$\n"`: raw ASCII, `\u` with an upper-case hex digit, raw two- and four-byte characters, short escapes -/
def sTxt : List Char := "aéé😀$\n".toList
def sBytes : List UInt8 :=
  [34, 97, 92, 117, 48, 48, 69, 57, 195, 169, 240, 159, 152, 128, 92, 36, 92, 110, 34]
theorem sTxt_sp : Quoted sTxt sBytes :=
  (by decide +kernel : 34 :: (([97] ++ ([92, 117, 48, 48, 69, 57] ++ (encChar 'é' ++ (encChar '😀' ++ ([92, 36] ++
      ([92, 110] ++ [])))))) ++ [34]) = sBytes) ▸
  Quoted.mk sTxt _
    (StrBody.cons 'a' _ _ _ ((by decide +kernel : encChar 'a' = [97]) ▸ StrCh.raw 'a' (by decide) (by decide) (by decide) (by decide))
    (StrBody.cons 'é' _ _ _ (StrCh.u 'é' _ (UEsc.mk 'é' 48 48 69 57 (by decide) ⟨by decide, Or.inl (by decide)⟩
        ⟨by decide, Or.inl (by decide)⟩ ⟨by decide, Or.inr (by decide)⟩ ⟨by decide, Or.inl (by decide)⟩))
    (StrBody.cons 'é' _ _ _ (StrCh.raw 'é' (by decide) (by decide) (by decide) (by decide))
    (StrBody.cons '😀' _ _ _ (StrCh.raw '😀' (by decide) (by decide) (by decide) (by decide))
    (StrBody.cons '$' _ _ _ StrCh.dollar
    (StrBody.cons '\n' _ _ _ StrCh.n StrBody.nil))))))

/-- ``[ 1_000.5e+3kW ,"aéé😀\$\n",\t-2_5E-0_7, ]``: blanks after `[`, before and after `,`, a tab, a trailing
comma with a blank before `]` -/
def exListV : Val := .list (.cons (.num nKw) (.cons (.str sTxt) (.cons (.num nNeg) .nil)))
def exListB : List UInt8 := B "[ 1_000.5e+3kW ," ++ sBytes ++ [44, 9] ++ B "-2_5E-0_7, ]"
theorem exList_sp : Spells exListV exListB :=
  (by decide +kernel : 91 :: ([32] ++ (B "1_000.5e+3kW" ++ [32] ++ 44 :: ([] ++ (sBytes ++ [] ++ 44 :: ([9] ++
      (B "-2_5E-0_7" ++ [] ++ 44 :: [32]))))) ++ [93]) = exListB) ▸
  Spells.list _ [32] _ (blanksOf _ (by decide))
    (SpItems.cons _ _ _ _ [32] [] _ (Spells.num nKw _ nKw_sp) (blanksOf _ (by decide)) (blanksOf _ (by decide))
      (SpItems.cons _ _ _ _ [] [9] _ (Spells.str sTxt _ sTxt_sp) (blanksOf _ (by decide)) (blanksOf _ (by decide))
        (SpItems.lastComma _ _ [] [32] (Spells.num nNeg _ nNeg_sp) (blanksOf _ (by decide)) (blanksOf _ (by decide)))))

theorem trailer_nil : Trailer [] := ⟨(by intro b hb; cases hb), (by intro b e; cases e)⟩
theorem spells_cast {v : Val} {a b : List UInt8} (h : Spells v a) (e : a = b) : Spells v b := e ▸ h
theorem spellsTop_cast {v : Val} {a b : List UInt8} (h : SpellsTop v a) (e : a = b) : SpellsTop v b := e ▸ h

theorem unitOk_kW : unitOk (some "kW".toList) = true := Hs.C01.unitOk_table.2.2.2.1
theorem exListV_ok : wfS exListV = true ∧ depthOk exListV = true := by
  simp only [exListV, nKw, wfS, wfSs, numOkS, unitOk_kW]; decide +kernel
example : wfS exListV = true ∧ depthOk exListV = true := by exact exListV_ok
/-- the reader decodes that sentence — here with a blank before and a line ending after the document: numerals
`1000.5e+3` (unit kW) and `-25e-07`, the string `aéé😀$\n` -/
example : fromBytes ([32] ++ exListB ++ [10]) = .ok (Hs.C01.lexImage exListV) :=
  C04_read_holds exListV _ exListV_ok.1 exListV_ok.2
    (SpellsTop.other _ [32] _ [10] (by intro _ _ _ _ e; cases e) (blanksOf _ (by decide)) exList_sp
      ⟨by intro b hb; simp at hb; simp [hb], by intro b e; simp at e; simp [← e]⟩)

/-- `{ a:M<TAB>b , c: [ ],d }`: explicit `:M`, a tab as tag separator, a comma with blanks, blanks after `:` and inside `[ ]` -/
def exDictV : Val := .dict (.cons ['a'] .marker (.cons ['b'] .marker (.cons ['c'] (.list .nil) (.cons ['d'] .marker .nil))))
def exDictB : List UInt8 := B "{ a:M\tb , c: [ ],d }"
theorem exDict_sp : Spells exDictV exDictB :=
  spells_cast
  (Spells.dict _ [32] _ [32] (blanksOf _ (by decide))
    (SpTags.space true _ _ _ _ _ _ [9] _ (SpTag.val ['a'] .marker [] [77] (blanksOf _ (by decide)) Spells.marker)
      (blanksOf _ (by decide)) (by decide)
      (SpTags.comma _ _ _ _ _ _ [32] [32] _ (SpTag.marker ['b']) (blanksOf _ (by decide)) (blanksOf _ (by decide))
        (SpTags.comma _ _ _ _ _ _ [] [] _
          (SpTag.val ['c'] (.list .nil) [32] _ (blanksOf _ (by decide))
            (Spells.list .nil [32] [] (blanksOf _ (by decide)) SpItems.nil))
          (blanksOf _ (by decide)) (blanksOf _ (by decide))
          (SpTags.one true _ _ _ (SpTag.marker ['d'])))))
    (blanksOf _ (by decide)))
  (by decide +kernel)

example : fromBytes exDictB = .ok (Hs.C01.lexImage exDictV) :=
  C04_read_holds exDictV exDictB (by decide +kernel) (by decide +kernel)
    (spellsTop_cast (SpellsTop.other _ [] _ [] (by intro _ _ _ _ e; cases e) (blanksOf _ (by decide)) exDict_sp
      trailer_nil) (by decide +kernel))

/-- a grid document with blanks before it, LF, CRLF and lone-CR line endings mixed, blanks (and a tab) before line
endings, a tab before the meta, column meta, blanks after the commas, an empty cell, a nested grid in `<<` … `>>`
written with lone CRs, and two further blank lines after the document:
```
  ver:"3.0"<TAB>dis:"G" m \r\n
a,  b foo\r\n
1,\n
, <<<TAB>\r ver:"3.0"\r x \r N\r >> \r\n
\n
 \n
```  -/
def exInnerG : Val := .grid .none (.cons ['x'] .none .nil) (.cons (.cons ['x'] .null .nil) .nil) "3.0".toList
def exOuterG : Val :=
  .grid (.some (.cons "dis".toList (.str ['G']) (.cons ['m'] .marker .nil)))
    (.cons ['a'] .none (.cons ['b'] (.some (.cons "foo".toList .marker .nil)) .nil))
    (.cons (.cons ['a'] (.num ⟨⟨0, ['1']⟩, none⟩) .nil) (.cons (.cons ['b'] exInnerG .nil) .nil))
    "3.0".toList
def exInnerB : List UInt8 := B "<<\t\rver:\"3.0\"\rx \rN\r>>"
def exOuterB : List UInt8 :=
  B "  ver:\"3.0\"\tdis:\"G\" m \r\na,  b foo\r\n1,\n, " ++ exInnerB ++ B " \r\n\n \n"

theorem exInner_sp : Spells exInnerG exInnerB :=
  spells_cast
  (Spells.grid _ _ _ _ [9] [13] _ (blanksOf _ (by decide)) Nl.cr
    (SpGrid.mk _ _ _ _ [] [] [13] _ [32] [13] _ SpMeta.none (blanksOf _ (by decide)) Nl.cr
      (SpCols.one ['x'] .none [] SpMeta.none) (blanksOf _ (by decide)) Nl.cr
      (SpRows.cons _ _ _ [(['x'], [78])] _ [] [13] [] (SpCells.cons ['x'] .null .nil [78] [] Spells.null SpCells.nil)
        (RowLine.one _ ['x']) (blanksOf _ (by decide)) Nl.cr (SpRows.nil _))))
  (by decide +kernel)

theorem one_sp : Spells (.num ⟨⟨0, ['1']⟩, none⟩) [49] :=
  Spells.num _ _ ((by decide : ((if false then [45] else []) ++ [49]) ++ unitText (none : Option (List Char)) = [49]) ▸
    NumSp.dec ⟨⟨0, ['1']⟩, none⟩ (by decide) (by decide) _ _
      (Decimal.int false [49] [49] (digitsOf _ _ (by decide) (by decide) (by decide))) (by decide))

theorem exOuter_sp : SpellsTop exOuterG exOuterB :=
  spellsTop_cast
  (SpellsTop.gridNl _ _ _ _ [32, 32] _ [] [10] [32, 10] (blanksOf _ (by decide))
    (SpGrid.mk _ _ _ _ _ [32] [13, 10] _ [] [13, 10] _
      (SpMeta.some _ [9] _ (blanksOf _ (by decide)) (by decide) (SpTags.space false _ _ _ _ _ _ [32] _
        (SpTag.val "dis".toList (.str ['G']) [] [34, 71, 34] (blanksOf _ (by decide))
          (Spells.str ['G'] _ ((by decide +kernel : 34 :: ((encChar 'G' ++ []) ++ [34]) = [34, 71, 34]) ▸
            Quoted.mk ['G'] _ (StrBody.cons 'G' _ _ _ (StrCh.raw 'G' (by decide) (by decide) (by decide) (by decide)) StrBody.nil))))
        (blanksOf _ (by decide)) (by decide) (SpTags.one false _ _ _ (SpTag.marker ['m']))))
      (blanksOf _ (by decide)) Nl.crlf
      (SpCols.cons ['a'] .none ['b'] _ .nil [] [32, 32] _ SpMeta.none (blanksOf _ (by decide))
        (SpCols.one ['b'] _ _ (SpMeta.some _ [32] _ (blanksOf _ (by decide)) (by decide)
          (SpTags.one false _ _ _ (SpTag.marker "foo".toList)))))
      (blanksOf _ (by decide)) Nl.crlf
      (SpRows.cons _ _ _ [(['a'], [49])] _ [] [10] _ (SpCells.cons ['a'] _ .nil [49] [] one_sp SpCells.nil)
        (RowLine.cons _ ['a'] ['b'] [] [] _ (blanksOf _ (by decide)) (RowLine.one _ ['b'])) (blanksOf _ (by decide)) Nl.lf
        (SpRows.cons _ _ _ [(['b'], exInnerB)] _ [32] [13, 10] [] (SpCells.cons ['b'] _ .nil exInnerB [] exInner_sp SpCells.nil)
          (RowLine.cons _ ['a'] ['b'] [] [32] _ (blanksOf _ (by decide)) (RowLine.one _ ['b'])) (blanksOf _ (by decide)) Nl.crlf
          (SpRows.nil _))))
    (blanksOf _ (by decide)) Nl.lf (by intro b hb; simp at hb; rcases hb with rfl | rfl <;> simp)
    (by intro _ _; decide +kernel))
  (by decide +kernel)

theorem exOuterG_ok : wfS exOuterG = true ∧ depthOk exOuterG = true := by decide +kernel
example : wfS exOuterG = true ∧ depthOk exOuterG = true := by exact exOuterG_ok
example : fromBytes exOuterB = .ok (Hs.C01.lexImage exOuterG) :=
  C04_read_holds exOuterG exOuterB exOuterG_ok.1 exOuterG_ok.2 exOuter_sp

/-- a document written with lone CRs throughout, and one more CR after it: `ver:"3.0"\rx\rN\r\r` -/
def exCrB : List UInt8 := B "ver:\"3.0\"\rx\rN\r\r"
theorem exCr_sp : SpellsTop exInnerG exCrB :=
  spellsTop_cast
  (SpellsTop.gridNl _ _ _ _ [] _ [] [13] [] (blanksOf _ (by decide))
    (SpGrid.mk _ _ _ _ [] [] [13] _ [] [13] _ SpMeta.none (blanksOf _ (by decide)) Nl.cr
      (SpCols.one ['x'] .none [] SpMeta.none) (blanksOf _ (by decide)) Nl.cr
      (SpRows.cons _ _ _ [(['x'], [78])] _ [] [13] [] (SpCells.cons ['x'] .null .nil [78] [] Spells.null SpCells.nil)
        (RowLine.one _ ['x']) (blanksOf _ (by decide)) Nl.cr (SpRows.nil _)))
    (blanksOf _ (by decide)) Nl.cr (by intro b hb; cases hb) (by intro _ e; cases e))
  (by decide +kernel)
example : fromBytes exCrB = .ok (Hs.C01.lexImage exInnerG) :=
  C04_read_holds exInnerG exCrB (by decide +kernel) (by decide +kernel) exCr_sp

/-- a Uri with the library's escapes: `` `a\:b\[cé` `` denotes `a\:b[cé` (the backslash of `\:` is kept) -/
def exUriB : List UInt8 := 96 :: ([97, 92, 58, 98, 92, 91, 99, 92, 117, 48, 48, 101, 57] ++ [96])
example : fromBytes exUriB = .ok (.uri "a\\:b[cé".toList) :=
  C04_read_holds (.uri "a\\:b[cé".toList) exUriB (by decide +kernel) (by decide +kernel)
    (spellsTop_cast (SpellsTop.other _ [] _ [] (by intro _ _ _ _ e; cases e) (blanksOf _ (by decide))
      (Spells.uri _ _ uriBody_example) trailer_nil) (by decide +kernel))

/-- a Time with its fraction written with one digit (`12:00:00.5`) and padded (`12:00:00.5000`) -/
def exTime : Time := ⟨12, 0, 0, 500000000, "12:00:00.500".toList⟩
example : timeOk exTime = true := by decide +kernel
example : TimeSp exTime (B "12:00:00.5") :=
  TimeSp.unpad _ _ (TimeSp.unpad _ (B "12:00:00.50") ((by decide +kernel : encChars exTime.txt = B "12:00:00.50" ++ [48]) ▸ TimeSp.canon exTime)
    (by decide)) (by decide)
example : TimeSp exTime (B "12:00:00.5000") :=
  TimeSp.pad _ _ ((by decide +kernel : encChars exTime.txt = B "12:00:00.500") ▸ TimeSp.canon exTime) (by decide) (by decide)

end spellings

end Hs.C04

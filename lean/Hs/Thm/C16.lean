/-
  C16 — unit conversion and Number arithmetic are dimensionally sound.

  Statements are about the model `Hs.Model.UnitArith` (convert_to, is_byte_unit, match_units/approx_eq,
  `&Unit * &Unit`, `&Unit / &Unit`, `Number + − × ÷`) run on the unit table REGENERATED from
  units_generated.rs (`Hs.Gen.UnitsQ`), over EXACT rationals: scale and offset are the values of the decimal
  literals, arithmetic is exact.  What the theorems therefore do NOT cover is floating-point rounding
  ("converting back returns the original WITHIN ROUNDING" is exact equality here); rounding is exercised on
  the real code by harness/src/c16.rs (all ordered pairs, a spread of magnitudes), not proved.  In that
  sense the claim is PARTIAL.  The model is tied to the Rust code by the correspondence check: for every
  ordered pair of database units the model's decisions (Ok/Err of the conversion, name of the product and
  quotient unit, unit of `Number ± × ÷`) are string-equal to the implementation's, and every conversion
  result of the implementation lies within 1e-14 (relative to the magnitude of the intermediate terms) of
  the model's exact value.

  `match_units` iterates a HashMap: the product/quotient theorems hold for EVERY list of entries `es`
  (`mul_sound`, `div_sound`), in particular for every permutation of the `UNITS` entries (`C16_full`).
-/
import Hs.Lemmas.UnitArithTable
namespace Hs.C16
open Hs Hs.UnitArith Hs.Gen.UnitsQ

/-! ### conversion -/

/-- `convert_to` succeeds exactly when the dimensions are equal or both are byte units (all units) -/
theorem convert_guard (a b : QUnit) (x : Rat) :
    (∃ y, convertTo a b x = .ok y) ↔ (a.dims = b.dims ∨ (a.isByte = true ∧ b.isByte = true)) := by
  rw [convertTo_ok_iff, inconvertible_eq_false]

/-- … and between database units exactly when they have the same dimension (byte units all have none) -/
theorem convert_guard_db (a b : QUnit) (ha : a ∈ units) (hb : b ∈ units) (x : Rat) :
    (∃ y, convertTo a b x = .ok y) ↔ a.dims = b.dims := by
  rw [convert_guard]
  constructor
  · rintro (h | ⟨h1, h2⟩)
    · exact h
    · rw [byte_dims ha h1, byte_dims hb h2]
  · exact Or.inl

/-- the result is the physical conversion: to the base unit with `a`'s scale and offset, from it with `b`'s -/
theorem convert_formula (a b : QUnit) (x y : Rat) (h : convertTo a b x = .ok y) :
    y = ((x * a.scale + a.offset) - b.offset) / b.scale :=
  (convertTo_ok a b x y h).2

/-- converting back returns the original (exactly, over ℚ), for all units with non-zero scales and all `x` -/
theorem convert_inverse (a b : QUnit) (x y : Rat) (ha : a.scale ≠ 0) (hb : b.scale ≠ 0)
    (h : convertTo a b x = .ok y) : convertTo b a y = .ok x := by
  obtain ⟨hg, hy⟩ := convertTo_ok a b x y h
  unfold convertTo
  rw [inconvertible_comm, hg, hy]
  simp only [Bool.false_eq_true, if_false]
  rw [convert_roundtrip_alg x a.scale a.offset b.scale b.offset ha hb]

/-- table theorem: no database unit has scale 0 -/
theorem no_zero_scale (u : QUnit) (h : u ∈ units) : u.scale ≠ 0 := scale_ne_zero h

/-- converting back returns the original, for all database units -/
theorem convert_inverse_db (a b : QUnit) (ha : a ∈ units) (hb : b ∈ units) (x y : Rat)
    (h : convertTo a b x = .ok y) : convertTo b a y = .ok x :=
  convert_inverse a b x y (scale_ne_zero ha) (scale_ne_zero hb) h

/-! ### products and quotients of units -/

/-- whatever `&a * b` yields is one of the entries, has the sum of the exponent vectors and a scale that
`approx_eq` accepts for the product of the scales — for every list of entries (every HashMap order) -/
theorem mul_sound (es : List QUnit) (a b u : QUnit) (h : mulUnits es a b = .ok u) :
    u ∈ es ∧ ∃ d1 d2, a.dims = some d1 ∧ b.dims = some d2 ∧ u.dims = some (d1.add d2) ∧
      approxEq u.scale (a.scale * b.scale) = true := combine_sound (mulUnits_eq es a b ▸ h)

theorem div_sound (es : List QUnit) (a b u : QUnit) (h : divUnits es a b = .ok u) :
    u ∈ es ∧ ∃ d1 d2, a.dims = some d1 ∧ b.dims = some d2 ∧ u.dims = some (d1.sub d2) ∧
      approxEq u.scale (a.scale / b.scale) = true := combine_sound (divUnits_eq es a b ▸ h)

/-- what `approx_eq` accepts: equal, or closer than a thousandth of either magnitude -/
theorem approx_meaning (p q : Rat) (h : approxEq p q = true) :
    p = q ∨ (qabs (p - q) ≤ qabs (p / 1000) ∧ qabs (p - q) ≤ qabs (q / 1000)) :=
  (approxEq_iff p q).mp h

/-- every entry of the `UNITS` map refers to a unit of the table -/
theorem entries_are_units : ∀ u ∈ dbEntries, u ∈ units := dbEntries_subset

/-- the exponent arithmetic of `Mul`/`Div` never leaves `i8` on database units (no debug-build overflow
panic, no release-build wrap-around) -/
theorem dims_in_i8 (a b : QUnit) (ha : a ∈ units) (hb : b ∈ units) (d1 d2 : Dims)
    (h1 : a.dims = some d1) (h2 : b.dims = some d2) :
    (d1.add d2).inI8 = true ∧ (d1.sub d2).inI8 = true :=
  dims_add_sub_in_i8 ha hb h1 h2

/-! ### Numbers -/

/-- adding or subtracting Numbers of one unit keeps that unit -/
theorem add_sub_same_unit (x y : Rat) (u : QUnit) (hu : u ≠ defaultUnit) :
    numAdd ⟨x, some u⟩ ⟨y, some u⟩ = .ok ⟨x + y, some u⟩ ∧
    numSub ⟨x, some u⟩ ⟨y, some u⟩ = .ok ⟨x - y, some u⟩ := by
  simp [numAdd, numSub, addUnit, makeWithUnit_of_ne _ u hu]

/-- … of two different units fails -/
theorem add_sub_diff_units (x y : Rat) (u v : QUnit) (h : u ≠ v) :
    numAdd ⟨x, some u⟩ ⟨y, some v⟩ = .err ∧ numSub ⟨x, some u⟩ ⟨y, some v⟩ = .err := by
  simp [numAdd, numSub, addUnit_diff x y u v h]

/-- … of two unit-less Numbers is unit-less -/
theorem add_sub_unitless (x y : Rat) :
    numAdd ⟨x, none⟩ ⟨y, none⟩ = .ok ⟨x + y, none⟩ ∧ numSub ⟨x, none⟩ ⟨y, none⟩ = .ok ⟨x - y, none⟩ := by
  simp [numAdd, numSub, addUnit, makeWithUnit_default]

/-- behaviour of the code the property is silent about: a unit-less operand adopts the other operand's unit -/
theorem add_sub_adopts_unit (x y : Rat) (u : QUnit) (hu : u ≠ defaultUnit) :
    numAdd ⟨x, some u⟩ ⟨y, none⟩ = .ok ⟨x + y, some u⟩ ∧ numAdd ⟨x, none⟩ ⟨y, some u⟩ = .ok ⟨x + y, some u⟩ ∧
    numSub ⟨x, some u⟩ ⟨y, none⟩ = .ok ⟨x - y, some u⟩ ∧ numSub ⟨x, none⟩ ⟨y, some u⟩ = .ok ⟨x - y, some u⟩ := by
  simp [numAdd, numSub, addUnit, makeWithUnit_of_ne _ u hu]

/-- the common statement of the three theorems above, as the property puts it -/
theorem add_sub_units (x y : Rat) (u v : QUnit) (hu : u ≠ defaultUnit) :
    (u = v → numAdd ⟨x, some u⟩ ⟨y, some v⟩ = .ok ⟨x + y, some u⟩ ∧
             numSub ⟨x, some u⟩ ⟨y, some v⟩ = .ok ⟨x - y, some u⟩) ∧
    (u ≠ v → numAdd ⟨x, some u⟩ ⟨y, some v⟩ = .err ∧ numSub ⟨x, some u⟩ ⟨y, some v⟩ = .err) := by
  constructor
  · rintro rfl; exact add_sub_same_unit x y u hu
  · exact add_sub_diff_units x y u v

/-- `Number × Number` over two units: the unit of the result is the product of the units -/
theorem num_mul_unit (es : List QUnit) (x y : Rat) (a b : QUnit) (n : QNum)
    (h : numMul es ⟨x, some a⟩ ⟨y, some b⟩ = .ok n) :
    ∃ u, mulUnits es a b = .ok u ∧ n = makeWithUnit (x * y) u := numBin_units (numMul_eq es ▸ h)

theorem num_div_unit (es : List QUnit) (x y : Rat) (a b : QUnit) (n : QNum)
    (h : numDiv es ⟨x, some a⟩ ⟨y, some b⟩ = .ok n) :
    ∃ u, divUnits es a b = .ok u ∧ n = makeWithUnit (x / y) u := numBin_units (numDiv_eq es ▸ h)

/-- behaviour of the code outside the property's wording: with one unit-less operand `×` and `÷` keep the
other operand's unit — also for a unit-less DIVIDEND (`1 / 2s = 0.5s`, not `0.5Hz`) -/
theorem num_mul_div_unitless (es : List QUnit) (x y : Rat) (u : QUnit) (hu : u ≠ defaultUnit) :
    numMul es ⟨x, some u⟩ ⟨y, none⟩ = .ok ⟨x * y, some u⟩ ∧ numMul es ⟨x, none⟩ ⟨y, some u⟩ = .ok ⟨x * y, some u⟩ ∧
    numDiv es ⟨x, some u⟩ ⟨y, none⟩ = .ok ⟨x / y, some u⟩ ∧ numDiv es ⟨x, none⟩ ⟨y, some u⟩ = .ok ⟨x / y, some u⟩ :=
  ⟨(numBin_unitless (mulUnits es) (· * ·) x y hu).1, (numBin_unitless (mulUnits es) (· * ·) x y hu).2,
   numBin_unitless (divUnits es) (· / ·) x y hu⟩

/-! ### the property -/

/-- C16 at full strength for the exact-rational model, over the regenerated table.
`es` ranges over all permutations of the `UNITS` entries (= all iteration orders of the HashMap). -/
def C16_full : Prop :=
  -- conversion: succeeds exactly for equal dimensions, is the physical formula, and inverts
  (∀ a ∈ units, ∀ b ∈ units, ∀ x : Rat, (∃ y, convertTo a b x = .ok y) ↔ a.dims = b.dims) ∧
  (∀ a ∈ units, ∀ b ∈ units, ∀ x y : Rat, convertTo a b x = .ok y →
      y = ((x * a.scale + a.offset) - b.offset) / b.scale ∧ convertTo b a y = .ok x) ∧
  -- products and quotients: a database unit with the summed / subtracted exponents (inside i8) and the
  -- product / quotient scale (as `approx_eq` judges it)
  (∀ es : List QUnit, es.Perm dbEntries → ∀ a ∈ units, ∀ b ∈ units, ∀ u : QUnit,
      (mulUnits es a b = .ok u → u ∈ units ∧ ∃ d1 d2, a.dims = some d1 ∧ b.dims = some d2 ∧
          (d1.add d2).inI8 = true ∧ u.dims = some (d1.add d2) ∧ approxEq u.scale (a.scale * b.scale) = true) ∧
      (divUnits es a b = .ok u → u ∈ units ∧ ∃ d1 d2, a.dims = some d1 ∧ b.dims = some d2 ∧
          (d1.sub d2).inI8 = true ∧ u.dims = some (d1.sub d2) ∧ approxEq u.scale (a.scale / b.scale) = true)) ∧
  -- Numbers: + and − keep the common unit and fail for different units
  (∀ a ∈ units, ∀ b ∈ units, ∀ x y : Rat,
      (a = b → numAdd ⟨x, some a⟩ ⟨y, some b⟩ = .ok ⟨x + y, some a⟩ ∧
               numSub ⟨x, some a⟩ ⟨y, some b⟩ = .ok ⟨x - y, some a⟩) ∧
      (a ≠ b → numAdd ⟨x, some a⟩ ⟨y, some b⟩ = .err ∧ numSub ⟨x, some a⟩ ⟨y, some b⟩ = .err)) ∧
  (∀ x y : Rat, numAdd ⟨x, none⟩ ⟨y, none⟩ = .ok ⟨x + y, none⟩ ∧ numSub ⟨x, none⟩ ⟨y, none⟩ = .ok ⟨x - y, none⟩) ∧
  -- Numbers: × and ÷ over two units carry the product / quotient unit (sound as above) or fail
  (∀ es : List QUnit, es.Perm dbEntries → ∀ a ∈ units, ∀ b ∈ units, ∀ x y : Rat, ∀ n : QNum,
      (numMul es ⟨x, some a⟩ ⟨y, some b⟩ = .ok n → ∃ u, mulUnits es a b = .ok u ∧ n = ⟨x * y, some u⟩) ∧
      (numDiv es ⟨x, some a⟩ ⟨y, some b⟩ = .ok n → ∃ u, divUnits es a b = .ok u ∧ n = ⟨x / y, some u⟩))

theorem C16_holds : C16_full := by
  refine ⟨?_, ?_, ?_, ?_, ?_, ?_⟩
  · intro a ha b hb x
    exact convert_guard_db a b ha hb x
  · intro a ha b hb x y h
    exact ⟨convert_formula a b x y h, convert_inverse_db a b ha hb x y h⟩
  · intro es hp a ha b hb u
    have hsub : ∀ v ∈ es, v ∈ units := fun v hv => dbEntries_subset v (hp.mem_iff.mp hv)
    constructor
    · intro h
      obtain ⟨hu, d1, d2, h1, h2, hd, hs⟩ := mul_sound es a b u h
      exact ⟨hsub u hu, d1, d2, h1, h2, (dims_in_i8 a b ha hb d1 d2 h1 h2).1, hd, hs⟩
    · intro h
      obtain ⟨hu, d1, d2, h1, h2, hd, hs⟩ := div_sound es a b u h
      exact ⟨hsub u hu, d1, d2, h1, h2, (dims_in_i8 a b ha hb d1 d2 h1 h2).2, hd, hs⟩
  · intro a ha b _ x y
    exact add_sub_units x y a b (ne_default ha)
  · exact add_sub_unitless
  · intro es hp a _ b _ x y n
    have hsub : ∀ v ∈ es, v ∈ units := fun v hv => dbEntries_subset v (hp.mem_iff.mp hv)
    constructor
    · intro h
      obtain ⟨u, hu, hn⟩ := num_mul_unit es x y a b n h
      refine ⟨u, hu, ?_⟩
      rw [hn, makeWithUnit_of_ne _ u (ne_default (hsub u (mul_sound es a b u hu).1))]
    · intro h
      obtain ⟨u, hu, hn⟩ := num_div_unit es x y a b n h
      refine ⟨u, hu, ?_⟩
      rw [hn, makeWithUnit_of_ne _ u (ne_default (hsub u (div_sound es a b u hu).1))]

/-! ### non-vacuity: concrete database units satisfy the hypotheses and exercise every clause -/

/-- the database unit with this name (first id) -/
def unitNamed (n : String) : QUnit := (units.find? (fun u => u.name == n)).getD defaultUnit

/-- a name that is found names a unit of the table -/
theorem unitNamed_mem (n : String) (hn : n ≠ "") (h : (unitNamed n).name = n) : unitNamed n ∈ units := by
  unfold unitNamed at h ⊢
  cases hf : units.find? (fun u => u.name == n) with
  | none => rw [hf] at h; exact absurd h.symm hn
  | some u => exact List.mem_of_find?_eq_some hf

/-- The rows of the units used in the examples below, found by name in ONE evaluation (the kernel turns the name
of each table row passed over into bytes once for all thirteen searches); the examples cite them. -/
theorem sample_rows :
    unitNamed "celsius" = ⟨some "temperature", ["celsius", "°C"], some ⟨0, 0, 0, 1, 0, 0, 0⟩, 1, mkRat 5463 20⟩ ∧
    unitNamed "fahrenheit" = ⟨some "temperature", ["fahrenheit", "°F"], some ⟨0, 0, 0, 1, 0, 0, 0⟩,
      mkRat 1388888888888889 2500000000000000, mkRat 25537222222222223 100000000000000⟩ ∧
    unitNamed "kelvin" = ⟨some "temperature", ["kelvin", "K"], some ⟨0, 0, 0, 1, 0, 0, 0⟩, 1, 0⟩ ∧
    unitNamed "kilobyte" = ⟨some "bytes", ["kilobyte", "kB"], none, 1024, 0⟩ ∧
    unitNamed "megabyte" = ⟨some "bytes", ["megabyte", "MB"], none, 1048576, 0⟩ ∧
    unitNamed "meter" = ⟨some "length", ["meter", "m"], some ⟨0, 1, 0, 0, 0, 0, 0⟩, 1, 0⟩ ∧
    unitNamed "foot" = ⟨some "length", ["foot", "ft"], some ⟨0, 1, 0, 0, 0, 0, 0⟩, mkRat 381 1250, 0⟩ ∧
    unitNamed "megawatt" = ⟨some "power", ["megawatt", "MW"], some ⟨1, 2, -3, 0, 0, 0, 0⟩, 1000000, 0⟩ ∧
    unitNamed "hour" = ⟨some "time", ["hour", "hr", "h"], some ⟨0, 0, 1, 0, 0, 0, 0⟩, 3600, 0⟩ ∧
    unitNamed "megawatt_hour" = ⟨some "energy", ["megawatt_hour", "MWh"], some ⟨1, 2, -2, 0, 0, 0, 0⟩, 3600000000, 0⟩ ∧
    unitNamed "kilogram" = ⟨some "mass", ["kilogram", "kg"], some ⟨1, 0, 0, 0, 0, 0, 0⟩, 1, 0⟩ ∧
    unitNamed "kilograms_per_hour" = ⟨some "mass flow", ["kilograms_per_hour", "kg/h"], some ⟨1, 0, -1, 0, 0, 0, 0⟩,
      mkRat 1388888888888889 5000000000000000000, 0⟩ ∧
    unitNamed "percent" = ⟨some "dimensionless", ["percent", "%"], none, mkRat 1 100, 0⟩ := by decide +kernel

/-- the units used in the examples below exist in the regenerated table -/
theorem sample_units_in_table :
    ∀ n ∈ ["celsius", "fahrenheit", "kelvin", "kilobyte", "megabyte", "meter", "foot", "megawatt", "hour",
           "megawatt_hour", "kilogram", "kilograms_per_hour", "percent"], unitNamed n ∈ units := by
  simp only [List.forall_mem_cons, List.not_mem_nil, false_imp_iff, implies_true, and_true]
  repeat' apply And.intro
  all_goals exact unitNamed_mem _ (by decide) (by simp only [sample_rows]; rfl)

/-- the value of a successful conversion (0 otherwise) -/
def valueOf : Res Rat → Rat
  | .ok y => y
  | _ => 0

-- offsets: 100 °C = 373.15 K exactly; 100 °C is between 211 and 213 °F with the table's rounded 5/9; and back
example : convertTo (unitNamed "celsius") (unitNamed "kelvin") 100 = .ok (mkRat 37315 100) := by
  simp only [sample_rows]; decide +kernel
example : (convertTo (unitNamed "celsius") (unitNamed "fahrenheit") 100).isOk = true ∧
    211 < valueOf (convertTo (unitNamed "celsius") (unitNamed "fahrenheit") 100) ∧
    valueOf (convertTo (unitNamed "celsius") (unitNamed "fahrenheit") 100) < 213 ∧
    convertTo (unitNamed "fahrenheit") (unitNamed "celsius")
      (valueOf (convertTo (unitNamed "celsius") (unitNamed "fahrenheit") 100)) = .ok 100 := by
  simp only [sample_rows]; decide +kernel
-- scale only: 1 ft = 0.3048 m
example : convertTo (unitNamed "foot") (unitNamed "meter") 1 = .ok (mkRat 3048 10000) := by
  simp only [sample_rows]; decide +kernel
-- byte units (no dimensions at all, quantity "bytes")
example : (unitNamed "kilobyte").isByte = true ∧ convertTo (unitNamed "megabyte") (unitNamed "kilobyte") 2 = .ok 2048 := by
  simp only [sample_rows]; decide +kernel
-- different dimensions are refused; so is a dimension-less unit against a dimensioned one
example : convertTo (unitNamed "meter") (unitNamed "hour") 1 = .err ∧
    convertTo (unitNamed "percent") (unitNamed "meter") 1 = .err := by
  simp only [sample_rows]; decide +kernel
-- The hypothesis of `mul_sound` / `div_sound` is satisfiable: MW × h = MWh (name rule `a_b`), kg ÷ h =
-- kilograms_per_hour (plural name rule).  "When it yields anything": m × m finds `square_meter` once per id
-- (two candidates), none is named `meter_meter`, so the product fails; ft ÷ h matches no unit at all.
-- Numbers: the product carries the product unit.  (One kernel evaluation over the 946 entries.)
example :
    mulUnits dbEntries (unitNamed "megawatt") (unitNamed "hour") = .ok (unitNamed "megawatt_hour") ∧
    divUnits dbEntries (unitNamed "kilogram") (unitNamed "hour") = .ok (unitNamed "kilograms_per_hour") ∧
    mulUnits dbEntries (unitNamed "meter") (unitNamed "meter") = .err ∧
    divUnits dbEntries (unitNamed "foot") (unitNamed "hour") = .err ∧
    numMul dbEntries ⟨2, some (unitNamed "megawatt")⟩ ⟨3, some (unitNamed "hour")⟩
      = .ok ⟨6, some (unitNamed "megawatt_hour")⟩ := by
  simp only [sample_rows]
  -- stride 20 ≈ √443, the number of units: a look-up walks at most 23 + 20 cells (`strideGetD`) instead of up to 443
  rw [show dbEntries = _ from entryUnits_stride (k := 20) (n := units.length / 20 + 1) (by omega) entries]
  decide +kernel
-- Numbers: + keeps the common unit, fails for different units
example : numAdd ⟨1, some (unitNamed "meter")⟩ ⟨2, some (unitNamed "meter")⟩ = .ok ⟨3, some (unitNamed "meter")⟩ ∧
    numAdd ⟨1, some (unitNamed "meter")⟩ ⟨2, some (unitNamed "foot")⟩ = .err := by
  simp only [sample_rows]; decide +kernel

end Hs.C16

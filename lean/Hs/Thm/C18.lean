/-
  C18 — the C API is memory-safe under its ownership protocol and tolerates null.  PARTIAL by nature:
  memory safety of the Rust code itself is a runtime fact; it is *exercised* (counting allocator on
  every run, AddressSanitizer + LeakSanitizer in the thorough tier, every (function, pointer parameter)
  pair with null), not proved.  Proved here, about the models `Hs.COwn` (ownership bookkeeping) and
  `Hs.CApi.cstep` (decision logic of every function):

  * `no_double_free`, `no_use_after_free`, `no_leak`: a history that follows the documented protocol —
    stated over the history itself: every object is destroyed by its own destroy function, only while it
    has been handed out once and not yet destroyed; never passed after that; entry pointers are read only
    while nothing modified or destroyed their container since they were returned — is accepted by the
    allocator's view event by event, and if everything handed out was destroyed the live set is empty.
  * `null_is_error`: over the translated (function × pointer parameter) table: for every function of the
    inventory other than the two exempt destroy functions and every one of its pointer parameters, a null
    argument there ends on a failing path: the inventory's sentinel, an error recorded, handles unchanged.
  * `no_abort`: no call of the model ends in a panic that would cross `extern "C"`.
-/
import Hs.Lemmas.COwn
import Hs.Lemmas.CApiTable
namespace Hs.C18
open Hs Hs.CApi Hs.COwn

/-! ## ownership -/

/-- a protocol-following history is accepted by the allocator's view, whatever its length -/
theorem protocol_accepted (t : List Ev) (hf : Follows [] t) :
    ∃ h, run Heap.empty t = .ok h ∧ Inv t.reverse h := by
  obtain ⟨h, hr, inv⟩ := run_ok t [] Heap.empty inv_empty hf
  exact ⟨h, hr, by simpa using inv⟩

/-- what is still live after a protocol-following history is exactly what was handed out and not destroyed -/
theorem live_is_owned (t : List Ev) (hf : Follows [] t) :
    ∃ h, run Heap.empty t = .ok h ∧ ∀ o, o ∈ h.live ↔ (allocs o t = 1 ∧ frees o t = 0) := by
  obtain ⟨h, hr, inv⟩ := protocol_accepted t hf
  refine ⟨h, hr, fun o => ?_⟩
  rw [inv.live_iff o, Owned, allocs_reverse, frees_reverse]

def NoDoubleFree : Prop :=
  ∀ t : List Ev, Follows [] t →
    run Heap.empty t ≠ .error .doubleFree ∧ run Heap.empty t ≠ .error .wrongDestroy ∧
    run Heap.empty t ≠ .error .reissued

def NoUseAfterFree : Prop :=
  ∀ t : List Ev, Follows [] t →
    run Heap.empty t ≠ .error .useAfterFree ∧ run Heap.empty t ≠ .error .dangling

def NoLeak : Prop :=
  ∀ t : List Ev, Follows [] t → Complete t → ∃ h, run Heap.empty t = .ok h ∧ h.live = []

theorem no_double_free : NoDoubleFree := by
  intro t hf
  obtain ⟨h, hr, _⟩ := protocol_accepted t hf
  rw [hr]
  exact ⟨by simp, by simp, by simp⟩

theorem no_use_after_free : NoUseAfterFree := by
  intro t hf
  obtain ⟨h, hr, _⟩ := protocol_accepted t hf
  rw [hr]
  exact ⟨by simp, by simp⟩

theorem no_leak : NoLeak := by
  intro t hf hc
  obtain ⟨h, hr, hl⟩ := live_is_owned t hf
  refine ⟨h, hr, List.eq_nil_iff_forall_not_mem.mpr fun o hm => ?_⟩
  have hco := hc o
  rw [((hl o).1 hm).1, ((hl o).1 hm).2] at hco
  cases hco

/-! ## null arguments: over the translated (function × pointer parameter) table -/

open Gen.CApi in
def NullIsError : Prop :=
  ∀ (id : FnId) (i : Nat), i < (fnTable id).ptrParams.length →
    id ≠ .haystack_value_destroy → id ≠ .haystack_string_destroy →
    -- the function is modelled, with as many pointer parameters as the inventory lists
    (∃ op : COp, op.fnId = id ∧ op.nullFlags.length = (fnTable id).ptrParams.length) ∧
    -- and for every call of it with a null i-th pointer argument, on every state:
    ∀ (s : CState) (op : COp), op.fnId = id → op.nullFlags[i]? = some true →
      (cstep s op).2 = .fail op.sentinel ∧ toGen op.sentinel = (fnTable id).sentinel ∧
      (cstep s op).1.lastErr.isSome = true ∧ (cstep s op).1.pool = s.pool ∧ (cstep s op).1.fpool = s.fpool

theorem null_is_error : NullIsError := by
  intro id i hi h1 h2
  refine ⟨⟨opOf id, inventory_covered id, ?_⟩, ?_⟩
  · have := ptr_table (opOf id)
    rw [COp.row, inventory_covered id] at this
    exact this.symm
  · intro s op hop hnull
    -- every op but the two destroys is not exempt by computation; those two have the excluded function ids
    have hex : op.isExemptDestroy = false := by
      cases op <;> first | rfl | exact absurd hop.symm h1 | exact absurd hop.symm h2
    have hany : op.nullFlags.any _root_.id = true := by
      rw [List.any_eq_true]
      exact ⟨true, List.mem_of_getElem? hnull, rfl⟩
    obtain ⟨e, he⟩ := cexec_null (s := s) hex hany
    have hs := cstep_of_err he
    have hsen := sentinel_table op
    rw [COp.row, hop] at hsen
    rw [hs]
    exact ⟨rfl, hsen.symm, rfl, rfl, rfl⟩

/-! ## no abort -/

def NoAbort : Prop :=
  (∀ (s : CState) (op : COp), (cstep s op).2 ≠ .abort) ∧
  (∀ (ops : List COp) (s : CState), ∀ r ∈ (crun s ops).2, r ≠ .abort)

theorem no_abort_step (s : CState) (op : COp) : (cstep s op).2 ≠ .abort := by
  rcases cstep_cases s op with ⟨s', r, _, hs⟩ | ⟨e, _, hs⟩ <;> rw [hs] <;> simp

theorem no_abort : NoAbort := by
  refine ⟨no_abort_step, ?_⟩
  intro ops
  induction ops with
  | nil => intro s r hr; simp [crun] at hr
  | cons op ops ih =>
    intro s r hr
    simp only [crun, List.mem_cons] at hr
    rcases hr with hr | hr
    · rw [hr]; exact no_abort_step s op
    · exact ih _ r hr

/-! ## the property (the part that is logic) -/

/-- the bookkeeping and decision-logic clauses of C18.  Not included, because it is not a statement about
a model: that the compiled Rust code frees what `Box::from_raw` / `CString::from_raw` are given and touches
no other memory — exercised by the allocator / sanitizer runs of the harness. -/
def C18_partial : Prop := NoDoubleFree ∧ NoUseAfterFree ∧ NoLeak ∧ NullIsError ∧ NoAbort

theorem C18_partial_holds : C18_partial :=
  ⟨no_double_free, no_use_after_free, no_leak, null_is_error, no_abort⟩

/-! ## non-vacuity -/

/-- a history that follows the protocol and is complete: make a list and an entry, push, read an entry
pointer, get a string, destroy everything once -/
def exTrace : List Ev :=
  [.alloc (vobj 0), .alloc (vobj 1), .use (vobj 0), .use (vobj 1), .mutate (vobj 0),
   .use (vobj 0), .borrow 0 (vobj 0), .deref 0, .use (vobj 1), .alloc (sobj 0),
   .free .str (sobj 0), .free .val (vobj 1), .free .val (vobj 0)]

example : run Heap.empty exTrace = .ok { live := [], borrows := [] } := by rfl
example : Complete [Ev.alloc (vobj 0), .use (vobj 0), .free .val (vobj 0)] := by
  intro o
  by_cases h : vobj 0 = o <;> simp [allocs, frees, isAlloc, isFree, h]
example : Follows [] [Ev.alloc (vobj 0), .use (vobj 0), .borrow 0 (vobj 0), .deref 0, .free .val (vobj 0)] := by
  refine ⟨?_, ?_, ?_, ?_, ?_, trivial⟩
  · simp [Pre, allocs]
  · simp [Pre, Owned, allocs, frees, isAlloc, isFree]
  · simp [Pre, Owned, allocs, frees, isAlloc, isFree]
  · exact ⟨vobj 0, [], _, rfl, by simp⟩
  · simp [Pre, Owned, allocs, frees, isAlloc, isFree, vobj]
/-- the allocator's view does flag what the protocol forbids -/
example : run Heap.empty [.alloc (vobj 0), .free .val (vobj 0), .free .val (vobj 0)] = .error .doubleFree := by rfl
example : run Heap.empty [.alloc (vobj 0), .free .val (vobj 0), .use (vobj 0)] = .error .useAfterFree := by rfl
example : run Heap.empty [.alloc (vobj 0), .borrow 0 (vobj 0), .mutate (vobj 0), .deref 0] = .error .dangling := by rfl
/-- a (function, pointer parameter) pair of the table and a call with null there -/
example : (1 : Nat) < (Gen.CApi.fnTable .haystack_value_push_list_entry).ptrParams.length := by decide
example : (COp.lpush (some 0) none).nullFlags[1]? = some true := rfl

end Hs.C18

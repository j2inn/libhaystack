/-
  C13 — def namespace queries agree with the subtype graph.

  Model: Hs.Model.Ns (`Namespace::make` with its indexes, `supertypes_of`, `subtypes_of`, the work-list loops
  `all_supertypes_of` / `all_subtypes_of`, `inheritance`, `fits`, `choices_for`, `conjuncts_defs`, `reflect`,
  `Reflection::fits` = the filter term `^sym`), tied to src/haystack/defs/{namespace,reflection}.rs and
  filter/nodes.rs by the correspondence check.

  Specification graph (Hs.Lemmas.NsGraph): `RawEdge g a b` = "`a` is a def and `b` is a Symbol item of its `is`
  list", `Edge g a b` = `RawEdge g a b` and `b` is a def.  Closures are `Relation.TransGen` / `ReflTransGen`.

  The theorems hold for EVERY defs grid `rows` - any size, duplicates of a `def` symbol, rows without `def`,
  non-Symbol items in `is`, undefined supertypes, conjuncts, feature keys, and `is` lists that form CYCLES
  (self loops `a is [a]`, 2-cycles, longer cycles, cycles with tails, cycles through diamonds) - with every
  fuel `≥ fuelFor g = (number of defs) + 1`; results are compared as sets.  There is no acyclicity hypothesis:
  since /repo da32af2 the work-list loops expand a def only the first time it enters the result set, so
  * they end on every graph within `fuelFor g` iterations (`allSupertypes_spec`, `allSubtypes_spec`; measure:
    stack height + number of defs not yet collected; the bound is attained: `fuel_bound_sharp`), and never
    answer `diverge` (`allSupertypes_never_diverge`, `allSubtypes_never_diverge`);
  * what they return is exactly the set of defs reachable by one or more `is` edges; a def on a cycle is its own
    transitive supertype and subtype (`cycle_member_is_own_supertype`), and all members of a cycle fit each
    other (`cycle_members_fit`).
  Two observations the statements make explicit:
  * `subtypes_of` / `all_subtypes_of` of an UNDEFINED symbol that is mentioned in `is` lists are not empty
    (the index is keyed by the mentioned symbol): the subtype side is stated with `RawEdge`, and with `Edge` for
    defined symbols;
  * `reflect` takes as parts of a conjunct EVERY Marker-valued tag of the record, whether or not the tag has a def
    of its own (since the repair of `Namespace::reflect`; before, `{ahu, rooftop}` with defs `ahu`, `ahu-rooftop`
    and no def `rooftop` was not reflected as `ahu-rooftop`): `Seed` is the statement's sentence word for word,
    `reflect_spec` / `isA_spec` have no hypothesis on the conjunct's parts.  What the sentence means for
    degenerate conjunct names (empty parts `a-`, `-b`, `a--b`; repeated parts `a-a`; parts that are tags but not
    Markers; "one-part conjuncts") is stated and proved below (`conjunct_has_two_parts` ...).
  `Acyclic` (a topological numbering) serves only to state that the cyclic examples below ARE cyclic.

  All of the above is part 1, the file up to `## Part 2`.  Part 2 is about Hs.Model.NsAssoc (associations,
  `implementation`, `fits_*`, `compute_entity_type`, `has_relationship`), part 3 about `protos`
  (Hs.Model.NsProtos) and, after its examples, `core_type_defs`, `has_subtype`, `all_matching_names`; each has
  an introduction of its own.  `fuel_bound_sharp`, a fact of part 1, closes the file.
-/
import Hs.Lemmas.NsAssoc
import Hs.Lemmas.NsProtos
namespace Hs.C13
open Hs Hs.Ns Relation

/-- `make` keeps one def per symbol -/
theorem make_names_distinct (rows : List Row) : (Names (make rows).defs).Nodup := nodup_mkDefs rows

/-- direct supertypes = the defined `is` items -/
theorem supertypes_spec (rows : List Row) (s b : Name) :
    b ∈ supertypesOf (make rows).defs s ↔ Edge (make rows).defs s b := mem_supertypesOf

/-- direct subtypes = the defs that list the symbol -/
theorem subtypes_spec (rows : List Row) (s x : Name) :
    x ∈ subtypesOf (make rows) s ↔ RawEdge (make rows).defs x s := mem_subtypesOf rows s x

/-- transitive supertypes, EVERY graph (cycles included): the work-list loop ends within `fuelFor` and returns
the transitive closure -/
theorem allSupertypes_spec (rows : List Row) (fuel : Nat) (hf : fuelFor (make rows).defs ≤ fuel) (s : Name) :
    ∃ res, allSupertypesOf fuel (make rows) s = .ok res ∧ res.Nodup ∧
      ∀ x, x ∈ res ↔ TransGen (Edge (make rows).defs) s x := allSupertypesOf_spec_ns _ fuel hf s

/-- transitive subtypes, EVERY graph (cycles included) -/
theorem allSubtypes_spec (rows : List Row) (fuel : Nat) (hf : fuelFor (make rows).defs ≤ fuel) (s : Name) :
    ∃ res, allSubtypesOf fuel (make rows) s = .ok res ∧ res.Nodup ∧
      ∀ x, x ∈ res ↔ TransGen (RawEdge (make rows).defs) x s := allSubtypesOf_spec rows fuel hf s

theorem allSubtypes_spec_defined (rows : List Row) (fuel : Nat) (hf : fuelFor (make rows).defs ≤ fuel) (s : Name) (hs : defined (make rows).defs s = true) :
    ∃ res, allSubtypesOf fuel (make rows) s = .ok res ∧
      ∀ x, x ∈ res ↔ TransGen (Edge (make rows).defs) x s := by
  obtain ⟨res, h1, _, h3⟩ := allSubtypesOf_spec rows fuel hf s
  refine ⟨res, h1, fun x => ?_⟩
  rw [h3 x]
  exact ⟨fun h => raw_transGen_defined h hs, TransGen.mono (fun a b => edge_raw) x s⟩

/-- whatever the graph (cycles included) and the fuel: IF the loop ends, its answer is the closure -/
theorem allSupertypes_exact_of_ok (ns : Ns) (fuel : Nat) (s : Name) (res : List Name)
    (h : allSupertypesOf fuel ns s = .ok res) : ∀ x, x ∈ res ↔ TransGen (Edge ns.defs) s x := by
  intro x
  rw [wl_exact_of_ok (supertypesOf ns.defs) false fuel s res h x]
  exact transGen_congr (fun a b => mem_supertypesOf) s x

/-- the explicit fuel bound: one iteration more than there are defs -/
theorem fuelFor_eq (g : Defs) : fuelFor g = g.length + 1 := rfl

/-- the traversals never answer `diverge`, whatever the graph -/
theorem allSupertypes_never_diverge (rows : List Row) (fuel : Nat) (hf : fuelFor (make rows).defs ≤ fuel)
    (s : Name) : allSupertypesOf fuel (make rows) s ≠ .diverge := by
  obtain ⟨res, h, _⟩ := allSupertypes_spec rows fuel hf s
  rw [h]; intro hc; cases hc

theorem allSubtypes_never_diverge (rows : List Row) (fuel : Nat) (hf : fuelFor (make rows).defs ≤ fuel)
    (s : Name) : allSubtypesOf fuel (make rows) s ≠ .diverge := by
  obtain ⟨res, h, _⟩ := allSubtypes_spec rows fuel hf s
  rw [h]; intro hc; cases hc

/-- the supertype traversal needs the `defs` map only: the same for a namespace not made by `make` -/
theorem allSupertypes_spec_any_ns (ns : Ns) (fuel : Nat) (hf : fuelFor ns.defs ≤ fuel) (s : Name) :
    ∃ res, allSupertypesOf fuel ns s = .ok res ∧ res.Nodup ∧ ∀ x, x ∈ res ↔ TransGen (Edge ns.defs) s x :=
  allSupertypesOf_spec_ns ns fuel hf s

/-- a def on a cycle of `is` edges is one of its own transitive supertypes and subtypes -/
theorem cycle_member_is_own_supertype (rows : List Row) (fuel : Nat) (hf : fuelFor (make rows).defs ≤ fuel)
    (a : Name) (hcyc : TransGen (Edge (make rows).defs) a a) :
    (∃ res, allSupertypesOf fuel (make rows) a = .ok res ∧ a ∈ res) ∧
    (∃ res, allSubtypesOf fuel (make rows) a = .ok res ∧ a ∈ res) := by
  obtain ⟨r1, h1, _, h1'⟩ := allSupertypes_spec rows fuel hf a
  obtain ⟨r2, h2, _, h2'⟩ := allSubtypes_spec rows fuel hf a
  exact ⟨⟨r1, h1, (h1' a).2 hcyc⟩, ⟨r2, h2, (h2' a).2 (TransGen.mono (fun _ _ => edge_raw) _ _ hcyc)⟩⟩

/-- inheritance = the def and all its supertypes (nothing for an undefined symbol) -/
theorem inheritance_spec (rows : List Row) (fuel : Nat) (hf : fuelFor (make rows).defs ≤ fuel) (s : Name) :
    ∃ res, inheritance fuel (make rows) s = .ok res ∧
      ∀ x, x ∈ res ↔ (defined (make rows).defs s = true ∧ ReflTransGen (Edge (make rows).defs) s x) :=
  Ns.inheritance_spec rows fuel hf s

theorem inheritance_is_def_cons_supertypes (fuel : Nat) (ns : Ns) (s : Name) (all : List Name)
    (hs : defined ns.defs s = true) (h : allSupertypesOf fuel ns s = .ok all) :
    inheritance fuel ns s = .ok (extendSet [s] all) := inheritance_eq fuel ns s all hs h

/-- fits a b ⇔ both exist and b is a, or a transitive supertype of a -/
theorem fits_spec (rows : List Row) (fuel : Nat) (hf : fuelFor (make rows).defs ≤ fuel) (a b : Name) :
    ∃ v, fits fuel (make rows) a b = .ok v ∧
      (v = true ↔ (defined (make rows).defs a = true ∧ defined (make rows).defs b = true ∧
        ReflTransGen (Edge (make rows).defs) a b)) := Ns.fits_spec rows fuel hf a b

/-- two defs that reach each other (they lie on a common cycle) fit each other -/
theorem cycle_members_fit (rows : List Row) (fuel : Nat) (hf : fuelFor (make rows).defs ≤ fuel) (a b : Name)
    (hab : TransGen (Edge (make rows).defs) a b) (hba : TransGen (Edge (make rows).defs) b a) :
    fits fuel (make rows) a b = .ok true ∧ fits fuel (make rows) b a = .ok true := by
  have hda := transGen_source_defined (TransGen.mono (fun _ _ => edge_raw) _ _ hab)
  have hdb := transGen_source_defined (TransGen.mono (fun _ _ => edge_raw) _ _ hba)
  obtain ⟨v, hv, hv'⟩ := fits_spec rows fuel hf a b
  obtain ⟨w, hw, hw'⟩ := fits_spec rows fuel hf b a
  have e1 : v = true := hv'.2 ⟨hda, hdb, hab.to_reflTransGen⟩
  have e2 : w = true := hw'.2 ⟨hdb, hda, hba.to_reflTransGen⟩
  subst e1; subst e2
  exact ⟨hv, hw⟩

/-- the driver's `fitsRow` is `fits` element-wise -/
theorem fitsRow_spec (fuel : Nat) (ns : Ns) (a : Name) (bs r : List Name)
    (h : fitsRow fuel ns a bs = .ok r) (b : Name) :
    b ∈ r ↔ (b ∈ bs ∧ fits fuel ns a b = .ok true) := by
  unfold fitsRow at h
  cases hi : inheritance fuel ns a with
  | ok l =>
    simp only [hi, Res.ok.injEq] at h
    subst h
    simp [fits_of_inheritance fuel ns a b hi, List.mem_filter]
  | _ => simp [hi] at h

/-- The statement's sentence, spelled out: `t` is a def, and it is the name of a tag of the record or a conjunct
name all of whose dash-separated parts are Marker-valued tags of the record. -/
theorem seed_def (g : Defs) (r : Rec) (t : Name) :
    Seed g r t ↔ (defined g t = true ∧
      ((∃ v, (t, v) ∈ r) ∨ (isConjunct t = true ∧ ∀ p ∈ splitDash t, (p, true) ∈ r))) := Iff.rfl

/-- "Reflecting a record yields the defs of its tags, of every conjunct whose parts are all marker tags of the
record, and all their supertypes" - both directions, for every defs grid and every record, no condition on the
parts of the conjunct having defs: `d` is reflected IFF it is, or is a transitive supertype of, the def `t` of a
tag of the record or a conjunct def `t` all of whose dash-separated parts are Marker-valued tags of the record. -/
theorem reflect_spec (rows : List Row) (fuel : Nat) (hf : fuelFor (make rows).defs ≤ fuel) (r : Rec) :
    ∃ res, reflect fuel (make rows) r = .ok res ∧
      ∀ d, d ∈ res ↔ ∃ t, (defined (make rows).defs t = true ∧
          ((∃ v, (t, v) ∈ r) ∨ (isConjunct t = true ∧ ∀ p ∈ splitDash t, (p, true) ∈ r))) ∧
        ReflTransGen (Edge (make rows).defs) t d :=
  Ns.reflect_spec rows fuel hf r

/-- "'^symbol' in a filter matches exactly the records having a tag or conjunct that fits the symbol": the term
`^base` is true on `r` IFF `base` is a def and is, or is a transitive supertype of, the def `t` of a tag of the
record or a conjunct def `t` all of whose dash-separated parts are Marker-valued tags of the record. -/
theorem isA_spec (rows : List Row) (fuel : Nat) (hf : fuelFor (make rows).defs ≤ fuel) (r : Rec) (base : Name) :
    ∃ v, reflFits fuel (make rows) r base = .ok v ∧
      (v = true ↔ ∃ t, (defined (make rows).defs t = true ∧
          ((∃ v, (t, v) ∈ r) ∨ (isConjunct t = true ∧ ∀ p ∈ splitDash t, (p, true) ∈ r))) ∧
        defined (make rows).defs base = true ∧ ReflTransGen (Edge (make rows).defs) t base) := by
  obtain ⟨res, h1, h2⟩ := Ns.reflect_spec rows fuel hf r
  obtain ⟨v, h3, h4⟩ := anyFits_spec (make rows) fuel hf base res
  refine ⟨v, by simp only [reflFits, h1]; exact h3, ?_⟩
  rw [h4]
  constructor
  · rintro ⟨d, hd, _, hb, hdb⟩
    obtain ⟨t, ht, htd⟩ := (h2 d).1 hd
    exact ⟨t, ht, hb, htd.trans hdb⟩
  · rintro ⟨t, ht, hb, htb⟩
    exact ⟨t, (h2 t).2 ⟨t, ht, ReflTransGen.refl⟩, ht.1, hb, htb⟩

/-! ### what the sentence means for degenerate conjunct names

`compute_conjuncts_keys` splits every def name that contains `-` on `-` (`splitDash`), files the remaining parts
under the first part; `find_conjuncts` looks every marker up as a first part, wants all remaining parts among the
markers and fetches the def under the re-joined name.  `reflect_spec` covers every name; the corollaries say what
it amounts to. -/

/-- There is no one-part conjunct: a name that contains `-` has at least two parts ... -/
theorem conjunct_has_two_parts (c : Name) (h : isConjunct c = true) : 2 ≤ (splitDash c).length := by
  rw [length_splitDash]
  have : 0 < c.count '-' := List.count_pos_iff.2 (isConjunct_iff.1 h)
  omega

/-- ... and a name without `-` is its own only part (it is never filed in `conjuncts_keys`). -/
theorem nonconjunct_is_one_part (c : Name) (h : isConjunct c = false) : splitDash c = [c] :=
  splitDash_of_not_conjunct c h

/-- the number of parts is the number of dashes + 1: `a-` and `-b` have two parts, `a--b` three, `-` two -/
theorem parts_count (c : Name) : (splitDash c).length = c.count '-' + 1 := length_splitDash c

/-- the parts are dash-free and re-join to the name: `get_by_name(join)` asks for the very def that was split -/
theorem parts_rejoin (c : Name) : joinDash (splitDash c) = c ∧ ∀ p ∈ splitDash c, ¬ '-' ∈ p :=
  ⟨joinDash_splitDash c, fun p hp => not_dash_mem_splitDash c p hp⟩

/-- Hence the words "conjunct def" can be dropped from the sentence: for a name without `-` "all parts are marker
tags" says that the name itself is a (Marker) tag, which the first clause covers. -/
theorem seed_iff_without_isConjunct (g : Defs) (r : Rec) (t : Name) :
    Seed g r t ↔ (defined g t = true ∧ ((∃ v, (t, v) ∈ r) ∨ ∀ p ∈ splitDash t, (p, true) ∈ r)) := by
  unfold Seed
  refine and_congr_right fun _ => ⟨Or.imp_right And.right, fun h => h.elim Or.inl fun h3 => ?_⟩
  cases hc : isConjunct t with
  | true => exact Or.inr ⟨rfl, h3⟩
  | false => exact Or.inl ⟨true, h3 t (by rw [splitDash_of_not_conjunct t hc]; exact List.mem_singleton.2 rfl)⟩

/-- Empty parts (`a-`, `-b`, `a--b`, `-`): the empty part has to be a Marker-valued tag like any other - the
record needs a tag whose name is the empty string.  No record with proper (non-empty) tag names reflects such a
conjunct, unless it carries the conjunct's name as a tag. -/
theorem conjunct_with_empty_part (g : Defs) (r : Rec) (c : Name) (he : [] ∈ splitDash c)
    (hnoempty : ∀ v, (([] : Name), v) ∉ r) (hnotag : ∀ v, (c, v) ∉ r) : ¬ Seed g r c :=
  not_seed_of_part he (hnoempty true) hnotag

theorem rec_value_unique {r : Rec} (hk : (r.map Prod.fst).Nodup) {p : Name} {a b : Bool}
    (ha : (p, a) ∈ r) (hb : (p, b) ∈ r) : a = b := by
  induction r with
  | nil => cases ha
  | cons kv r ih =>
    simp only [List.map_cons, List.nodup_cons, List.mem_map, not_exists, not_and] at hk
    rcases List.mem_cons.1 ha with e1 | ha' <;> rcases List.mem_cons.1 hb with e2 | hb'
    · rw [← e2] at e1; exact (Prod.mk.inj e1).2
    · exact absurd rfl (by rw [← e1] at hk; exact hk.1 (p, b) hb')
    · exact absurd rfl (by rw [← e2] at hk; exact hk.1 (p, a) ha')
    · exact ih hk.2 ha' hb'

/-- A part that is a tag of the record but NOT Marker-valued does not count (the tags of a record are distinct):
the conjunct is not reflected, unless the record carries the conjunct's name as a tag. -/
theorem conjunct_with_nonmarker_part (g : Defs) (r : Rec) (c p : Name) (hk : (r.map Prod.fst).Nodup)
    (hp : p ∈ splitDash c) (hv : (p, false) ∈ r) (hnotag : ∀ v, (c, v) ∉ r) : ¬ Seed g r c :=
  not_seed_of_part hp (fun h => nomatch rec_value_unique hk h hv) hnotag

/-- A part that is missing from the record: the conjunct is not reflected (unless its name is a tag). -/
theorem conjunct_with_missing_part (g : Defs) (r : Rec) (c p : Name) (hp : p ∈ splitDash c)
    (hmiss : ∀ v, (p, v) ∉ r) (hnotag : ∀ v, (c, v) ∉ r) : ¬ Seed g r c :=
  not_seed_of_part hp (hmiss true) hnotag

/-- Repeated parts (`a-a`, `a-b-a`): only the SET of parts matters - a conjunct def is a seed as soon as every
member of the set of its parts is a Marker tag. -/
theorem conjunct_parts_as_set (g : Defs) (r : Rec) (c : Name) (hd : defined g c = true) (hc : isConjunct c = true)
    (parts : List Name) (hsame : ∀ p, p ∈ splitDash c ↔ p ∈ parts) (hall : ∀ p ∈ parts, (p, true) ∈ r) :
    Seed g r c := ⟨hd, Or.inr ⟨hc, fun p hp => hall p ((hsame p).1 hp)⟩⟩

/-- `choices_for`: the direct subtypes of a def that lists the Symbol `choice` in `is` -/
theorem choices_spec (rows : List Row) (s x : Name) :
    x ∈ choicesFor (make rows) s ↔
      ((∃ d, get (make rows).defs s = some d ∧ some choiceName ∈ d.isRaw) ∧ RawEdge (make rows).defs x s) := by
  unfold choicesFor
  cases hg : get (make rows).defs s with
  | none => simp
  | some d =>
    simp only [Option.some.injEq, exists_eq_left']
    by_cases hc : (d.isRaw.any fun it => decide (it = some choiceName)) = true
    · simp only [hc, if_true, mem_subtypesOf]
      have : some choiceName ∈ d.isRaw := by
        obtain ⟨it, hit, h⟩ := List.any_eq_true.1 hc
        simp only [decide_eq_true_eq] at h
        subst h; exact hit
      simp [this]
    · simp only [hc]
      have : ¬ some choiceName ∈ d.isRaw := by
        intro hmem
        apply hc
        exact List.any_eq_true.2 ⟨_, hmem, by simp⟩
      simp [this]

/-- `conjuncts_defs`: the defined parts of the name -/
theorem conjuncts_spec (ns : Ns) (s x : Name) :
    x ∈ conjunctsDefs ns s ↔ (x ∈ splitDash s ∧ defined ns.defs x = true) := by
  simp [conjunctsDefs, List.mem_filterMap]

/-- The property at full strength: every defs grid, cyclic included; every record; conjuncts with parts that have
no def, empty parts or repeated parts included. -/
def C13_full : Prop :=
  ∀ rows : List Row, ∀ fuel, fuelFor (make rows).defs ≤ fuel →
    (∀ s b, b ∈ supertypesOf (make rows).defs s ↔ Edge (make rows).defs s b) ∧
    (∀ s x, x ∈ subtypesOf (make rows) s ↔ RawEdge (make rows).defs x s) ∧
    (∀ s, ∃ res, allSupertypesOf fuel (make rows) s = .ok res ∧
        ∀ x, x ∈ res ↔ TransGen (Edge (make rows).defs) s x) ∧
    (∀ s, ∃ res, allSubtypesOf fuel (make rows) s = .ok res ∧
        ∀ x, x ∈ res ↔ TransGen (RawEdge (make rows).defs) x s) ∧
    (∀ s, ∃ res, inheritance fuel (make rows) s = .ok res ∧
        ∀ x, x ∈ res ↔ (defined (make rows).defs s = true ∧ ReflTransGen (Edge (make rows).defs) s x)) ∧
    (∀ a b, ∃ v, fits fuel (make rows) a b = .ok v ∧
        (v = true ↔ (defined (make rows).defs a = true ∧ defined (make rows).defs b = true ∧
          ReflTransGen (Edge (make rows).defs) a b))) ∧
    (∀ r, ∃ res, reflect fuel (make rows) r = .ok res ∧
        ∀ d, d ∈ res ↔ ∃ t, (defined (make rows).defs t = true ∧
            ((∃ v, (t, v) ∈ r) ∨ (isConjunct t = true ∧ ∀ p ∈ splitDash t, (p, true) ∈ r))) ∧
          ReflTransGen (Edge (make rows).defs) t d) ∧
    (∀ r base, ∃ v, reflFits fuel (make rows) r base = .ok v ∧
        (v = true ↔ ∃ t, (defined (make rows).defs t = true ∧
            ((∃ v, (t, v) ∈ r) ∨ (isConjunct t = true ∧ ∀ p ∈ splitDash t, (p, true) ∈ r))) ∧
          defined (make rows).defs base = true ∧ ReflTransGen (Edge (make rows).defs) t base))

theorem C13_holds : C13_full := fun rows fuel hf =>
  ⟨fun s b => supertypes_spec rows s b, fun s x => subtypes_spec rows s x,
   fun s => let ⟨res, h1, _, h3⟩ := allSupertypes_spec rows fuel hf s; ⟨res, h1, h3⟩,
   fun s => let ⟨res, h1, _, h3⟩ := allSubtypes_spec rows fuel hf s; ⟨res, h1, h3⟩,
   fun s => inheritance_spec rows fuel hf s, fun a b => fits_spec rows fuel hf a b,
   fun r => reflect_spec rows fuel hf r, fun r base => isA_spec rows fuel hf r base⟩

/-! Non-vacuity (1): a grid with a diamond (`d` is `a` and `b`, both are `m`), an undefined supertype (`zz`), a
conjunct (`a-b`), a duplicate row and a row without `def`; this one is acyclic, and the model computes on it. -/
def exRows : List Row :=
  [ { name := some ['m'], isRaw := [] },
    { name := some ['a'], isRaw := [some ['m']] },
    { name := none, isRaw := [some ['a']] },
    { name := some ['b'], isRaw := [some ['a']] },
    { name := some ['b'], isRaw := [some ['m'], some ['z', 'z'], none] },
    { name := some ['d'], isRaw := [some ['a'], some ['b']] },
    { name := some ['a', '-', 'b'], isRaw := [some ['d']] } ]

def exRank (x : Name) : Nat :=
  if x = ['m'] then 1 else if x = ['a'] then 2 else if x = ['b'] then 2 else if x = ['d'] then 3
  else if x = ['a', '-', 'b'] then 4 else 0

theorem exDefs : (make exRows).defs =
    [ { name := ['m'], isRaw := [] }, { name := ['a'], isRaw := [some ['m']] },
      { name := ['b'], isRaw := [some ['m'], some ['z', 'z'], none] },
      { name := ['d'], isRaw := [some ['a'], some ['b']] },
      { name := ['a', '-', 'b'], isRaw := [some ['d']] } ] := by decide

example : Acyclic (make exRows).defs := by
  refine ⟨exRank, ?_, ?_⟩
  · rintro a b ⟨d, hd, hb⟩
    obtain ⟨hmem, rfl⟩ := get_some hd
    rw [exDefs] at hmem
    simp only [List.mem_cons, List.not_mem_nil, or_false] at hmem
    rcases hmem with rfl | rfl | rfl | rfl | rfl <;>
      simp only [Def.is, List.filterMap_cons, List.filterMap_nil, id, List.mem_cons, List.not_mem_nil,
        or_false] at hb
    · rcases hb with rfl; decide
    · rcases hb with rfl | rfl <;> decide
    · rcases hb with rfl | rfl <;> decide
    · rcases hb with rfl; decide
  · intro a
    rw [exDefs]
    unfold exRank
    split <;> (try split) <;> (try split) <;> (try split) <;> (try split) <;> decide

example : allSupertypesOf (fuelFor (make exRows).defs) (make exRows) ['a', '-', 'b']
    = .ok [['d'], ['a'], ['b'], ['m']] := by decide +kernel
example : allSubtypesOf (fuelFor (make exRows).defs) (make exRows) ['z', 'z']
    = .ok [['b'], ['d'], ['a', '-', 'b']] := by decide +kernel
example : fits (fuelFor (make exRows).defs) (make exRows) ['d'] ['m'] = .ok true ∧
    fits (fuelFor (make exRows).defs) (make exRows) ['d'] ['z', 'z'] = .ok false := by decide +kernel
example : reflect (fuelFor (make exRows).defs) (make exRows) [(['a'], true), (['b'], true), (['q'], true)]
    = .ok [['a'], ['m'], ['b'], ['a', '-', 'b'], ['d']] := by decide +kernel
example : reflFits (fuelFor (make exRows).defs) (make exRows) [(['a'], true), (['b'], false)] ['d']
    = .ok false := by decide +kernel
/-! Non-vacuity (1b): the repaired defect.  Defs `marker`, `ahu is [marker]`, `ahu-rooftop is [ahu]` - there is NO
def `rooftop`.  The record `{ahu, rooftop}` (both Markers) reflects `ahu-rooftop` and matches `^ahu-rooftop`
(before the repair: `[ahu, marker]` and no match); without `rooftop`, or with `rooftop` present but not a Marker,
it does not.  `rooftop-ahu` has the undefined part FIRST (the key of `conjuncts_keys`), `u-v` has no defined part
at all. -/
def nAhu : Name := ['a', 'h', 'u']
def nRooftop : Name := ['r', 'o', 'o', 'f', 't', 'o', 'p']
def nMarker : Name := ['m', 'a', 'r', 'k', 'e', 'r']
def nAhuRooftop : Name := ['a', 'h', 'u', '-', 'r', 'o', 'o', 'f', 't', 'o', 'p']
def nRooftopAhu : Name := ['r', 'o', 'o', 'f', 't', 'o', 'p', '-', 'a', 'h', 'u']

def ahuRows : List Row :=
  [ { name := some nMarker, isRaw := [] },
    { name := some nAhu, isRaw := [some nMarker] },
    { name := some nAhuRooftop, isRaw := [some nAhu] },
    { name := some nRooftopAhu, isRaw := [some nMarker] },
    { name := some ['u', '-', 'v'], isRaw := [some nMarker] } ]

example : defined (make ahuRows).defs nRooftop = false := by decide +kernel
example : splitDash nAhuRooftop = [nAhu, nRooftop] := by decide +kernel
theorem ahu_rooftop_reflected :
    reflect (fuelFor (make ahuRows).defs) (make ahuRows) [(nAhu, true), (nRooftop, true)]
      = .ok [nAhu, nMarker, nAhuRooftop, nRooftopAhu] ∧
    reflFits (fuelFor (make ahuRows).defs) (make ahuRows) [(nAhu, true), (nRooftop, true)] nAhuRooftop
      = .ok true := by decide +kernel
-- the hypotheses of the statement's conjunct clause hold for it: `reflect_spec` is not vacuous on this record
example : Seed (make ahuRows).defs [(nAhu, true), (nRooftop, true)] nAhuRooftop :=
  ⟨by decide +kernel, Or.inr ⟨by decide +kernel, by decide +kernel⟩⟩
-- a part is missing / is a tag but not a Marker / only the undefined part is there
example : reflect (fuelFor (make ahuRows).defs) (make ahuRows) [(nAhu, true)] = .ok [nAhu, nMarker] ∧
    reflect (fuelFor (make ahuRows).defs) (make ahuRows) [(nAhu, true), (nRooftop, false)] = .ok [nAhu, nMarker] ∧
    reflect (fuelFor (make ahuRows).defs) (make ahuRows) [(nRooftop, true)] = .ok [] ∧
    reflFits (fuelFor (make ahuRows).defs) (make ahuRows) [(nAhu, true), (nRooftop, false)] nAhuRooftop
      = .ok false := by decide +kernel
-- the defined part need not be a Marker to be reflected itself, but it must be one to count as a part
example : reflect (fuelFor (make ahuRows).defs) (make ahuRows) [(nAhu, false), (nRooftop, true)]
    = .ok [nAhu, nMarker] := by decide +kernel
-- no part has a def: the record reflects nothing but the conjunct and its supertypes
example : reflect (fuelFor (make ahuRows).defs) (make ahuRows) [(['u'], true), (['v'], true)]
    = .ok [['u', '-', 'v'], nMarker] := by decide +kernel

/-! Non-vacuity (1c): degenerate conjunct names.  Defs `a`, `a-` (parts `a`, ``), `-b` (parts ``, `b`), `a--b`
(parts `a`, ``, `b`), `-` (parts ``, ``), `a-a` (parts `a`, `a`), `a-b-a`. -/
def degRows : List Row :=
  [ { name := some ['a'], isRaw := [] },
    { name := some ['a', '-'], isRaw := [] },
    { name := some ['-', 'b'], isRaw := [] },
    { name := some ['a', '-', '-', 'b'], isRaw := [] },
    { name := some ['-'], isRaw := [] },
    { name := some ['a', '-', 'a'], isRaw := [] },
    { name := some ['a', '-', 'b', '-', 'a'], isRaw := [] } ]

example : splitDash ['a', '-'] = [['a'], []] ∧ splitDash ['-', 'b'] = [[], ['b']] ∧
    splitDash ['a', '-', '-', 'b'] = [['a'], [], ['b']] ∧ splitDash ['-'] = [[], []] ∧
    splitDash ['a', '-', 'a'] = [['a'], ['a']] ∧ splitDash [] = [[]] := by decide
-- repeated parts: the one Marker tag `a` is enough for `a-a`; `a-b-a` also wants `b`
example : reflect (fuelFor (make degRows).defs) (make degRows) [(['a'], true)]
    = .ok [['a'], ['a', '-', 'a']] := by decide +kernel
example : reflect (fuelFor (make degRows).defs) (make degRows) [(['a'], true), (['b'], true)]
    = .ok [['a'], ['a', '-', 'a'], ['a', '-', 'b', '-', 'a']] := by decide +kernel
-- empty parts: not reflected for records with proper tag names, reflected once the empty name is a Marker tag
example : reflect (fuelFor (make degRows).defs) (make degRows) [([], true)]
    = .ok [['-']] := by decide +kernel
example : reflect (fuelFor (make degRows).defs) (make degRows) [([], true), (['a'], true), (['b'], true)]
    = .ok [['a'], ['-', 'b'], ['-'], ['a', '-'], ['a', '-', '-', 'b'], ['a', '-', 'a'], ['a', '-', 'b', '-', 'a']] := by
  decide +kernel
example : reflect (fuelFor (make degRows).defs) (make degRows) [([], false), (['a'], true), (['b'], true)]
    = .ok [['a'], ['a', '-', 'a'], ['a', '-', 'b', '-', 'a']] := by decide +kernel
-- a record that carries the conjunct's NAME as a tag reflects it by the first clause, whatever its parts
example : reflect (fuelFor (make degRows).defs) (make degRows) [(['a', '-', '-', 'b'], false)]
    = .ok [['a', '-', '-', 'b']] := by decide +kernel

/-! Non-vacuity (2): the 2-cycle of the repaired defect, `aa is [bb]`, `bb is [aa]`.  It admits no topological
numbering, the traversals end within `fuelFor = 3` iterations and return the closure; each def is its own
supertype and subtype, the two fit each other, a record tagged `aa` reflects both and matches `^bb`. -/
def cyc2Rows : List Row :=
  [ { name := some ['a', 'a'], isRaw := [some ['b', 'b']] },
    { name := some ['b', 'b'], isRaw := [some ['a', 'a']] } ]

theorem cyc2_edge_ab : Edge (make cyc2Rows).defs ['a', 'a'] ['b', 'b'] :=
  ⟨{ name := ['a', 'a'], isRaw := [some ['b', 'b']] }, by decide, by decide, by decide⟩
theorem cyc2_edge_ba : Edge (make cyc2Rows).defs ['b', 'b'] ['a', 'a'] :=
  ⟨{ name := ['b', 'b'], isRaw := [some ['a', 'a']] }, by decide, by decide, by decide⟩

theorem cyc2_cycle : TransGen (Edge (make cyc2Rows).defs) ['a', 'a'] ['a', 'a'] :=
  TransGen.head cyc2_edge_ab (TransGen.single cyc2_edge_ba)

example : ¬ Acyclic (make cyc2Rows).defs :=
  not_acyclic_of_cycle (TransGen.mono (fun _ _ => edge_raw) _ _ cyc2_cycle)

example : fuelFor (make cyc2Rows).defs = 3 := by decide
example : allSupertypesOf (fuelFor (make cyc2Rows).defs) (make cyc2Rows) ['a', 'a']
    = .ok [['b', 'b'], ['a', 'a']] := by decide +kernel
example : allSubtypesOf (fuelFor (make cyc2Rows).defs) (make cyc2Rows) ['a', 'a']
    = .ok [['b', 'b'], ['a', 'a']] := by decide +kernel
example : inheritance (fuelFor (make cyc2Rows).defs) (make cyc2Rows) ['b', 'b']
    = .ok [['b', 'b'], ['a', 'a']] := by decide +kernel
example : fits (fuelFor (make cyc2Rows).defs) (make cyc2Rows) ['a', 'a'] ['b', 'b'] = .ok true ∧
    fits (fuelFor (make cyc2Rows).defs) (make cyc2Rows) ['b', 'b'] ['a', 'a'] = .ok true :=
  cycle_members_fit cyc2Rows _ (Nat.le_refl _) _ _ (TransGen.single cyc2_edge_ab) (TransGen.single cyc2_edge_ba)
example : reflect (fuelFor (make cyc2Rows).defs) (make cyc2Rows) [(['a', 'a'], true)]
    = .ok [['a', 'a'], ['b', 'b']] := by decide +kernel
example : reflFits (fuelFor (make cyc2Rows).defs) (make cyc2Rows) [(['a', 'a'], false)] ['b', 'b']
    = .ok true := by decide +kernel

/-! Non-vacuity (3): a cycle with a tail and a diamond inside, a self loop, an exit, an undefined supertype and a
conjunct:  `t → a`,  `a → b, c`,  `b → d`,  `c → d`,  `d → a, m, zz`  (the diamond `a → b|c → d` closes the cycle
`d → a`; `t` is the tail, `m` the exit, `zz` has no def),  `s → s, m`  (self loop),  `b-c → t`. -/
def cycRows : List Row :=
  [ { name := some ['t'], isRaw := [some ['a']] },
    { name := some ['a'], isRaw := [some ['b'], some ['c']] },
    { name := some ['b'], isRaw := [some ['d']] },
    { name := some ['c'], isRaw := [some ['d'], none] },
    { name := some ['d'], isRaw := [some ['a'], some ['m'], some ['z', 'z']] },
    { name := some ['m'], isRaw := [] },
    { name := some ['s'], isRaw := [some ['s'], some ['m']] },
    { name := some ['b', '-', 'c'], isRaw := [some ['t']] } ]

theorem cyc_cycle : TransGen (Edge (make cycRows).defs) ['a'] ['a'] :=
  TransGen.head (b := ['b']) ⟨{ name := ['a'], isRaw := [some ['b'], some ['c']] }, by decide, by decide, by decide⟩
    (TransGen.head (b := ['d']) ⟨{ name := ['b'], isRaw := [some ['d']] }, by decide, by decide, by decide⟩
      (TransGen.single ⟨{ name := ['d'], isRaw := [some ['a'], some ['m'], some ['z', 'z']] }, by decide, by decide,
        by decide⟩))

theorem cyc_self_loop : Edge (make cycRows).defs ['s'] ['s'] :=
  ⟨{ name := ['s'], isRaw := [some ['s'], some ['m']] }, by decide, by decide, by decide⟩

example : ¬ Acyclic (make cycRows).defs :=
  not_acyclic_of_cycle (TransGen.mono (fun _ _ => edge_raw) _ _ cyc_cycle)

example : fuelFor (make cycRows).defs = 9 := by decide
-- from the tail: the whole cycle, the diamond and the exit, not the tail itself
example : allSupertypesOf (fuelFor (make cycRows).defs) (make cycRows) ['t']
    = .ok [['a'], ['b'], ['c'], ['d'], ['m']] := by decide +kernel
-- from inside the cycle: the def itself is among its supertypes
example : allSupertypesOf (fuelFor (make cycRows).defs) (make cycRows) ['a']
    = .ok [['b'], ['c'], ['d'], ['a'], ['m']] := by decide +kernel
example : allSupertypesOf (fuelFor (make cycRows).defs) (make cycRows) ['s']
    = .ok [['s'], ['m']] := by decide +kernel
example : allSubtypesOf (fuelFor (make cycRows).defs) (make cycRows) ['a']
    = .ok [['t'], ['d'], ['b'], ['c'], ['a'], ['b', '-', 'c']] := by decide +kernel
example : allSubtypesOf (fuelFor (make cycRows).defs) (make cycRows) ['m']
    = .ok [['d'], ['s'], ['b'], ['c'], ['a'], ['t'], ['b', '-', 'c']] := by decide +kernel
-- an undefined symbol below which the cycle hangs
example : allSubtypesOf (fuelFor (make cycRows).defs) (make cycRows) ['z', 'z']
    = .ok [['d'], ['b'], ['c'], ['a'], ['t'], ['b', '-', 'c']] := by decide +kernel
example : inheritance (fuelFor (make cycRows).defs) (make cycRows) ['d']
    = .ok [['d'], ['a'], ['m'], ['b'], ['c']] := by decide +kernel
example : fits (fuelFor (make cycRows).defs) (make cycRows) ['d'] ['c'] = .ok true ∧
    fits (fuelFor (make cycRows).defs) (make cycRows) ['a'] ['t'] = .ok false ∧
    fits (fuelFor (make cycRows).defs) (make cycRows) ['s'] ['s'] = .ok true := by decide +kernel
example : (∃ res, allSupertypesOf (fuelFor (make cycRows).defs) (make cycRows) ['s'] = .ok res ∧ ['s'] ∈ res) ∧
    (∃ res, allSubtypesOf (fuelFor (make cycRows).defs) (make cycRows) ['s'] = .ok res ∧ ['s'] ∈ res) :=
  cycle_member_is_own_supertype cycRows _ (Nat.le_refl _) ['s'] (TransGen.single cyc_self_loop)
-- a record whose marker tags `b`, `c` name the conjunct `b-c`, which leads through the tail into the cycle
example : reflect (fuelFor (make cycRows).defs) (make cycRows) [(['b'], true), (['c'], true), (['q'], true)]
    = .ok [['b'], ['d'], ['a'], ['m'], ['c'], ['b', '-', 'c'], ['t']] := by decide +kernel
example : reflFits (fuelFor (make cycRows).defs) (make cycRows) [(['b'], true), (['c'], true)] ['t'] = .ok true ∧
    reflFits (fuelFor (make cycRows).defs) (make cycRows) [(['b'], true), (['c'], false)] ['t'] = .ok false ∧
    reflFits (fuelFor (make cycRows).defs) (make cycRows) [(['s'], false)] ['m'] = .ok true := by decide +kernel

/-! ## Part 2 — the queries that read more of a def than its `is` list

Model: Hs.Model.NsAssoc (`associations` / `find_reciprocal_associations` with `is`, `tag_on`, `tags`;
`implementation`; `fits_marker/val/choice/entity`; `compute_entity_type`; everything `has_relationship` reads
from the namespace; the indexes `choices`, `features`, `libs`, `feature_names`, `tag_on_names`, `tag_on_defs`).
The taxonomy it uses is the model of part 1 on the projection of the full defs (`assoc_taxonomy_is_projection`),
so the closures below are the closures of part 1.  These queries are outside the sentence of C13 proper; they are
the "relationship queries" of C14 and are stated here because they are graph facts. -/

open Hs.NsA in
/-- the taxonomy model inside `makeX` is built from exactly the `def` / `is` projection of the full defs -/
theorem assoc_taxonomy_is_projection (rows : List RowX) :
    (makeX rows).ns = make (rows.map RowX.toRow) ∧ (makeX rows).ns.defs = (makeX rows).xd.map DefX.toDef ∧
    ∀ s, defined (makeX rows).ns.defs s = (getX (makeX rows).xd s).isSome :=
  ⟨rfl, makeX_defs rows, defined_iff_getX rows⟩

open Hs.NsA in
/-- the indexes `Namespace::make` builds next to `subtypes` / `conjuncts_keys`: `features` and `conjuncts` are the defs
whose symbol contains `:` / `-`; `tag_on_names` is exactly the set of Symbol items of all `tagOn` lists; `tag_on_defs`
has one entry per def with a `tagOn` list, holding the defined Symbol items in list order -/
theorem make_indexes_spec (x : NsX) :
    (∀ n, n ∈ features x ↔ ∃ d, d ∈ x.xd ∧ d.name = n ∧ isFeature n = true) ∧
    (∀ n, n ∈ conjuncts x ↔ ∃ d, d ∈ x.xd ∧ d.name = n ∧ isConjunct n = true) ∧
    (∀ n, n ∈ tagOnNames x ↔ ∃ d l, d ∈ x.xd ∧ d.getList nTagOn = some l ∧ some n ∈ l) ∧
    (∀ k v, (k, v) ∈ tagOnDefs x ↔ ∃ d l, d ∈ x.xd ∧ d.name = k ∧ d.getList nTagOn = some l ∧ v = definedSyms x.ns.defs l) := by
  -- `features` and `conjuncts`: the names of the defs that pass a test on the name
  have named : ∀ (q : Name → Bool) (n : Name),
      n ∈ (x.xd.filter (fun d => q d.name)).map (·.name) ↔ ∃ d, d ∈ x.xd ∧ d.name = n ∧ q n = true := by
    intro q n
    simp only [List.mem_map, List.mem_filter]
    constructor
    · rintro ⟨d, ⟨hd, hf⟩, rfl⟩; exact ⟨d, hd, rfl, hf⟩
    · rintro ⟨d, hd, rfl, hf⟩; exact ⟨d, ⟨hd, hf⟩, rfl⟩
  refine ⟨named isFeature, named isConjunct, fun n => ?_, fun k v => ?_⟩
  · simp only [tagOnNames, mem_extendSet, List.not_mem_nil, false_or, List.mem_flatMap]
    constructor
    · rintro ⟨d, hd, hm⟩
      cases hl : d.getList nTagOn with
      | none => simp [hl] at hm
      | some l => exact ⟨d, l, hd, hl, by simpa [hl, symItems] using hm⟩
    · rintro ⟨d, l, hd, hl, hn⟩
      exact ⟨d, hd, by simpa [hl, symItems] using hn⟩
  · unfold tagOnDefs
    simp only [List.mem_filterMap]
    constructor
    · rintro ⟨d, hd, hm⟩
      cases hl : d.getList nTagOn with
      | none => simp [hl] at hm
      | some l =>
        simp only [hl, Option.some.injEq, Prod.mk.injEq] at hm
        exact ⟨d, l, hd, hm.1, hl, hm.2.symm⟩
    · rintro ⟨d, l, hd, rfl, hl, rfl⟩
      exact ⟨d, hd, by simp [hl]⟩

open Hs.NsA in
/-- `associations` answers nothing for a name that is no def, or a def that does not list `association` in `is` -/
theorem associations_only_for_associations (fuel : Nat) (x : NsX) (p a : Name) :
    (getX x.xd a = none → associations fuel x p a = .ok []) ∧
    (∀ ad, getX x.xd a = some ad → isAssoc ad = false → associations fuel x p a = .ok []) :=
  ⟨associations_unknown fuel x p a, fun _ h hn => associations_not_association fuel x p a h hn⟩

open Hs.NsA in
/-- a plain association (`is`, `tagOn`, ...): the defined Symbol items of the parent's tag of that name -/
theorem associations_plain_spec (fuel : Nat) (x : NsX) (p a : Name) (ad : DefX)
    (h : getX x.xd a = some ad) (ha : isAssoc ad = true) (hc : ad.has nComputed = false) :
    ∃ res, associations fuel x p a = .ok res ∧
      ∀ n, n ∈ res ↔ ∃ pd l, getX x.xd p = some pd ∧ pd.getList a = some l ∧ some n ∈ l ∧ defined x.ns.defs n = true := by
  refine ⟨_, associations_plain_eq fuel x p a h ha hc, fun n => ?_⟩
  cases hp : getX x.xd p with
  | none => simp
  | some pd => cases hl : pd.getList a <;> simp [hl, mem_definedSyms]

open Hs.NsA in
/-- a computed association (`tags`): the defs that name, under the reciprocal tag (`tagOn`), the parent or one of
its transitive supertypes - for every defs grid, cyclic or not -/
theorem associations_computed_spec (rows : List RowX) (fuel : Nat) (hf : fuelFor (makeX rows).ns.defs ≤ fuel)
    (p a r : Name) (ad : DefX)
    (h : getX (makeX rows).xd a = some ad) (ha : isAssoc ad = true) (hc : ad.has nComputed = true)
    (hr : ad.getSymbol nReciprocalOf = some r) (hrd : defined (makeX rows).ns.defs r = true) :
    ∃ res, associations fuel (makeX rows) p a = .ok res ∧
      ∀ n, n ∈ res ↔ ∃ d l t, d ∈ (makeX rows).xd ∧ d.name = n ∧ d.tag r = some (.list l) ∧ some t ∈ l ∧
        defined (makeX rows).ns.defs p = true ∧ ReflTransGen (Edge (makeX rows).ns.defs) p t :=
  associations_computed (makeX rows) fuel hf p a r ad h ha hc hr hrd

open Hs.NsA in
/-- a computed association is inherited: what is `tags` of a def is `tags` of every def below it (for every defs
grid: `q` is, or transitively lists, `p`) -/
theorem computed_association_inherited (rows : List RowX) (fuel : Nat) (hf : fuelFor (makeX rows).ns.defs ≤ fuel)
    (p q a r : Name) (ad : DefX)
    (h : getX (makeX rows).xd a = some ad) (ha : isAssoc ad = true) (hc : ad.has nComputed = true)
    (hr : ad.getSymbol nReciprocalOf = some r) (hrd : defined (makeX rows).ns.defs r = true)
    (hq : defined (makeX rows).ns.defs q = true) (hqp : ReflTransGen (Edge (makeX rows).ns.defs) q p) :
    ∃ rp rq, associations fuel (makeX rows) p a = .ok rp ∧ associations fuel (makeX rows) q a = .ok rq ∧
      ∀ n, n ∈ rp → n ∈ rq := by
  obtain ⟨rp, hp1, hp2⟩ := associations_computed (makeX rows) fuel hf p a r ad h ha hc hr hrd
  obtain ⟨rq, hq1, hq2⟩ := associations_computed (makeX rows) fuel hf q a r ad h ha hc hr hrd
  refine ⟨rp, rq, hp1, hq1, fun n hn => ?_⟩
  obtain ⟨d, l, t, hd, hdn, ht, htl, _, hpt⟩ := (hp2 n).1 hn
  exact (hq2 n).2 ⟨d, l, t, hd, hdn, ht, htl, hq, hqp.trans hpt⟩

open Hs.NsA in
/-- `implementation`: the defined non-feature parts of the name in order, then the `mandatory` defs among their
transitive supertypes -/
theorem implementation_is_parts_and_mandatory_supertypes (rows : List RowX) (fuel : Nat)
    (hf : fuelFor (makeX rows).ns.defs ≤ fuel) (s : Name) :
    ∃ base mand, implementation fuel (makeX rows) s = .ok (base, mand) ∧
      base = (conjunctsDefs (makeX rows).ns s).filter (fun n => !isFeature n) ∧
      ∀ n, n ∈ mand ↔ hasMarkerX (makeX rows).xd n nMandatory = true ∧
        ∃ b, b ∈ base ∧ TransGen (Edge (makeX rows).ns.defs) b n :=
  implementation_spec (makeX rows) fuel hf s

open Hs.NsA in
/-- `fits_marker` / `fits_val` / `fits_choice` / `fits_entity` -/
theorem fits_root_spec (rows : List RowX) (fuel : Nat) (hf : fuelFor (makeX rows).ns.defs ≤ fuel) (w : Nat) (s : Name) :
    ∃ v, fitsRoot fuel (makeX rows) w s = .ok v ∧
      (v = true ↔ (defined (makeX rows).ns.defs s = true ∧ defined (makeX rows).ns.defs (rootName w) = true ∧
        ReflTransGen (Edge (makeX rows).ns.defs) s (rootName w))) :=
  fits_spec_ns (makeX rows).ns fuel hf s (rootName w)

open Hs.NsA in
/-- the entity type of a reflection is one of the reflected defs and is, or inherits from, `entity` -/
theorem entity_type_sound (rows : List Row) (fuel : Nat) (hf : fuelFor (make rows).defs ≤ fuel)
    (reflected order : List Name) :
    ∃ r, entityType fuel (make rows) reflected order = .ok r ∧
      ∀ c, r = some c → c ∈ reflected ∧ defined (make rows).defs nEntity = true ∧
        ReflTransGen (Edge (make rows).defs) c nEntity := by
  obtain ⟨cands, h1, h2⟩ := entityCandidates_sound (make rows) fuel hf reflected
  unfold entityType
  rw [h1]
  refine ⟨_, rfl, fun c hc => ?_⟩
  have := List.find?_some hc
  exact h2 c (List.contains_iff_mem.1 this)

open Hs.NsA in
/-- ... and, when several reflected defs are entities, a candidate lies in no OTHER reflected entity def's
inheritance: the entity type is a most specific one (`ahu` rather than `equip` for a record tagged with both) -/
theorem entity_type_most_specific (rows : List Row) (fuel : Nat) (hf : fuelFor (make rows).defs ≤ fuel)
    (reflected : List Name) :
    ∃ cands tw, entityCandidates fuel (make rows) reflected = .ok cands ∧
      (defined (make rows).defs nEntity = true → entityTypes fuel (make rows) (extendSet [] reflected) = .ok tw) ∧
      (tw.length ≠ 1 → ∀ c, c ∈ cands → ∀ e inh, (e, inh) ∈ tw → e ≠ c → c ∉ inh) :=
  entityCandidates_most_specific (make rows) fuel hf reflected

open Hs.NsA in
/-- `has_relationship` always answers (no endless walk over the resolver's records, whatever cycles their refs
form), answers false for a name that is no def -/
theorem has_relationship_total (rows : List RowX) (fuel : Nat) (hf : fuelFor (makeX rows).ns.defs ≤ fuel)
    (recs : List RecX) (lf : Nat) (hlf : recs.length < lf) (rel : Name) (term : Option Name)
    (target : Option FLoops.RefId) (s : RecX) :
    (∃ b, NsA.hasRelationship fuel lf (makeX rows) recs rel term target s = .ok b) ∧
    (getX (makeX rows).xd rel = none → NsA.hasRelationship fuel lf (makeX rows) recs rel term target s = .ok false) :=
  ⟨hasRelationship_total (makeX rows) fuel hf recs lf hlf rel term target s,
   hasRelationship_unknown fuel lf (makeX rows) recs rel term target s⟩


open Hs.NsA in
/-- `rel?` / `rel? ^term` (no target ref) on a record that has an `id`: no Ref is followed, the reciprocal is never
consulted; the answer is "`rel` inherits from `relationship` and some tag of the record has a def whose `rel` tag is
a Symbol that fits the term" -/
theorem has_relationship_without_target (rows : List RowX) (fuel : Nat) (hf : fuelFor (makeX rows).ns.defs ≤ fuel)
    (recs : List RecX) (lf : Nat) (rel : Name) (term : Option Name) (s : RecX) (hid : s.id ≠ none)
    (rd : DefX) (hg : getX (makeX rows).xd rel = some rd) :
    ∃ inh, inheritance fuel (makeX rows).ns rel = .ok inh ∧
      NsA.hasRelationship fuel (lf + 1) (makeX rows) recs rel term none s =
        .ok (inh.contains nRelationship &&
          s.tags.any (fun t => defVal fuel (makeX rows) term t.key rel == FLoops.DefVal.sym true)) := by
  obtain ⟨inh, hi, _⟩ := inheritance_spec_ns (makeX rows).ns fuel hf rel
  have hs : (none == s.id) = false := by cases h : s.id <;> first | rfl | exact absurd h hid
  refine ⟨inh, hi, ?_⟩
  rw [hasRelationship_flat fuel lf (makeX rows) recs rel term none s hs rd hg (fun h => nomatch h) inh hi]
  simp only [Option.isNone_none, Bool.true_or, Bool.and_true]


open Hs.NsA in
/-- `rel? @target` for a relationship without the `transitive` marker, on a record whose own `id` is not the target:
no Ref is followed and the reciprocal is never consulted; the answer is "`rel` inherits from `relationship` and some
tag of the record holds exactly that Ref and has a def whose `rel` tag is a Symbol that fits the term" -/
theorem has_relationship_direct_target (rows : List RowX) (fuel : Nat) (hf : fuelFor (makeX rows).ns.defs ≤ fuel)
    (recs : List RecX) (lf : Nat) (rel : Name) (term : Option Name) (g : Name) (s : RecX)
    (hid : (some g == s.id) = false) (rd : DefX) (hg : getX (makeX rows).xd rel = some rd)
    (htr : rd.hasMarker nTransitive = false) :
    ∃ inh, inheritance fuel (makeX rows).ns rel = .ok inh ∧
      NsA.hasRelationship fuel (lf + 1) (makeX rows) recs rel term (some g) s =
        .ok (inh.contains nRelationship &&
          s.tags.any (fun t => defVal fuel (makeX rows) term t.key rel == FLoops.DefVal.sym true && t.ref == some g)) := by
  obtain ⟨inh, hi, _⟩ := inheritance_spec_ns (makeX rows).ns fuel hf rel
  exact ⟨inh, hi, hasRelationship_flat fuel lf (makeX rows) recs rel term (some g) s hid rd hg (fun _ => htr) inh hi⟩


/-! OBSERVATION (not a property of the list; DESIGN 9.6): the walk of a TRANSITIVE relationship follows the first tag
whose Ref it can resolve and never returns to the other tags of the record it left - so a direct match on a later
tag is lost.  `s = {aRef:@a, bRef:@t, id:@s}`, `a = {id:@a}`, both ref tags declare `containedBy` (transitive):
`containedBy? @t` is false on `s` although `bRef` holds `@t` itself; without `aRef` (record `s2`) it is true; and with
the relationship NOT transitive it is true on `s` (`has_relationship_direct_target`).  The real code answers the same
(case `rel:first_tag_wins` of every run). -/
section
open Hs.NsA
def ftwRows (transitive : Bool) : List RowX :=
  [ { name := some nRelationship, tags := [] },
    { name := some ['x'], tags := [] },
    { name := some ['c','B'], tags := (nIs, .list [some nRelationship]) :: (if transitive then [(nTransitive, .marker)] else []) },
    { name := some ['a','R'], tags := [(['c','B'], .sym ['x'])] },
    { name := some ['b','R'], tags := [(['c','B'], .sym ['x'])] } ]
def ftwRecs : List RecX :=
  [ { key := some ['s'], id := some ['s'],
      tags := [{ key := ['a','R'], ref := some ['a'] }, { key := ['b','R'], ref := some ['t'] }, { key := ['i','d'], ref := some ['s'] }] },
    { key := some ['a'], id := some ['a'], tags := [{ key := ['i','d'], ref := some ['a'] }] },
    { key := some ['s','2'], id := some ['s','2'],
      tags := [{ key := ['b','R'], ref := some ['t'] }, { key := ['i','d'], ref := some ['s','2'] }] } ]

-- `6` is `fuelFor` of the five-def grid, `4` is `ftwRecs.length + 1`, the loop fuel of `has_relationship_total`
example :
    NsA.hasRelationship 6 4 (makeX (ftwRows true)) ftwRecs ['c','B'] none (some ['t']) ftwRecs[0]! = .ok false ∧
    NsA.hasRelationship 6 4 (makeX (ftwRows true)) ftwRecs ['c','B'] none (some ['t']) ftwRecs[2]! = .ok true ∧
    NsA.hasRelationship 6 4 (makeX (ftwRows false)) ftwRecs ['c','B'] none (some ['t']) ftwRecs[0]! = .ok true := by
  decide +kernel
end

/-! Non-vacuity (part 2): a miniature of the standard library.  `tagOn` is a plain association, `tags` is computed
from it; `ahu is [equip]`; `foo tagOn [equip]`, `bar tagOn [ahu, nowhere]`; `equip` is mandatory; `ahu-foo` is a
conjunct; `containedBy` is a transitive relationship. -/
section
open Hs.NsA
def nm (s : String) : Name := s.toList

def libRows : List RowX :=
  [ { name := some ['a','s','s','o','c','i','a','t','i','o','n'], tags := [] },
    { name := some ['t','a','g','O','n'], tags := [(nIs, .list [some nAssociation])] },
    { name := some ['t','a','g','s'], tags := [(nIs, .list [some nAssociation]), (nComputed, .marker), (nReciprocalOf, .sym nTagOn)] },
    { name := some ['i','s'], tags := [(nIs, .list [some nAssociation])] },
    { name := some ['e','n','t','i','t','y'], tags := [] },
    { name := some ['e','q','u','i','p'], tags := [(nIs, .list [some nEntity]), (nMandatory, .marker)] },
    { name := some ['a','h','u'], tags := [(nIs, .list [some ['e','q','u','i','p']])] },
    { name := some ['f','o','o'], tags := [(nTagOn, .list [some ['e','q','u','i','p']])] },
    { name := some ['b','a','r'], tags := [(nTagOn, .list [some ['a','h','u'], some ['n','o','w','h','e','r','e'], none])] },
    { name := some ['a','h','u','-','f','o','o'], tags := [(nIs, .list [some ['a','h','u']])] },
    { name := some ['n','o','t','A','s','s','o','c'], tags := [(nIs, .list [some ['e','q','u','i','p']])] } ]

def libX : NsX := makeX libRows
def libFuel : Nat := fuelFor libX.ns.defs

-- `tags(ahu)`: what is tagOn `ahu` or on its supertype `equip`; `tags(equip)`: only what is tagOn `equip`
example : assocTags libFuel libX ['a','h','u'] = .ok [['f','o','o'], ['b','a','r']] := by decide +kernel
example : assocTags libFuel libX ['e','q','u','i','p'] = .ok [['f','o','o']] := by decide +kernel
example : assocTags libFuel libX ['n','o','w','h','e','r','e'] = .ok [] := by decide +kernel
-- `tag_on(bar)`: the defined Symbol items of its `tagOn` list; `is(ahu)`
example : assocTagOn libFuel libX ['b','a','r'] = .ok [['a','h','u']] := by decide +kernel
example : assocIs libFuel libX ['a','h','u'] = .ok [['e','q','u','i','p']] := by decide +kernel
-- a def that is no association; an unknown name
example : associations libFuel libX ['a','h','u'] ['n','o','t','A','s','s','o','c'] = .ok [] := by decide +kernel
example : associations libFuel libX ['a','h','u'] ['z'] = .ok [] := by decide +kernel
-- `implementation(ahu-foo)`: the parts `ahu`, `foo`, then the mandatory supertype `equip`
example : implementation libFuel libX ['a','h','u','-','f','o','o'] =
    .ok ([['a','h','u'], ['f','o','o']], [['e','q','u','i','p']]) := by decide +kernel
example : fitsRoot libFuel libX 3 ['a','h','u'] = .ok true ∧ fitsRoot libFuel libX 3 ['f','o','o'] = .ok false ∧
    fitsRoot libFuel libX 0 ['a','h','u'] = .ok false := by decide +kernel
-- the entity type of `{ahu, equip, foo}`: `ahu` (the most specific of the two entity defs)
example : entityCandidates libFuel libX.ns [['a','h','u'], ['e','q','u','i','p'], ['f','o','o'], ['e','n','t','i','t','y']]
    = .ok [['a','h','u']] := by decide +kernel
example : tagOnNames libX = [['e','q','u','i','p'], ['a','h','u'], ['n','o','w','h','e','r','e']] ∧
    tagOnDefs libX = [(['f','o','o'], [['e','q','u','i','p']]), (['b','a','r'], [['a','h','u']])] ∧
    conjuncts libX = [['a','h','u','-','f','o','o']] := by decide +kernel
end

/-! ## Part 3: `protos` (Hs.Model.NsProtos)

For EVERY namespace, every set of defs with a `children` tag and every parent dict: the prototypes are exactly
the children of the defs that the parent's tag names name, each merged with the parent's own non-Null values
under the tags that fit one of the def's `childrenFlatten` symbols; in a prototype the flattened value of a tag
wins over the child's own. -/

open Hs.NsA in
/-- `protos(parent)`: which dicts come out -/
theorem protos_spec (fuel : Nat) (ns : Ns) (pd : ProtoDefs) (parent p : PDict) :
    p ∈ protos fuel ns pd parent ↔
      ∃ name v spec cs c, (name, v) ∈ parent ∧ plookup pd name = some spec ∧ spec.children = some cs ∧ c ∈ cs ∧
        p = mergeInto (flattened fuel ns spec.flatten parent) c := by
  rw [mem_protos]
  constructor
  · rintro ⟨name, v, h1, h2⟩
    obtain ⟨spec, cs, h3, h4, c, h5, h6⟩ := (mem_protosFromDef fuel ns pd parent name p).mp h2
    exact ⟨name, v, spec, cs, c, h1, h3, h4, h5, h6⟩
  · rintro ⟨name, v, spec, cs, c, h1, h3, h4, h5, h6⟩
    exact ⟨name, v, h1, (mem_protosFromDef fuel ns pd parent name p).mpr ⟨spec, cs, h3, h4, c, h5, h6⟩⟩

open Hs.NsA in
/-- the flattened values: the parent's entries that are not Null and whose tag fits one of the symbols -/
theorem flattened_spec (fuel : Nat) (ns : Ns) (fl : List Name) (parent : PDict) (k : Name) (v : Nat) :
    (k, v) ∈ flattened fuel ns fl parent ↔
      (k, v) ∈ parent ∧ v ≠ 0 ∧ ∃ sym, sym ∈ fl ∧ fitsB fuel ns k sym = true := by
  simp [flattened, List.mem_filter]

open Hs.NsA in
/-- the same in terms of the graph of the `is` lists, for every defs grid: a value of the parent is flattened into the
prototypes iff it is not Null and its tag is a def that is, or inherits from, one of the defined `childrenFlatten`
symbols -/
theorem flattened_graph_spec (rows : List Row) (fuel : Nat) (hf : fuelFor (make rows).defs ≤ fuel)
    (fl : List Name) (parent : PDict) (k : Name) (v : Nat) :
    (k, v) ∈ flattened fuel (make rows) fl parent ↔
      (k, v) ∈ parent ∧ v ≠ 0 ∧ ∃ sym, sym ∈ fl ∧ defined (make rows).defs k = true ∧
        defined (make rows).defs sym = true ∧ ReflTransGen (Edge (make rows).defs) k sym := by
  simp only [flattened_spec, fitsB_iff (make rows) fuel hf]

open Hs.NsA in
/-- a tag of a prototype: the flattened value if there is one, the child's own otherwise -/
theorem proto_tag (f c : PDict) (k : Name) :
    pget (mergeInto f c) k = (pget f k).or (pget c k) :=
  pget_mergeInto f c k

open Hs.NsA in
/-- the model merges last to first, the code first to last: on a dict (distinct keys) every tag comes out the same -/
theorem merge_loop_eq (f : PDict) (hn : (f.map Prod.fst).Nodup) (c : PDict) (k : Name) :
    pget (mergeLoop f c) k = pget (mergeInto f c) k := by
  rw [pget_mergeLoop f hn, pget_mergeInto]

open Hs.NsA in
/-- `find_flattened_children` as the code's two nested loops run it (symbols outside, the parent's keys inside, inserts
into a fresh dict) builds, on a parent with distinct keys, the dict of `flattened_spec` -/
theorem flattened_loop_eq (fuel : Nat) (ns : Ns) (fl : List Name) (parent : PDict)
    (hn : (parent.map Prod.fst).Nodup) (k : Name) :
    pget (flattenedLoop fuel ns fl parent) k = pget (flattened fuel ns fl parent) k :=
  pget_flattenedLoop fuel ns fl parent hn k

open Hs.NsA in
/-- `protos` with every loop as the code writes it (`protosLoop`, what the driver runs against the library) hands out,
in the same order and tag by tag, the dicts of the specified `protos` - for every parent with distinct keys -/
theorem protos_loop_eq (fuel : Nat) (ns : Ns) (pd : ProtoDefs) (parent : PDict)
    (hn : (parent.map Prod.fst).Nodup) :
    (protosLoop fuel ns pd parent).map pget = (protos fuel ns pd parent).map pget := by
  unfold protosLoop protos
  rw [List.map_flatMap, List.map_flatMap]
  congr 1
  funext kv
  exact protosFromDefLoop_eq fuel ns pd parent hn kv.1

open Hs.NsA in
/-- a parent none of whose tags names a def with children has no prototypes -/
theorem protos_none (fuel : Nat) (ns : Ns) (pd : ProtoDefs) (parent : PDict)
    (h : ∀ kv, kv ∈ parent → plookup pd kv.1 = none) : protos fuel ns pd parent = [] := by
  apply List.eq_nil_iff_forall_not_mem.mpr
  intro p hp
  obtain ⟨name, v, spec, cs, c, h1, h3, _⟩ := (protos_spec fuel ns pd parent p).mp hp
  have := h (name, v) h1
  simp only at this
  rw [this] at h3
  cases h3

open Hs.NsA in
/-- a def whose `children` tag is neither a Str nor a List contributes nothing -/
theorem protos_bad_children (fuel : Nat) (ns : Ns) (pd : ProtoDefs) (parent : PDict) (name : Name) (spec : ChildSpec)
    (h1 : plookup pd name = some spec) (h2 : spec.children = none) :
    protosFromDef fuel ns pd parent name = [] := by
  simp [protosFromDef, h1, h2]

section
open Hs.NsA
/-- on the grid of part 2: `ahu` has two children and flattens what fits `equip`; the parent `{ahu, equip:7, foo:9, z:Null}` -/
def exPd : ProtoDefs :=
  [ (['a','h','u'], { children := some [[(['f','a','n'], 1)], [(['e','q','u','i','p'], 2), (['d','i','s'], 3)]],
                      flatten := [['e','q','u','i','p']] }),
    (['f','o','o'], { children := none, flatten := [] }) ]
def exParent : PDict := [(['a','h','u'], 1), (['e','q','u','i','p'], 7), (['f','o','o'], 9), (['z'], 0)]
-- the hypothesis of the loop theorems holds of the example parent (as of every dict)
example : (exParent.map Prod.fst).Nodup := by decide
-- the loops as written put the entries in another order (an association list is compared tag by tag: protos_loop_eq)
example : protosLoop libFuel libX.ns exPd exParent =
    [ [(['f','a','n'], 1), (['a','h','u'], 1), (['e','q','u','i','p'], 7)],
      [(['e','q','u','i','p'], 7), (['d','i','s'], 3), (['a','h','u'], 1)] ] := by decide +kernel
example : protos libFuel libX.ns exPd exParent =
    [ [(['f','a','n'], 1), (['e','q','u','i','p'], 7), (['a','h','u'], 1)],
      [(['e','q','u','i','p'], 7), (['d','i','s'], 3), (['a','h','u'], 1)] ] := by decide +kernel
end

open Hs.NsA in
/-- `core_type_defs`: sixteen fields; each holds the def named after its kind when the namespace has one, the empty
dict otherwise -/
theorem core_type_defs_spec (g : Defs) :
    (coreTypeDefs g).length = 16 ∧
    ∀ (i : Nat) (n : Name), coreTypeNames[i]? = some n →
      (coreTypeDefs g)[i]? = some (if defined g n then some n else none) := by
  refine ⟨by simp [coreTypeDefs, coreTypeNames], ?_⟩
  intro i n h
  simp [coreTypeDefs, List.getElem?_map, h]

open Hs.NsA in
/-- `has_subtype`: some def is a direct subtype -/
theorem has_subtype_spec (ns : Ns) (s : Name) :
    hasSubtype ns s = true ↔ ∃ d, d ∈ subtypesOf ns s := by
  unfold hasSubtype
  cases h : subtypesOf ns s with
  | nil => simp
  | cons d r => simp

open Hs.NsA in
/-- `all_matching_names`: exactly the given names that have a def, in the order given -/
theorem all_matching_names_spec (g : Defs) (names : List Name) :
    (∀ n, n ∈ allMatchingNames g names ↔ n ∈ names ∧ defined g n = true) ∧
    (allMatchingNames g names).Sublist names := by
  refine ⟨fun n => by simp [allMatchingNames, List.mem_filter], ?_⟩
  exact List.filter_sublist

/-! The fuel bound is attained: below the undefined symbol `nowhere` hang both defs of this grid, the subtype
traversal pops `1 + 2` vectors; one unit of fuel less and the model reports `diverge`. -/
def chainRows : List Row :=
  [ { name := some ['x'], isRaw := [some ['n', 'o', 'w', 'h', 'e', 'r', 'e']] },
    { name := some ['y'], isRaw := [some ['x']] } ]

theorem fuel_bound_sharp :
    allSubtypesOf (fuelFor (make chainRows).defs) (make chainRows) ['n', 'o', 'w', 'h', 'e', 'r', 'e']
      = .ok [['x'], ['y']] ∧
    allSubtypesOf (fuelFor (make chainRows).defs - 1) (make chainRows) ['n', 'o', 'w', 'h', 'e', 'r', 'e']
      = .diverge := by decide +kernel

end Hs.C13

/-
  C20 — display names follow the documented precedence and macro substitution.

  Statements are about the model `Hs.Model.Dis` of `dict_to_dis` / `HaystackDict::dis`
  (src/haystack/val/dict.rs) and `dis_macro` / `DisReplacer` (src/haystack/val/dis_macro.rs).
  They quantify over ALL records (any tags, values of any kind), all localisation functions,
  all defaults and all pattern texts (`List Char` = every Unicode string), with no bound on size.
  The precedence chain, the block shapes, the regex classes and quantifiers are the ones
  translated from the current sources (`Hs.Gen.Dis`); the model is tied to the code and to the
  real `regex` crate by the correspondence check (`dis` / `mac` requests).
-/
import Hs.Lemmas.Dis
namespace Hs.C20
open Hs Hs.Dis

/-! ### precedence -/

/-- the display tags in the documented order of precedence -/
def documentedTags : List String := ["dis", "disMacro", "disKey", "name", "def", "tag", "navName", "id"]

/-- what the property says the display string is when `t` is the first display tag the record has,
with value `v`: a `disMacro` pattern is expanded, a `disKey` is localised when a localisation exists,
an `id` Ref shows its `dis` (or else its id), a Str shows itself, any other value its display text. -/
def specText (r : Rec) (loc : Loc) (t : String) (v : DVal) : Res (List Char) :=
  if t = "disMacro" then
    match v with
    | .str s => disMacro r loc s
    | _ => .ok v.text
  else if t = "disKey" then
    match v with
    | .str s => .ok ((loc s).getD s)
    | _ => .ok v.text
  else if t = "id" then .ok v.macroText
  else .ok v.text

/-- table theorem: the if-chain of `dict_to_dis`, as translated from the current source, tests
exactly the documented tags in the documented order -/
theorem chain_documented : Gen.Dis.chain.map Prod.fst = documentedTags := by decide

/-- table theorem: every block of the chain computes what the property says for its tag -/
theorem chain_blocks (r : Rec) (loc : Loc) (v : DVal) :
    ∀ e ∈ Gen.Dis.chain, blockText r loc e.2 v = specText r loc e.1 v := by
  intro e he
  simp only [Gen.Dis.chain, List.mem_cons, List.not_mem_nil, or_false] at he
  rcases he with rfl | rfl | rfl | rfl | rfl | rfl | rfl | rfl <;>
    cases v <;> simp [blockText, specText, DVal.text, DVal.macroText] <;>
    (rename_i s; cases loc s <;> simp)

/-- **precedence**: the display string comes from the FIRST of the documented tags that the
record has — whatever else the record contains, whatever the kinds of the values -/
theorem dis_precedence (r : Rec) (loc : Loc) (dflt : Option (List Char))
    (pre post : List String) (t : String) (v : DVal)
    (hsplit : documentedTags = pre ++ t :: post)
    (hpre : ∀ p ∈ pre, r.get p.toList = none) (hv : r.get t.toList = some v) :
    dictToDis r loc dflt = specText r loc t v := by
  have hc := chain_documented
  rw [hsplit] at hc
  obtain ⟨cpre, crest, hchain, hmpre, hmrest⟩ := List.map_eq_append_iff.1 hc
  obtain ⟨e, cpost, hrest, he, _⟩ := List.map_eq_cons_iff.1 hmrest
  obtain ⟨t', sh⟩ := e
  simp only at he
  subst he
  subst hrest
  have hp : ∀ e ∈ cpre, r.get e.1.toList = none := by
    intro e he
    exact hpre e.1 (by rw [← hmpre]; exact List.mem_map.2 ⟨e, he, rfl⟩)
  have hmem : (t', sh) ∈ Gen.Dis.chain := by rw [hchain]; simp
  simp only [dictToDis, dictToDisWith, hchain, firstPresent_split r cpre cpost t' sh v hp hv]
  exact chain_blocks r loc v (t', sh) hmem

/-- … and the default (or the empty string) when it has none of them -/
theorem dis_default (r : Rec) (loc : Loc) (dflt : Option (List Char))
    (h : ∀ t ∈ documentedTags, r.get t.toList = none) :
    dictToDis r loc dflt = .ok (dflt.getD []) := by
  have hp : ∀ e ∈ Gen.Dis.chain, r.get e.1.toList = none := by
    intro e he
    exact h e.1 (by rw [← chain_documented]; exact List.mem_map.2 ⟨e, he, rfl⟩)
  simp only [dictToDis, dictToDisWith, firstPresent_none r _ hp]

/-! ### macro substitution -/

/-- **totality**: substitution terminates and never panics, for every record, localisation and
pattern (the matcher is a total function; the fuel `fuelFor` suffices for every text) -/
theorem macro_total (r : Rec) (loc : Loc) (s : List Char) : ∃ out, disMacro r loc s = .ok out := by
  obtain ⟨segs, _, h⟩ := disMacro_eq r loc s
  exact ⟨_, h⟩

/-- **identity**: text without a `$` is returned unchanged -/
theorem macro_id_without_dollar (r : Rec) (loc : Loc) (s : List Char) (h : '$' ∉ s) :
    disMacro r loc s = .ok s := by
  obtain ⟨segs, hs, hd⟩ := disMacro_eq r loc s
  rw [hd, segm_unique hs (segm_no_dollar s h), render_lits]

/-- what a match at a `$` is (`rest` = the text after the `$`): leftmost-first over the three
alternatives, each characterised declaratively (`IsTag`: `$name` with the longest possible name,
`IsBrace`: `${name}`, `IsKey`: `$<key>` with `key` free of the closer) -/
theorem match_spec (rest : List Char) (t : Tok) (after : List Char) :
    matchAt rest = some (t, after) ↔
      (∃ n, t = .tag n ∧ IsTag rest n after) ∨
      ((¬ ∃ n a, IsTag rest n a) ∧ ∃ n, t = .brace n ∧ IsBrace rest n after) ∨
      ((¬ ∃ n a, IsTag rest n a) ∧ (¬ ∃ n a, IsBrace rest n a) ∧ ∃ k, t = .key k ∧ IsKey rest k after) := by
  rw [← alt1_iff, ← alt2_iff, ← alt3_iff, ← alt_none_iff (alt1_iff rest), ← alt_none_iff (alt2_iff rest)]
  exact matchAt_iff rest (t, after)

/-- Haystack tag names: an ASCII lower-case letter, then ASCII letters, digits or `_` (code points) -/
def tagStart (c : Char) : Bool := 97 ≤ c.toNat && c.toNat ≤ 122
def tagChar (c : Char) : Bool :=
  (97 ≤ c.toNat && c.toNat ≤ 122) || (65 ≤ c.toNat && c.toNat ≤ 90) || (48 ≤ c.toNat && c.toNat ≤ 57) || c.toNat == 95
def IsTagName (n : List Char) : Prop := ∃ c run, n = c :: run ∧ tagStart c = true ∧ ∀ x ∈ run, tagChar x = true

/-- table theorem: the identifier classes and quantifiers of the regex, as translated from the
current source, are exactly the Haystack tag-name grammar `[a-z][a-zA-Z0-9_]*` (one-letter names
included), and the key is closed by `>` -/
theorem macro_tag_grammar :
    (∀ c, isHead1 c = tagStart c ∧ isHead2 c = tagStart c ∧ isTail1 c = tagChar c ∧ isTail2 c = tagChar c) ∧
    Gen.Dis.tailMin1 = 0 ∧ Gen.Dis.tailMin2 = 0 ∧ Gen.Dis.keyMin = 1 ∧ keyStop = '>' := by
  exact ⟨fun c => ⟨isHead1_eq c, isHead2_eq c, isTail1_eq c, isTail2_eq c⟩, by decide, by decide, by decide, by decide⟩

/-- every `$name` with `name` a tag name (taken as long as possible) is a match … -/
theorem tag_macro_matches (n after : List Char) (hn : IsTagName n)
    (hmax : ∀ x, after.head? = some x → tagChar x = false) :
    matchAt (n ++ after) = some (.tag n, after) := by
  obtain ⟨_, h1, _, _, _⟩ := macro_tag_grammar
  obtain ⟨c, run, rfl, hc, hrun⟩ := hn
  apply (match_spec _ _ _).2
  left
  refine ⟨c :: run, rfl, rfl, ⟨c, run, rfl, ?_, ?_, ?_⟩, ?_⟩
  · rw [isHead1_eq]; exact hc
  · intro x hx; rw [isTail1_eq]; exact hrun x hx
  · rw [h1]; exact Nat.zero_le _
  · intro x hx; rw [isTail1_eq]; exact hmax x hx

/-- … every `${name}` with `name` a tag name is a match … -/
theorem brace_macro_matches (n after : List Char) (hn : IsTagName n) :
    matchAt ('{' :: (n ++ '}' :: after)) = some (.brace n, after) := by
  obtain ⟨_, _, h2, _, _⟩ := macro_tag_grammar
  obtain ⟨c, run, rfl, hc, hrun⟩ := hn
  apply (match_spec _ _ _).2
  right; left
  refine ⟨?_, c :: run, rfl, rfl, ⟨c, run, rfl, ?_, ?_, ?_⟩⟩
  · rintro ⟨n', a', h⟩
    exact absurd (isHead1_eq '{' ▸ h.head) (by decide)
  · rw [isHead2_eq]; exact hc
  · intro x hx; rw [isTail2_eq]; exact hrun x hx
  · rw [h2]; exact Nat.zero_le _

/-- … and every `$<key>` with a non-empty key free of `>` is a match -/
theorem key_macro_matches (k after : List Char) (hk : k ≠ []) (hfree : '>' ∉ k) :
    matchAt ('<' :: (k ++ '>' :: after)) = some (.key k, after) := by
  obtain ⟨_, _, _, h3, hstop⟩ := macro_tag_grammar
  apply (match_spec _ _ _).2
  right; right
  refine ⟨?_, ?_, k, rfl, ?_, ?_, ?_⟩
  · rintro ⟨n', a', h⟩
    exact absurd (isHead1_eq '<' ▸ h.head) (by decide)
  · rintro ⟨n', a', hsplit, _⟩
    simp only [List.cons.injEq] at hsplit
    exact absurd hsplit.1 (by decide)
  · rw [hstop]
  · intro x hx e; rw [hstop] at e; exact hfree (e ▸ hx)
  · rw [h3]; cases k with
    | nil => exact absurd rfl hk
    | cons _ _ => simp

/-- what a match is replaced by: the tag's display text / the key's localisation when it exists,
the matched text verbatim otherwise -/
theorem replace_spec (r : Rec) (loc : Loc) :
    (∀ n v, r.get n = some v → replace r loc (.tag n) = v.macroText ∧ replace r loc (.brace n) = v.macroText) ∧
    (∀ n, r.get n = none → replace r loc (.tag n) = (Tok.tag n).text ∧ replace r loc (.brace n) = (Tok.brace n).text) ∧
    (∀ k x, loc k = some x → replace r loc (.key k) = x) ∧
    (∀ k, loc k = none → replace r loc (.key k) = (Tok.key k).text) := by
  refine ⟨?_, ?_, ?_, ?_⟩
  · intro n v h; simp [replace, h]
  · intro n h; simp [replace, h]
  · intro k x h; simp [replace, h]
  · intro k h; simp [replace, h]

/-- **substitution**: every pattern splits — in exactly one way — into literal characters and
matches such that (1) the pieces concatenate to the pattern (the whole input is consumed, nothing
is dropped or duplicated), (2) the pieces are the leftmost non-overlapping matches: a `$` at which
some alternative matches (`match_spec`) always starts a match, and a literal `$` is one at which
none does (`Segm`), (3) the output is the concatenation of the literal characters, copied
verbatim, and of the replacements of the matches (`replace_spec`) -/
theorem macro_spec (r : Rec) (loc : Loc) (s : List Char) :
    ∃ segs, Segm s segs ∧ (∀ segs', Segm s segs' → segs' = segs) ∧ srcOf segs = s ∧
      disMacro r loc s = .ok (render r loc segs) := by
  obtain ⟨segs, hs, hd⟩ := disMacro_eq r loc s
  exact ⟨segs, hs, fun _ h' => segm_unique h' hs, segm_src hs, hd⟩

/-- The property at full strength: precedence and default; the segmentation of a pattern and its rendering; identity
without `$`; the three documented forms are matches.  What `render` puts in the place of a match is said by
`replace_spec` and what a match is by `match_spec`: neither is a conjunct here. -/
def C20_full : Prop :=
  (∀ (r : Rec) (loc : Loc) (dflt : Option (List Char)),
    (∀ pre post t v, documentedTags = pre ++ t :: post → (∀ p ∈ pre, r.get p.toList = none) →
        r.get t.toList = some v → dictToDis r loc dflt = specText r loc t v) ∧
    ((∀ t ∈ documentedTags, r.get t.toList = none) → dictToDis r loc dflt = .ok (dflt.getD []))) ∧
  (∀ (r : Rec) (loc : Loc) (s : List Char),
    (∃ segs, Segm s segs ∧ srcOf segs = s ∧ disMacro r loc s = .ok (render r loc segs)) ∧
    ('$' ∉ s → disMacro r loc s = .ok s)) ∧
  (∀ n after : List Char,
    (IsTagName n → (∀ x, after.head? = some x → tagChar x = false) → matchAt (n ++ after) = some (.tag n, after)) ∧
    (IsTagName n → matchAt ('{' :: (n ++ '}' :: after)) = some (.brace n, after)) ∧
    (n ≠ [] → '>' ∉ n → matchAt ('<' :: (n ++ '>' :: after)) = some (.key n, after)))

theorem C20_holds : C20_full :=
  ⟨fun r loc dflt => ⟨fun pre post t v h1 h2 h3 => dis_precedence r loc dflt pre post t v h1 h2 h3,
      dis_default r loc dflt⟩,
   fun r loc s => ⟨by
      obtain ⟨segs, h1, _, h3, h4⟩ := macro_spec r loc s
      exact ⟨segs, h1, h3, h4⟩, macro_id_without_dollar r loc s⟩,
   fun n after => ⟨tag_macro_matches n after, brace_macro_matches n after, key_macro_matches n after⟩⟩

/-! ### non-vacuity: concrete inputs satisfying the hypotheses -/

/-- `name` wins over `navName` and `id` when `dis`, `disMacro`, `disKey` are absent -/
example : dictToDis [("id".toList, .ref "x".toList none "@x".toList), ("name".toList, .str "n".toList),
      ("navName".toList, .str "v".toList)] (fun _ => none) none = .ok "n".toList :=
  dis_precedence _ _ _ ["dis", "disMacro", "disKey"] ["def", "tag", "navName", "id"] "name" (.str "n".toList)
    rfl (by decide) (by decide)

example : disMacro [] (fun _ => none) "a {b} <c> é".toList = .ok "a {b} <c> é".toList :=
  macro_id_without_dollar _ _ _ (by decide)

/-- a one-letter tag name is a tag name -/
example : matchAt "a b".toList = some (.tag "a".toList, " b".toList) :=
  tag_macro_matches "a".toList " b".toList ⟨'a', [], rfl, by decide, by simp⟩ (by decide)

/-- a pattern with all three forms, a key and a tag that do not resolve, and a `$` at which nothing matches -/
example : disMacro [("ab".toList, .str "X".toList), ("cd".toList, .ref "i".toList (some "D".toList) "@i".toList)]
    (fun k => if k = "k".toList then some "L".toList else none) "$ab-${cd} $<k> $<q> $zz$".toList
    = .ok "X-D L $<q> $zz$".toList := by
  -- the characters in the place of each `"…".toList` before the kernel evaluates (see `Hs.Lemmas.StrLit`)
  repeat rw [String.toList_ofList]
  decide +kernel

end Hs.C20

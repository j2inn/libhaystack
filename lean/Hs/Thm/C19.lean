/-
  C19 — kinds, typed accessors and grid construction are coherent.

  The tables (`Hs.Gen.ValueShape`, `Hs.Gen.Kinds`, `Hs.Gen.Accessors`) are regenerated from
  /repo/src/haystack/val/*.rs on every run; the `table_*` theorems below are decided over the WHOLE
  tables by the kernel and are re-checked whenever a table changes.  They are lifted to all values
  (`Val` of any size), all strings, all dicts and keys by the general lemmas of `Hs.Lemmas.Kinds`.
  The grid theorems are general: every list of rows, of any length, with any keys.
-/
import Hs.Lemmas.Kinds
import Hs.Lemmas.Views
namespace Hs.C19
open Hs Hs.Kinds Hs.Gen

/-! ## hand-written expectations the translated tables are checked against -/

/-- names of the variants of `HaystackKind`, declaration order -/
def kindNames : List Kind := Kinds.kinds.map (·.1)

/-- the variant a `TryFrom<&Value>` target type stands for: the three Rust primitives stand for the
kind whose payload they are, every other target type is named like its variant -/
def targetVariant (t : List Char) : List Char :=
  if t = cl! "bool" then cl! "Bool"
  else if t = cl! "f64" then cl! "Number"
  else if t = cl! "String" then cl! "Str"
  else t

/-- the variant each typed `HaystackDict` method is documented to look for -/
def getterSpec : List (List Char × List Char) :=
  [(cl! "has_marker", cl! "Marker"), (cl! "has_na", cl! "Na"), (cl! "has_remove", cl! "Remove"),
   (cl! "get_bool", cl! "Bool"), (cl! "get_num", cl! "Number"), (cl! "get_str", cl! "Str"),
   (cl! "get_xstr", cl! "XStr"), (cl! "get_ref", cl! "Ref"), (cl! "get_uri", cl! "Uri"),
   (cl! "get_symbol", cl! "Symbol"), (cl! "get_date", cl! "Date"), (cl! "get_time", cl! "Time"),
   (cl! "get_date_time", cl! "DateTime"), (cl! "get_coord", cl! "Coord"), (cl! "get_dict", cl! "Dict"),
   (cl! "get_list", cl! "List"), (cl! "get_grid", cl! "Grid")]

def getterVariant (g : List Char) : List Char := (lookup g getterSpec).getD []

/-! ## table theorems (decided over the whole generated tables) -/

/-- `enum Value` declares exactly the 18 variants of the model, in the order of `Val.kindIdx` -/
theorem table_variants : ValueShape.variants.map (·.1) = ctorNames := by decide +kernel

/-- each variant is tested by exactly one `is_*` method, and there is no further variant test -/
theorem table_preds :
    (∀ n ∈ ctorNames, (ValueShape.preds.filter fun p => p.2 == n).length = 1) ∧
    ValueShape.preds.length = ctorNames.length := by decide +kernel

/-- discriminants fit a `u8`; `kind as u8` followed by `try_from(u8)` is the identity -/
theorem table_code_of_kind :
    ∀ k ∈ kindNames, ∃ n, n < 256 ∧ kindCode k = some n ∧ kindOfCode n = some k := by
  intro k hk
  obtain ⟨n, hn, h1, h2⟩ := forall_exists_of_any (l := kindNames) (f := kindCode)
    (q := fun k n => n < 256 ∧ kindOfCode n = some k) (by decide +kernel) k hk
  exact ⟨n, h1, hn, h2⟩

/-- every code: `try_from(u8)` answers only with a declared kind whose code is that number, because each
arm `v if v == A as u8 => Ok(B)` names a declared kind `B` with the code of `A` -/
theorem table_kind_of_code :
    ∀ n k, kindOfCode n = some k → k ∈ kindNames ∧ kindCode k = some n := by
  have h : ∀ e ∈ Kinds.fromU8, e.2 ∈ kindNames ∧ kindCode e.2 = kindCode e.1 := by decide +kernel
  intro n k hk
  obtain ⟨a, ha, hc⟩ := firstArm_some_mem hk
  exact ⟨(h _ ha).1, (h _ ha).2.trans hc⟩

/-- kind names: `&str::from(kind)`, `Display` and `try_from(&str)` agree on every kind -/
theorem table_name_of_kind :
    ∀ k ∈ kindNames, ∃ s, kindName k = some s ∧ kindDisplay k = some s ∧ kindOfName s = some k :=
  forall_exists_of_any (f := kindName) (q := fun k s => kindDisplay k = some s ∧ kindOfName s = some k)
    (by decide +kernel)

/-- every arm of `try_from(&str)` names a declared kind whose name is the arm's pattern -/
theorem table_fromStr : ∀ e ∈ Kinds.fromStr, e.2 ∈ kindNames ∧ kindName e.2 = some e.1 := by decide +kernel

/-- `HaystackKind::from(&Value)` is total on the 18 variants, lands in the declared kinds, never maps
two variants to one kind, and reaches every kind -/
theorem table_ofValue :
    (∀ a ∈ ctorNames, ∃ k, lookup a Kinds.ofValue = some k ∧ k ∈ kindNames) ∧
    (∀ a ∈ ctorNames, ∀ b ∈ ctorNames, lookup a Kinds.ofValue = lookup b Kinds.ofValue → a = b) ∧
    (∀ k ∈ kindNames, ∃ a ∈ ctorNames, lookup a Kinds.ofValue = some k) :=
  ⟨forall_exists_of_any (f := fun a => lookup a Kinds.ofValue) (q := fun _ k => k ∈ kindNames) (by decide +kernel),
    by decide +kernel, by decide +kernel⟩

/-- every `impl TryFrom<&Value> for T` accepts the variant `T` stands for, and hands out the payload in
the expected way: the field `value` for the three primitives, the unit struct for a payload-free
variant, the stored payload itself otherwise -/
theorem table_tryFroms :
    ∀ e ∈ Accessors.tryFroms,
      e.2.1 = targetVariant e.1 ∧ e.2.1 ∈ ctorNames ∧
      e.2.2 = (if e.1 ≠ e.2.1 then cl! "value"
               else if lookup e.2.1 ValueShape.variants = some false then cl! "unit" else cl! "whole") := by
  decide +kernel

/-- every `dict_get!`/`dict_has!` method tests the variant it is documented to look for -/
theorem table_getters :
    ∀ e ∈ Accessors.getters, e.2.2 = getterVariant e.1 ∧ e.2.2 ∈ ctorNames := by decide +kernel

/-- the getters with a fixed key are built on a `dict_get!` getter of the table -/
theorem table_keyedGetters :
    ∀ e ∈ Accessors.keyedGetters, (lookup3 e.2.1 Accessors.getters).isSome = true := by decide +kernel

/-! ## lifted to all values -/

/-- `Val.kindIdx` is the position of the value's variant in the translated `enum Value` -/
theorem kindIdx_agrees (v : Val) : (ValueShape.variants.map (·.1))[v.kindIdx]? = some v.ctorName := by
  rw [table_variants]; exact ctorNames_get v

theorem variants_count : ValueShape.variants.length = 18 := by
  have := congrArg List.length table_variants
  simpa [ctorNames] using this

/-- Exactly one `is_*` variant test is true of any value. -/
theorem exactly_one_pred (v : Val) : (predBits v).count true = 1 := by
  have h := table_preds.1 v.ctorName (ctorName_mem v)
  rw [← h, predBits, List.count_eq_countP, List.countP_map, List.countP_eq_length_filter]
  refine congrArg List.length (List.filter_congr ?_)
  intro p _
  simp [matchesVariant]

/-- … in terms of the indexed tests: there is exactly one index below the number of tests whose test holds. -/
theorem exactly_one_pred_idx (v : Val) :
    ∃ i, i < ValueShape.preds.length ∧ isPred i v = true ∧
      ∀ j, j < ValueShape.preds.length → isPred j v = true → j = i := by
  obtain ⟨i, hi, hgi, huniq⟩ := exists_unique_idx_of_count_eq_one _ (exactly_one_pred v)
  rw [length_predBits] at hi
  refine ⟨i, hi, ?_, fun j hj hjt => huniq j (by rw [getElem?_predBits hj, hjt])⟩
  rw [getElem?_predBits hi] at hgi
  exact Option.some.inj hgi

/-- `kind as u8` and `HaystackKind::try_from(u8)` are inverse bijections between the declared kinds and
the accepted codes, over all 256 codes. -/
theorem kind_code_bij :
    (∀ k ∈ kindNames, ∃ n, n < 256 ∧ kindCode k = some n ∧ kindOfCode n = some k) ∧
    (∀ n, n < 256 → ∀ k, kindOfCode n = some k → k ∈ kindNames ∧ kindCode k = some n) :=
  ⟨table_code_of_kind, fun n _ => table_kind_of_code n⟩

/-- kind ↔ name is a bijection: every kind has a name that parses back to it (and `Display` prints that
name); ANY string that parses as a kind is that kind's name. -/
theorem kind_name_bij :
    (∀ k ∈ kindNames, ∃ s, kindName k = some s ∧ kindDisplay k = some s ∧ kindOfName s = some k) ∧
    (∀ (s : List Char) (k : Kind), kindOfName s = some k → k ∈ kindNames ∧ kindName k = some s) := by
  refine ⟨table_name_of_kind, ?_⟩
  intro s k h
  exact table_fromStr (s, k) (lookup_some_mem h)

/-- Every value has a kind; values of different variants have different kinds; every kind is the kind of
some value. -/
theorem kind_of_val_bij :
    (∀ v : Val, ∃ k, kindOfVal v = some k ∧ k ∈ kindNames) ∧
    (∀ v w : Val, kindOfVal v = kindOfVal w → v.kindIdx = w.kindIdx) ∧
    (∀ k ∈ kindNames, ∃ v : Val, kindOfVal v = some k) := by
  refine ⟨fun v => table_ofValue.1 _ (ctorName_mem v), ?_, ?_⟩
  · intro v w h
    exact kindIdx_of_ctorName (table_ofValue.2.1 _ (ctorName_mem v) _ (ctorName_mem w) h)
  · intro k hk
    obtain ⟨a, ha, hl⟩ := table_ofValue.2.2 k hk
    obtain ⟨v, rfl⟩ := ctorNames_tight a ha
    exact ⟨v, hl⟩

/-- A typed conversion `T::try_from(&value)` succeeds exactly when the value is of the variant `T` stands for. -/
theorem tryfrom_iff_kind (t : List Char) (v : Val) (ok : Bool) (h : tryFromOk t v = some ok) :
    ok = true ↔ v.ctorName = targetVariant t := by
  obtain ⟨⟨variant, cls⟩, hm, rfl⟩ := map_lookup3_some h
  rw [matchesVariant_iff, (table_tryFroms _ hm).1]

/-- A typed dict getter answers (`Some` / `true`) exactly when the dict has the key and the value stored
there is of the getter's kind — for every dict and every key. -/
theorem getter_iff_kind (g : List Char) (d : Tags) (key : List Char) (ok : Bool)
    (h : getterOk g d key = some ok) :
    ok = true ↔ ∃ v, d.get? key = some v ∧ v.ctorName = getterVariant g := by
  obtain ⟨⟨mode, variant⟩, hm, rfl⟩ := map_lookup3_some h
  have hv : variant = getterVariant g := (table_getters _ hm).1
  cases hg : d.get? key with
  | none => simp
  | some v => simp only [matchesVariant_iff, hv, Option.some.injEq, exists_eq_left']

/-! ## grid construction: every list of rows -/

/-- another name for `makeFromDicts`; the theorems below speak of `makeFromDicts` itself -/
def gridOf (rows : List Tags) : Val := makeFromDicts rows

/-- rows are the records, in order -/
theorem from_dicts_rows (rows : List Tags) :
    ∃ md cols rs ver, makeFromDicts rows = .grid md cols rs ver ∧ rs.toList = rows ∧
      cols.names = gridColumns rows ∧ md = .none ∧ cols.toList = (gridColumns rows).map fun n => (n, OTags.none) :=
  ⟨_, _, _, _, rfl, Rows.toList_ofList rows, names_colsOfNames _, rfl, colsOfNames_toList _⟩

theorem from_dicts_with_meta_rows (rows : List Tags) (m : Tags) :
    ∃ cols rs ver, makeFromDictsWithMeta rows m = .grid (.some m) cols rs ver ∧ rs.toList = rows ∧
      cols.names = gridColumns rows :=
  ⟨_, _, _, rfl, Rows.toList_ofList rows, names_colsOfNames _⟩

/-- column names are strictly ascending in `String` order, hence without duplicates -/
theorem from_dicts_cols_sorted_nodup (rows : List Tags) :
    (gridColumns rows).Pairwise (fun a b => cmpChars a b = .lt) ∧ (gridColumns rows).Nodup :=
  ⟨by simp only [(cmpChars_iff _ _).1]; exact asc_sortedUnion _, (asc_sortedUnion _).nodup⟩

/-- the columns are exactly the union of the row keys -/
theorem from_dicts_cols_eq_union (rows : List Tags) (k : List Char) :
    k ∈ gridColumns rows ↔ ∃ r ∈ rows, k ∈ r.keys := by
  rw [gridColumns, mem_sortedUnion, mem_rowKeys]

/-- every key of every row is a column -/
theorem row_keys_subset_cols (rows : List Tags) (r : Tags) (hr : r ∈ rows) (k : List Char) (hk : k ∈ r.keys) :
    k ∈ gridColumns rows :=
  (from_dicts_cols_eq_union rows k).2 ⟨r, hr, hk⟩

/-! ## the property at full strength -/

def C19_full : Prop :=
  -- every value has exactly one kind
  (∀ v : Val, (predBits v).count true = 1) ∧
  (∀ v : Val, (ValueShape.variants.map (·.1))[v.kindIdx]? = some v.ctorName) ∧
  ((∀ v : Val, ∃ k, kindOfVal v = some k ∧ k ∈ kindNames) ∧
    (∀ v w : Val, kindOfVal v = kindOfVal w → v.kindIdx = w.kindIdx) ∧
    (∀ k ∈ kindNames, ∃ v : Val, kindOfVal v = some k)) ∧
  -- kind ↔ code ↔ name one-to-one
  ((∀ k ∈ kindNames, ∃ n, n < 256 ∧ kindCode k = some n ∧ kindOfCode n = some k) ∧
    (∀ n, n < 256 → ∀ k, kindOfCode n = some k → k ∈ kindNames ∧ kindCode k = some n)) ∧
  ((∀ k ∈ kindNames, ∃ s, kindName k = some s ∧ kindDisplay k = some s ∧ kindOfName s = some k) ∧
    (∀ (s : List Char) (k : Kind), kindOfName s = some k → k ∈ kindNames ∧ kindName k = some s)) ∧
  -- typed conversions and getters succeed exactly for the matching kind
  (∀ t v ok, tryFromOk t v = some ok → (ok = true ↔ v.ctorName = targetVariant t)) ∧
  (∀ g d key ok, getterOk g d key = some ok →
    (ok = true ↔ ∃ v, d.get? key = some v ∧ v.ctorName = getterVariant g)) ∧
  -- grid from records
  (∀ rows : List Tags,
    (∃ md cols rs ver, makeFromDicts rows = .grid md cols rs ver ∧ rs.toList = rows ∧
      cols.names = gridColumns rows ∧ md = .none ∧ cols.toList = (gridColumns rows).map fun n => (n, OTags.none)) ∧
    (gridColumns rows).Pairwise (fun a b => cmpChars a b = .lt) ∧ (gridColumns rows).Nodup ∧
    (∀ k, k ∈ gridColumns rows ↔ ∃ r ∈ rows, k ∈ r.keys))

theorem C19_holds : C19_full :=
  ⟨exactly_one_pred, kindIdx_agrees, kind_of_val_bij, kind_code_bij, kind_name_bij,
   tryfrom_iff_kind, getter_iff_kind,
   fun rows => ⟨from_dicts_rows rows, (from_dicts_cols_sorted_nodup rows).1, (from_dicts_cols_sorted_nodup rows).2,
     from_dicts_cols_eq_union rows⟩⟩

/-! ## non-vacuity -/

/-- the tables are not empty and the accessors are defined on them -/
example : tryFromOk (cl! "f64") (sampleOf 5) = some true ∧ tryFromOk (cl! "f64") (sampleOf 6) = some false ∧
    tryFromOk (cl! "Marker") (sampleOf 2) = some true := by decide +kernel
example : getterOk (cl! "get_ref") (.cons (cl! "id") (sampleOf 8) .nil) (cl! "id") = some true ∧
    getterOk (cl! "get_ref") (.cons (cl! "id") (sampleOf 6) .nil) (cl! "id") = some false ∧
    getterOk (cl! "has_marker") (.cons (cl! "id") (sampleOf 2) .nil) (cl! "nope") = some false := by decide +kernel
example : kindOfCode 4 = some (cl! "Bool") ∧ kindOfCode 3 = some (cl! "Na") ∧ kindOfCode 18 = none ∧
    kindOfVal (sampleOf 3) = some (cl! "Bool") ∧ (sampleOf 3).kindIdx = 3 := by decide +kernel
example : kindOfName (cl! "dateTime") = some (cl! "DateTime") ∧ kindOfName (cl! "datetime") = none := by decide +kernel
/-- two rows sharing a key, keys out of order across rows -/
example : gridColumns [.cons (cl! "site") .marker (.cons (cl! "dis") .null .nil),
                       .cons (cl! "equip") .marker (.cons (cl! "dis") .na .nil)]
    = [cl! "dis", cl! "equip", cl! "site"] := by decide +kernel
example : gridColumns [] = [] := rfl

end Hs.C19

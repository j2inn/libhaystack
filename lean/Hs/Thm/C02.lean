/-
  C02 — Hayson (JSON) encode → decode returns the original value.

  Model at the level of the JSON tree: `Hs.Hayson.toJson` (the `Serialize` impls) and
  `Hs.Hayson.fromJson` (`JsonValueDecoderVisitor`, member by member in document order).
  serde_json's text layer (print, then parse) is outside the model: every number token carries the
  f64 serde_json/std make of it; it is exercised through all six entry points on every run.
-/
import Hs.Lemmas.HaysonReadDenotes
import Hs.Lemmas.HaysonWrite
namespace Hs.C02
open Hs Hs.Hayson

/-- The property at full strength (tree level): for well-formed values — tag names sorted, distinct
and different from `_kind`, no grid meta tag named `ver`, database units, finite coordinates —
decoding the encoder's tree gives the image of the value, nothing lost, nothing added. -/
def C02_full (WF : Val → Prop) : Prop :=
  ∀ v, WF v → fromJson (toJson v) = .ok (jImage v)

def okIs (r : Res Val) (p : Val → Bool) : Bool :=
  match r with
  | .ok v => p v
  | _ => false

/-- finite kinds, exhaustively -/
theorem rt_finite_kinds :
    okIs (fromJson (toJson .null)) (fun v => match v with | .null => true | _ => false) = true ∧
    okIs (fromJson (toJson .marker)) (fun v => match v with | .marker => true | _ => false) = true ∧
    okIs (fromJson (toJson .remove)) (fun v => match v with | .remove => true | _ => false) = true ∧
    okIs (fromJson (toJson .na)) (fun v => match v with | .na => true | _ => false) = true ∧
    (∀ b, okIs (fromJson (toJson (.bool b))) (fun v => match v with | .bool c => c == b | _ => false) = true) := by
  refine ⟨by decide +kernel, by decide +kernel, by decide +kernel, by decide +kernel, ?_⟩
  intro b; cases b <;> decide +kernel

/-- strings of every content travel as plain JSON strings -/
theorem rt_str (x : List Char) : fromJson (toJson (.str x)) = .ok (.str x) := by
  simp [toJson, fromJson]

/-- the integral magnitudes beyond the i64 range are written as floats, not saturated: 1e20 -/
example : (match toJson (.num { v := { bits := 0x4415AF1D78B58C40, txt := "100000000000000000000".toList }, unit := none }) with
    | .flt _ => true | _ => false) = true := by decide +kernel
/-- … and 2^63 - 1024 (the largest double below 2^63) still travels as an integer -/
example : (match toJson (.num { v := { bits := 0x43DFFFFFFFFFFFFF, txt := "9223372036854775000".toList }, unit := none }) with
    | .int i _ => i == 9223372036854774784 | _ => false) = true := by decide +kernel

/-! ## The round trip

`WFj` with its conditions (each with the line of the Rust code that forces it) is in Lemmas/HaysonWf; the encoder's
document is a Hayson document of the image (`denotes_val`, Lemmas/HaysonWrite), and every such document is read as
the value it denotes (`read_denotes`). -/

theorem rt_val : (v : Val) → wfj v = true → fromJson (toJson v) = .ok (jImage v) :=
  fun v h => Spec.Hayson.read_denotes (Spec.Hayson.denotes_val v h)
theorem rt_vals : (vs : Vals) → wfjs vs = true → seq (listJson vs) = .ok (jImages vs).toList :=
  fun vs h => Spec.Hayson.read_denotesL (Spec.Hayson.denotes_vals vs h)
theorem rt_cols : (c : Cols) → wfCols c = true → seq (colsJson c) = .ok ((jImageCols c).toList.map colVal) :=
  fun c h => Spec.Hayson.read_denotesCols (Spec.Hayson.denotes_cols c h)
theorem rt_rows : (r : Rows) → wfRows r = true → seq (rowsJson r) = .ok ((jImageRows r).toList.map Val.dict) :=
  fun r h => Spec.Hayson.read_denotesRows (Spec.Hayson.denotes_rows r h)

/-! ## Scalars, all payloads -/

/-- numbers: finite, NaN, ±INF; with a (database) unit and without; integral inside and outside the
i64 range (`numImage` says what comes back) -/
theorem rt_num (n : Num) (hu : ∀ u, n.unit = some u → Hs.Zinc.unitSymbol u = some u) :
    fromJson (toJson (.num n)) = .ok (.num (numImage n)) :=
  Spec.Hayson.read_denotes (Spec.Hayson.denotes_encNumber n hu)

/-- a finite number that is not an integral value travelling as the integer 0 comes back bit for bit -/
theorem rt_num_exact (n : Num) (hu : ∀ u, n.unit = some u → Hs.Zinc.unitSymbol u = some u)
    (hN : isNaN n.v = false) (hI : isInf n.v = false) (h0 : n.unit.isSome ∨ exactInt n.v ≠ some 0) :
    fromJson (toJson (.num n)) = .ok (.num n) := by
  rw [rt_num n hu]
  rcases h0 with h0 | h0
  · cases hu' : n.unit with
    | none => simp [hu'] at h0
    | some u => simp [numImage, hN, hI, hu']
  · simp [numImage, hN, hI, h0]

/-- an integral number outside the i64 range is not saturated: it travels as a float token -/
theorem rt_num_big (v : Flt) (i : Int) (hE : exactInt v = some i)
    (hR : i < -9223372036854775808 ∨ 9223372036854775808 ≤ i) :
    toJson (.num { v := v, unit := none }) = .flt v ∧
    fromJson (toJson (.num { v := v, unit := none })) = .ok (.num { v := v, unit := none }) := by
  obtain ⟨hN, hI⟩ := Spec.Hayson.exactInt_finite hE
  have hR' : (decide (-9223372036854775808 ≤ i) && decide (i < 9223372036854775808)) = false := by
    rcases hR with h | h
    · have : ¬ (-9223372036854775808 ≤ i) := by omega
      simp [this]
    · have : ¬ (i < 9223372036854775808) := by omega
      simp [this]
  have e : toJson (.num { v := v, unit := none }) = .flt v := by simp [toJson, encNumber, hN, hI, hE, hR']
  exact ⟨e, by rw [e]; rfl⟩

theorem rt_ref (id : List Char) (dis : Option (List Char)) :
    fromJson (toJson (.ref id dis)) = .ok (.ref id dis) :=
  rt_val (.ref id dis) rfl

theorem rt_uri (x : List Char) : fromJson (toJson (.uri x)) = .ok (.uri x) :=
  rt_val (.uri x) rfl

theorem rt_symbol (x : List Char) : fromJson (toJson (.sym x)) = .ok (.sym x) :=
  rt_val (.sym x) rfl

theorem rt_xstr (ty v : List Char) : fromJson (toJson (.xstr ty v)) = .ok (.xstr ty v) :=
  rt_val (.xstr ty v) rfl

/-- dates come back as the text chrono printed (`str::parse::<Date>` re-reads it: trusted base) -/
theorem rt_date (d : Date) : fromJson (toJson (.date d)) = .ok (lexDate d.txt) :=
  rt_val (.date d) rfl

theorem rt_time (t : Time) : fromJson (toJson (.time t)) = .ok (lexTime t.txt) :=
  rt_val (.time t) rfl

/-- timestamps: the RFC 3339 text, and the zone's city name unless the zone is UTC -/
theorem rt_dateTime (t : DateTime) :
    fromJson (toJson (.dateTime t)) =
      .ok (lexDateTime t.txt (if t.tzid == s "UTC" then none else some t.zone)) :=
  rt_val (.dateTime t) rfl

/-- finite coordinates come back bit for bit … -/
theorem rt_coord (a b : Flt) (ha : finiteF a = true) (hb : finiteF b = true) :
    fromJson (toJson (.coord a b)) = .ok (.coord a b) :=
  rt_val (.coord a b) (wfj_coord.mpr ⟨ha, hb⟩)

theorem jF64_decodes (f : Flt) :
    fromJson (jF64 f) = .ok (if finiteF f then .num { v := f, unit := none } else .null) := by
  unfold jF64 finiteF
  cases isNaN f || isInf f <;> rfl

/-- … and a non-finite one is written as `null` and refused (why `WFj` asks for finite coordinates) -/
theorem coord_nonfinite_err (a b : Flt) (h : finiteF a = false ∨ finiteF b = false) :
    fromJson (toJson (.coord a b)) = .err := by
  -- `parse_coord` finds `null` where it asks for a number
  have hd : fromJson (toJson (.coord a b)) = finish (s "coord")
      [(s "lat", if finiteF a then .num { v := a, unit := none } else .null),
       (s "lng", if finiteF b then .num { v := b, unit := none } else .null)] :=
    Spec.Hayson.fromJson_kindObj (rest := [(s "lat", jF64 a), (s "lng", jF64 b)]) (List.Perm.refl _)
      known_coord (by decide)
      (Spec.Hayson.decView_cons_ok (jF64_decodes a) (Spec.Hayson.decView_cons_ok (jF64_decodes b) rfl))
      Spec.Hayson.names_coord
  rw [hd, finish_coord]
  cases ha : finiteF a <;> cases hb : finiteF b <;> simp [ha, hb, getNum, getTag, s_beq] at h ⊢

/-! ## Containers -/

/-- on the encoder's members: for strictly ascending `_kind`-free tags
whose values decode to their images, the visitor started with `kind` and the entries `d` (all below the
keys of `t`) ends in `finish kind (d ++ image entries)` -/
theorem visitMap_tagsJson (t : Tags) (kind : List Char) (d : List (List Char × Val))
    (hv : view (tagsJson t) = okView (jImageTags t).toList) (hw : wfTags t = true)
    (hs : ((d.map (·.1)) ++ t.keys).Pairwise (fun a b => ltChars a b = true)) :
    visitMap (tagsJson t) kind d = finish kind (d ++ (jImageTags t).toList) := by
  rw [visitMap_eq_runR, hv]
  have hk : (jImageTags t).toList.map (·.1) = t.keys := by rw [← Tags.keys_eq, jImageTags_keys]
  have hs' : ((d ++ (jImageTags t).toList).map (·.1)).Pairwise (fun a b => ltChars a b = true) := by simpa [hk] using hs
  rw [runR_noKind _ kind d (fun p hp => wfTags_noKind t hw p.1 (hk ▸ List.mem_map_of_mem hp)), foldl_insertTag_eq,
    Key.collect_append_sorted (by simpa only [ltChars_iff, List.pairwise_map] using hs')]

/-- **C02 for the model**: decoding the encoder's tree of a well-formed value gives its image -/
theorem C02_holds : C02_full WFj := fun v h => rt_val v h

theorem rt_list (xs : Vals) (h : WFj (.list xs)) :
    fromJson (toJson (.list xs)) = .ok (.list (jImages xs)) := by
  simpa [jImage] using rt_val _ h

theorem rt_dict (d : Tags) (h : WFj (.dict d)) :
    fromJson (toJson (.dict d)) = .ok (.dict (jImageTags d)) := by
  simpa [jImage] using rt_val _ h

/-- the grid meta that comes back: an absent one as an empty one -/
def jImageMeta (md : OTags) : Tags :=
  match md with
  | .some t => jImageTags t
  | .none => .nil

/-- no column, row, cell or meta tag is lost; an absent meta comes back as an empty one -/
theorem rt_grid (md : OTags) (cols : Cols) (rows : Rows) (ver : List Char) (h : WFj (.grid md cols rows ver)) :
    fromJson (toJson (.grid md cols rows ver)) =
      .ok (.grid (.some (jImageMeta md)) (jImageCols cols) (jImageRows rows) (s "3.0")) := by
  cases md <;> simpa [jImage, jImageMeta] using rt_val _ h

/-! ## Non-vacuity: a concrete nested value satisfies `WFj` -/

def f64_1 : Flt := { bits := 0x3FF0000000000000, txt := ['1'] }
def f64_half : Flt := { bits := 0x3FE0000000000000, txt := "0.5".toList }

/-- a grid with meta, a column with meta, rows with a Null cell, a dict inside a list, a Ref with dis,
a number with unit, a coordinate -/
def sample : Val :=
  .grid
    (.some (.cons (s "dis") (.str (s "Site grid")) (.cons (s "hisEnd") (.num { v := f64_1, unit := some (s "m") }) .nil)))
    (.cons (s "id") (.some (.cons (s "dis") (.str (s "Id")) (.cons (s "x") .marker .nil)))
      (.cons (s "vals") .none .nil))
    (.cons (.cons (s "id") (.ref (s "a-1") (some (s "Site \"A\""))) (.cons (s "vals") .null .nil))
      (.cons
        (.cons (s "id") (.ref (s "b") none)
          (.cons (s "vals")
            (.list (.cons (.dict (.cons (s "area") (.num { v := f64_half, unit := some (s "ft²") })
                (.cons (s "geo") (.coord f64_1 f64_half) .nil))) (.cons .na .nil))) .nil))
        .nil))
    (s "3.0")

/-- The evaluations of this file that search the unit table (`m` and `ft²` of `sample`; the alias `meter`; an id
the table does not have, i.e. the whole table), run together: the kernel turns an id of the table into bytes once for
the four searches.  `sample_wf` and the two examples on units below are its parts. -/
theorem unit_runs : WFj sample ∧
    okIs (fromJson (toJson (.num { v := f64_1, unit := some (s "meter") })))
      (fun v => match v with | .num n => n.unit == some (s "m") | _ => false) = true ∧
    (fromJson (toJson (.num { v := f64_1, unit := some (s "no_such_unit") }))).tag = "err" := by decide +kernel

theorem sample_wf : WFj sample := unit_runs.1

example : fromJson (toJson sample) = .ok (jImage sample) := C02_holds sample sample_wf

/-! ## Each condition of `WFj` is needed (witnesses on the model) -/

def decodesTo (v : Val) (p : Val → Bool) : Bool := okIs (fromJson (toJson v)) p

/-- keys out of order come back sorted: `{b, a}` ↦ `{a, b}` -/
example : decodesTo (.dict (.cons (s "b") .marker (.cons (s "a") .marker .nil)))
    (fun v => match v with | .dict (.cons k _ _) => k == s "a" | _ => false) = true := by decide +kernel
/-- a repeated key keeps its last value only -/
example : decodesTo (.dict (.cons (s "a") .marker (.cons (s "a") .na .nil)))
    (fun v => match v with | .dict (.cons _ .na .nil) => true | _ => false) = true := by decide +kernel
/-- a tag named `_kind` is taken for the type tag: `{_kind: "marker"}` ↦ Marker; `{_kind: "marker", a}` is
refused (the visitor returns at `_kind` and serde_json refuses the map it did not consume); `{_kind: M}` is
refused -/
example : decodesTo (.dict (.cons (s "_kind") (.str (s "marker")) .nil))
    (fun v => match v with | .marker => true | _ => false) = true := by decide +kernel
example : (fromJson (toJson (.dict (.cons (s "_kind") (.str (s "marker")) (.cons (s "a") .marker .nil))))).tag = "err" := by
  decide +kernel
example : (fromJson (toJson (.dict (.cons (s "_kind") .marker .nil)))).tag = "err" := by decide +kernel
/-- a grid meta tag `ver` is swallowed (and becomes the version when it is a Str) -/
example : decodesTo (.grid (.some (.cons (s "ver") (.str (s "2.0")) .nil)) .nil .nil (s "3.0"))
    (fun v => match v with | .grid (.some .nil) _ _ ver => ver == s "2.0" | _ => false) = true := by decide +kernel
/-- a unit given by an alias comes back as the unit's symbol; an unknown unit is refused -/
example : decodesTo (.num { v := f64_1, unit := some (s "meter") })
    (fun v => match v with | .num n => n.unit == some (s "m") | _ => false) = true := unit_runs.2.1
example : (fromJson (toJson (.num { v := f64_1, unit := some (s "no_such_unit") }))).tag = "err" := unit_runs.2.2

/-! ## The identity: values that are their own image (`plain`, Lemmas/HaysonWf) -/

/-- **the round trip is the identity** on well-formed plain values: every component comes back, in
particular every finite number bit for bit and every tag, cell, column and row -/
theorem C02_identity (v : Val) (hw : WFj v) (hp : plain v = true) : fromJson (toJson v) = .ok v := by
  rw [C02_holds v hw, jImage_plain v hp]

example : plain sample = true := by decide +kernel
example : fromJson (toJson sample) = .ok sample := C02_identity sample sample_wf (by decide +kernel)

end Hs.C02

/-
  C12 — Value equality, hashing and ordering are mutually consistent.

  Statements are about the model `Hs.Model.Cmp` of `PartialEq`/`Hash`/`Ord`/`PartialOrd` for
  `Value`; they quantify over ALL values (any nesting, any size) without NaN.  The model is tied
  to src/haystack/val/*.rs by the correspondence check (`cmp` requests) and by the translated
  variant order of `enum Value` (Hs.Gen.ValueShape, C19).
-/
import Hs.Lemmas.CmpHash
namespace Hs.C12
open Hs

/-- equality is reflexive (so a clone equals its original) -/
theorem eqv_refl (a : Val) (ha : NF a) : a.eqv a = true :=
  (eqv_iff_val a a ha ha).2 ((ordAt_val a ha).refl ha)

theorem eqv_symm (a b : Val) (ha : NF a) (hb : NF b) (h : a.eqv b = true) : b.eqv a = true := by
  rw [eqv_iff_val b a hb ha, (ordAt_val a ha).swap b hb, (eqv_iff_val a b ha hb).1 h]; rfl

theorem eqv_trans (a b c : Val) (ha : NF a) (hb : NF b) (hc : NF c)
    (h1 : a.eqv b = true) (h2 : b.eqv c = true) : a.eqv c = true := by
  rw [eqv_iff_val a c ha hc, (ordAt_val a ha).eq_l b c hb hc ((eqv_iff_val a b ha hb).1 h1)]
  exact (eqv_iff_val b c hb hc).1 h2

/-- equal values make the same sequence of writes to any `Hasher` -/
theorem hash_of_eqv (a b : Val) (h : a.eqv b = true) : a.hashSeq = b.hashSeq := hash_val a b h

/-- the total order is antisymmetric: swapping the arguments swaps the answer -/
theorem cmp_antisymm (a b : Val) (ha : NF a) (hb : NF b) : Val.cmp b a = (Val.cmp a b).swap :=
  (ordAt_val a ha).swap b hb

theorem cmp_trans_lt (a b c : Val) (ha : NF a) (hb : NF b) (hc : NF c)
    (h1 : Val.cmp a b = .lt) (h2 : Val.cmp b c = .lt) : Val.cmp a c = .lt :=
  (ordAt_val a ha).lt_lt b c hb hc h1 h2

theorem cmp_trans_gt (a b c : Val) (ha : NF a) (hb : NF b) (hc : NF c)
    (h1 : Val.cmp a b = .gt) (h2 : Val.cmp b c = .gt) : Val.cmp a c = .gt :=
  (ordAt_val a ha).gt_gt b c hb hc h1 h2

/-- `Equal` is a congruence for the order -/
theorem cmp_congr_left (a b c : Val) (ha : NF a) (hb : NF b) (hc : NF c)
    (h : Val.cmp a b = .eq) : Val.cmp a c = Val.cmp b c :=
  (ordAt_val a ha).eq_l b c hb hc h

/-- the total order calls two values equal exactly when equality does -/
theorem cmp_eq_iff_eqv (a b : Val) (ha : NF a) (hb : NF b) : Val.cmp a b = .eq ↔ a.eqv b = true :=
  (eqv_iff_val a b ha hb).symm

/-- whenever the partial order gives an answer it is the total order's answer -/
theorem pcmp_some_eq_cmp (a b : Val) (ha : NF a) (hb : NF b) (o : Ordering)
    (h : Val.pcmp a b = some o) : Val.cmp a b = o := pcmp_val a b ha hb o h

/-- The property at full strength. -/
def C12_full : Prop :=
  ∀ a b c : Val, NF a → NF b → NF c →
    a.eqv a = true ∧ (a.eqv b = true → b.eqv a = true) ∧
    (a.eqv b = true → b.eqv c = true → a.eqv c = true) ∧
    (a.eqv b = true → a.hashSeq = b.hashSeq) ∧
    Val.cmp b a = (Val.cmp a b).swap ∧
    (Val.cmp a b = .lt → Val.cmp b c = .lt → Val.cmp a c = .lt) ∧
    (Val.cmp a b = .eq ↔ a.eqv b = true) ∧
    (∀ o, Val.pcmp a b = some o → Val.cmp a b = o)

theorem C12_holds : C12_full := fun a b c ha hb hc =>
  ⟨eqv_refl a ha, eqv_symm a b ha hb, eqv_trans a b c ha hb hc, hash_of_eqv a b,
   cmp_antisymm a b ha hb, cmp_trans_lt a b c ha hb hc, cmp_eq_iff_eqv a b ha hb,
   pcmp_some_eq_cmp a b ha hb⟩

/-! Non-vacuity: concrete NaN-free values with the near-collisions the property names. -/
def negZero : Val := .num { v := { bits := 2 ^ 63, txt := ['-', '0'] }, unit := none }
def posZero : Val := .num { v := { bits := 0, txt := ['0'] }, unit := none }
def oneM : Val := .num { v := { bits := 0x3FF0000000000000, txt := ['1'] }, unit := some ['m'] }
def oneS : Val := .num { v := { bits := 0x3FF0000000000000, txt := ['1'] }, unit := some ['s'] }
example : NF negZero ∧ NF posZero ∧ negZero.eqv posZero = true ∧ negZero.hashSeq = posZero.hashSeq := by
  decide +kernel
example : NF oneM ∧ NF oneS ∧ oneM.eqv oneS = false ∧ Val.cmp oneM oneS = .lt ∧ Val.pcmp oneM oneS = none := by
  simp [oneM, oneS, NF, Val.nanFree, Val.eqv, Num.eqv, Val.cmp, Val.cmpSame, Val.kindIdx, Num.cmp, Val.pcmp,
    Val.pcmpSame, Num.pcmp, Flt.isNaN, Flt.flt, Flt.feq, Flt.key, cmpOpt, cmpChars, Ordering.then]
  decide
/-- `{a:true,b:false}` vs `{a:false,c:false}`: keys decide (`b < c`; by the values at `a` the order would be the
other way), for `cmp` and `partial_cmp` alike -/
def d1 : Val := .dict (.cons ['a'] (.bool true) (.cons ['b'] (.bool false) .nil))
def d2 : Val := .dict (.cons ['a'] (.bool false) (.cons ['c'] (.bool false) .nil))
example : Val.cmp d1 d2 = .lt ∧ Val.pcmp d1 d2 = some .lt := by
  simp [d1, d2, Val.cmp, Val.cmpSame, Val.kindIdx, Tags.cmp, Tags.keys, cmpList, cmpChars,
    Val.pcmp, Val.pcmpSame, Tags.pcmp, Ordering.then]
  decide

end Hs.C12

/-
  C08 — filter text and filter tree correspond: print-then-parse is the identity.

  Model (`Hs.Model.FilterText`): `printFilter` (every `Display` impl of filter/nodes.rs, path.rs and
  of `Value`), `parseFilter` (filter/lexer.rs over the concrete scanner model, calling the Zinc
  scalar readers of `Hs.Zinc`; filter/parser.rs with its swallowed lexer errors and the nesting
  counter).  What Rust std / chrono compute stays lexical exactly as in C01: a parsed literal number
  is the text handed to `f64::from_str`, a parsed timestamp is its token text; the statement reads
  "parsing the printed text yields the lexical image of the tree".

  Proved: `C08_holds` — the property at full strength for the explicit decidable well-formedness
  predicate `WFf` (every literal kind the syntax admits, all characters in Str / Uri / display names,
  any number of operands, nesting up to the parser's limit).  Helper lemmas: `Hs/Lemmas/Filter{Scan,Lex,
  Parse}.lean` (tokens, one lemma per term form) and `Hs/Lemmas/FilterRt{Lit,Parse,Wf}.lean`
  (literals: the framing lemmas of the Zinc ladder `Hs/Lemmas/ZincRt*.lean` re-used for what follows a
  literal in filter text; the induction over the tree, of which the restricted fragment is a sub-case; the
  executable check).
-/
import Hs.Lemmas.FilterRtWf
import Hs.Thm.C01
import Hs.Lemmas.StrLit
namespace Hs.C08
open Hs Hs.FText

/-! ### the property at full strength -/

mutual
/-- lexical image of a filter: literals as the reader returns them for the printed text (`C01.lexImage`);
the Ref operand of `*==` and of a relation without its display name, which `Display for Ref` does
not print (and which `==` on Ref ignores) -/
def lexImageT : Term → Term
  | .parens o => .parens (lexImageO o)
  | .weq p r => .weq p { id := r.id, dis := none }
  | .rel r t (some rv) => .rel r t (some { id := rv.id, dis := none })
  | .cmp p op v => .cmp p op (Hs.C01.lexImage v)
  | t => t
def lexImageA : Ands → Ands
  | .nil => .nil
  | .cons t ts => .cons (lexImageT t) (lexImageA ts)
def lexImageO : Ors → Ors
  | .nil => .nil
  | .cons a as => .cons (lexImageA a) (lexImageO as)
end

/-- The property at full strength, for a well-formedness predicate `WFf` on trees (the property's
list: non-empty `or`/`and` lists, identifier path segments and relation names with a lone `not`
excluded as a path, id-alphabet Refs and Symbols, literals of the kinds the syntax admits — Bool,
finite Number with a database unit, Str, Uri, Ref, Symbol, Date, Time, DateTime with a resolvable
unambiguous zone — and at most 64 nested groups): printing and parsing returns the tree. -/
def C08_full (WFf : Ors → Prop) : Prop :=
  ∀ f, WFf f → filterOfBytes (printFilter f) = .ok (lexImageO f)

/-! ### a fragment of the grammar -/

/-- The proved fragment: terms `tag`, `not tag`, `^symbol`, `path *== @ref`,
`rel? [^symbol] [@ref]`, `path op literal` for the six operators with a Bool, Symbol, Ref (with or
without display name), Str or Uri literal, and parenthesised groups — over paths of one or more
identifier segments (`a->b->c`, a lone `not` excluded), id-alphabet Refs and Symbols, Str, Uri and
display names over all 128 ASCII characters (every escape the writer produces: `\"`, `\\`, `\$`, `\n`,
`\r`, `\t`, `\u00XX`); any number of `and` / `or` operands, any nesting up to the parser's limit. -/
def Fragment (f : Ors) : Prop := f ≠ .nil ∧ AllO f ∧ nestO f ≤ 64

mutual
/-- `lexImageT` is the function the lemma files use (`imgT2`, over `Hs.Zinc.lexImg`) -/
theorem lexImageT_eq : (t : Term) → lexImageT t = imgT2 t
  | .parens o => by simp [lexImageT, imgT2, lexImageO_eq o]
  | .has _ => rfl
  | .missing _ => rfl
  | .isA _ => rfl
  | .weq _ _ => rfl
  | .rel _ _ Option.none => rfl
  | .rel _ _ (some _) => rfl
  | .cmp p op v => by simp [lexImageT, imgT2, Hs.C01.lexImage_eq v]
theorem lexImageA_eq : (a : Ands) → lexImageA a = imgA2 a
  | .nil => rfl
  | .cons t ts => by simp [lexImageA, imgA2, lexImageT_eq t, lexImageA_eq ts]
theorem lexImageO_eq : (o : Ors) → lexImageO o = imgO2 o
  | .nil => rfl
  | .cons a as => by simp [lexImageO, imgO2, lexImageA_eq a, lexImageO_eq as]
end

theorem lexImage_lit (v : Val) (h : OkLit v) : Hs.C01.lexImage v = v :=
  (Hs.C01.lexImage_eq v).trans h.lexImg

theorem lexImageT_ok : (t : Term) → OkT t → lexImageT t = imgT t :=
  fun t h => (lexImageT_eq t).trans (imgT2_of_ok t h)
theorem lexImageA_ok : (a : Ands) → AllA a → lexImageA a = imgA a :=
  fun a h => (lexImageA_eq a).trans (imgA2_of_ok a h)

/-! ### proved: the property in full -/

/-- **The well-formedness predicate of the property**, explicit and decidable (`Hs.FText.WF2`, evaluated by
`Hs.FText.wfO`; `Hs/Lemmas/FilterRt{Parse,Wf,Lit}.lean`):

* the `Or` and each of its `And`s is non-empty (an empty list prints as the empty text);
* paths are non-empty lists of identifiers `[a-z][A-Za-z0-9_]*` (`WFPath`, `IdSeg`); the path of `tag`,
  `path op literal` and `path *== @ref` is not the lone segment `not` (which the grammar reads as the operator);
  relation names are identifiers;
* Symbols are `[a-z][A-Za-z0-9~:._-]*` (`SymSeg`), Ref ids non-empty over `[A-Za-z0-9~:._-]` (`RefSeg`);
* literals (`OkLit2`): Bool; Symbol; Ref with or without a display name, the display name ANY text; ANY Str; ANY
  Uri; a finite Number whose text is a decimal `f64::from_str` accepts (`-?(d+ | d+.d* | .d+)` starting with a digit
  or `-`, no exponent; it includes `-?d+(.d+)?`, what `Display for f64` prints) that does not round to infinity
  (`lexIsInf`, the filter lexer's `is_infinite()` test), with no unit or a unit symbol of the unit table
  (`finiteNumOk`); Date, Time and DateTime whose texts chrono accepts and whose zone
  name the zone table resolves (`dateOk`, `timeOk`, `dtOk` — the predicates of C01);
* at most 64 nested groups (`nestO`, the parser's `MAX_NESTING_DEPTH`). -/
def WFf (f : Ors) : Prop := WF2 f

instance (f : Ors) : Decidable (WFf f) := inferInstanceAs (Decidable (WF2 f))

/-- **C08 for the model, in full**: printing any well-formed filter tree and parsing the text returns the tree
(its lexical image: a Number literal is re-read as exactly the text that was printed for it, a DateTime as its
token text, and the Ref operand of `*==` / of a relation comes back without the display name `Display` does not
print).  Unbounded in the number of operands, the length of paths, names, ids and texts; every literal kind the
syntax admits; every character (non-ASCII text in Str, Uri and display names goes through the UTF-8 lemmas
`lossy (encChars s) = s` of C01); nesting up to the parser's limit of 64.

The hypotheses of `WFf` beyond the property's own list are lexical side conditions the real writer always meets
(number text = what `Display for f64` prints for a finite value, date/time text = what chrono prints) and the
nesting bound of the repaired parser; `cex_*` below are kernel-checked witnesses that these cannot be dropped (the
nesting bound, a Number that is finite, does not round to infinity and has a unit of the table, a Date chrono
accepts, a zone the table resolves), nor those on the Ref id, the lone `not` and the empty `Or`; the other
hypotheses (identifier segments, Symbols, Times, non-empty `And`s and paths) have no witness here. -/
theorem C08_holds : C08_full WFf := by
  intro f ⟨hne, hall, hd⟩
  rw [lexImageO_eq f]
  exact print_parse f hne hall hd

/-! ### the fragment and its skeleton level: parts of the property -/

/-- **print-then-parse is the identity on every tree of the fragment** — unbounded in the number of
operands, the length of paths, identifiers, Ref ids and Symbols, and (up to the limit of 64) the
nesting.  This is `C08_full` restricted to `Fragment` (no Number, Date, Time, DateTime literals, ASCII
text only): a part of `C08_holds`, since the fragment's trees are well formed (`AllO.ok2`). -/
theorem C08_fragment_partial : C08_full Fragment :=
  fun f h => C08_holds f ⟨h.1, h.2.1.ok2 f, h.2.2⟩

mutual
/-- only `tag`, `not tag` and groups -/
def tagsOnlyT : Term → Bool
  | .parens o => tagsOnlyO o
  | .has _ => true
  | .missing _ => true
  | _ => false
def tagsOnlyA : Ands → Bool
  | .nil => true
  | .cons t ts => tagsOnlyT t && tagsOnlyA ts
def tagsOnlyO : Ors → Bool
  | .nil => true
  | .cons a as => tagsOnlyA a && tagsOnlyO as
end

/-- Skeleton trees: every term is `tag`, `not tag` or a parenthesised group. -/
def Skeleton (f : Ors) : Prop := Fragment f ∧ tagsOnlyO f = true

/-- the skeleton level of the grammar: precedence, grouping, where a path ends -/
theorem C08_skeleton_partial : C08_full Skeleton := fun f h => C08_fragment_partial f h.1

/-! ### consequences spelled out -/

def seg (s : String) : List Char := s.toList
def tag (s : String) : Term := .has [seg s]

/-- To the unifier, as to the kernel, a string literal is `String.ofList` of its characters: `rw [seg_lit]` puts
the characters in the place of `seg "…"`, where evaluating `String.toList` has the kernel encode the literal to
UTF-8 and decode it again. -/
theorem seg_lit (l : List Char) : seg (String.ofList l) = l := String.toList_ofList

/-- a comparison with a literal of ANY kind — Number, Date, Time, DateTime, Str / Uri / display names over all
characters — printed, parses to that comparison with the literal's lexical image -/
theorem literal_exact_all (p : Path) (op : CmpOp) (v : Val) (hp : WFPath p) (np : p ≠ kwNot) (hv : OkLit2 v) :
    filterOfBytes (printPath p ++ [32] ++ printOp op ++ [32] ++ printVal v)
      = .ok (.cons (.cons (.cmp p op (Hs.C01.lexImage v)) .nil) .nil) := by
  have h := C08_holds (.cons (.cons (.cmp p op v) .nil) .nil)
    ⟨by simp, by simp [AllO2, AllA2, OkT2, hp, np, hv], by simp [nestO, nestA, nestT]⟩
  simpa [printFilter, printOrs, printAnds, printTerm, lexImageO, lexImageA, lexImageT] using h

/-- each literal with its exact value: a comparison with a Bool, Symbol, Ref, (ASCII) Str or Uri literal,
printed, parses to that comparison — for every operator, every identifier path, every such literal (which is
its own lexical image) -/
theorem literal_exact (p : Path) (op : CmpOp) (v : Val) (hp : WFPath p) (np : p ≠ kwNot) (hv : OkLit v) :
    filterOfBytes (printPath p ++ [32] ++ printOp op ++ [32] ++ printVal v)
      = .ok (.cons (.cons (.cmp p op v) .nil) .nil) := by
  have h := literal_exact_all p op v hp np (hv.ok2 v)
  rwa [lexImage_lit v hv] at h

/-- precedence: `and` binds tighter than `or` — `a or b and c` is `a or (b and c)`, for all
identifiers -/
theorem precedence (a b c : List Char) (ha : IdSeg a) (hb : IdSeg b) (hc : IdSeg c)
    (na : [a] ≠ kwNot) (nb : [b] ≠ kwNot) (nc : [c] ≠ kwNot) :
    filterOfBytes (printPath [a] ++ sepOr ++ (printPath [b] ++ sepAnd ++ printPath [c]))
      = .ok (.cons (.cons (.has [a]) .nil) (.cons (.cons (.has [b]) (.cons (.has [c]) .nil)) .nil)) := by
  have h := C08_fragment_partial
    (.cons (.cons (.has [a]) .nil) (.cons (.cons (.has [b]) (.cons (.has [c]) .nil)) .nil))
    ⟨by simp, by simp [AllO, AllA, OkT, WFPath, ha, hb, hc, na, nb, nc], by simp [nestO, nestA, nestT]⟩
  simpa [printFilter, printOrs, printAnds, printTerm, lexImageO, lexImageA, lexImageT] using h

/-- a parenthesised group is one term: `( a or b ) and c` keeps the `or` below the `and` -/
theorem grouping (a b c : List Char) (ha : IdSeg a) (hb : IdSeg b) (hc : IdSeg c)
    (na : [a] ≠ kwNot) (nb : [b] ≠ kwNot) (nc : [c] ≠ kwNot) :
    filterOfBytes ([40, 32] ++ (printPath [a] ++ sepOr ++ printPath [b]) ++ [32, 41] ++ sepAnd ++ printPath [c])
      = .ok (.cons (.cons (.parens (.cons (.cons (.has [a]) .nil) (.cons (.cons (.has [b]) .nil) .nil)))
               (.cons (.has [c]) .nil)) .nil) := by
  have h := C08_fragment_partial
    (.cons (.cons (.parens (.cons (.cons (.has [a]) .nil) (.cons (.cons (.has [b]) .nil) .nil)))
               (.cons (.has [c]) .nil)) .nil)
    ⟨by simp, by simp [AllO, AllA, OkT, WFPath, ha, hb, hc, na, nb, nc], by simp [nestO, nestA, nestT]⟩
  simpa [printFilter, printOrs, printAnds, printTerm, lexImageO, lexImageA, lexImageT] using h

/-- a path ends at the first token that is not `->`: a multi-segment path followed by `and` and
another term is two terms (the pinned tree read `d->b and c` as the one path `d->b->and->c`) -/
theorem path_ends (p q : Path) (hp : WFPath p) (hq : WFPath q) (np : p ≠ kwNot) (nq : q ≠ kwNot) :
    filterOfBytes (printPath p ++ sepAnd ++ printPath q)
      = .ok (.cons (.cons (.has p) (.cons (.has q) .nil)) .nil) := by
  have h := C08_fragment_partial (.cons (.cons (.has p) (.cons (.has q) .nil)) .nil)
    ⟨by simp, by simp [AllO, AllA, OkT, hp, hq, np, nq], by simp [nestO, nestA, nestT]⟩
  simpa [printFilter, printOrs, printAnds, printTerm, lexImageO, lexImageA, lexImageT] using h

/-! ### non-vacuity -/

def bytes (s : String) : List UInt8 := s.toUTF8.toList

/-- the bytes of a string literal are the encodings of its characters (`rw [bytes_lit]`, as for `seg_lit`;
`ByteArray.toList` is a loop by well-founded recursion, dear to evaluate) -/
theorem bytes_lit (l : List Char) : bytes (String.ofList l) = encChars l := Hs.StrLit.utf8_lit l

theorem bytes_append (s t : String) : bytes (s ++ t) = bytes s ++ bytes t := by
  simp only [bytes, Hs.StrLit.byteArray_toList, String.toUTF8_eq_toByteArray, String.toByteArray_append, ByteArray.data_append,
    Array.toList_append]

/-- `a->b or not c and ( d or e )` is a skeleton tree … -/
def sample : Ors :=
  .cons (.cons (.has [seg "a", seg "b"]) .nil)
    (.cons (.cons (.missing [seg "c"]) (.cons (.parens (.cons (.cons (tag "d") .nil) (.cons (.cons (tag "e") .nil) .nil))) .nil)) .nil)

example : Skeleton sample := by
  refine ⟨⟨by simp [sample], ?_, by simp [sample, nestO, nestA, nestT, tag]⟩, by decide +kernel⟩
  have ids : ∀ x ∈ [seg "a", seg "b", seg "c", seg "d", seg "e"], IdSeg x := by decide +kernel
  have nots : [seg "d"] ≠ kwNot ∧ [seg "e"] ≠ kwNot ∧ [seg "a", seg "b"] ≠ kwNot := by decide +kernel
  simp only [sample, tag, AllO, AllA, OkT, WFPath]
  simp [ids, nots]
/-- … that prints as expected -/
example : printFilter sample = bytes "a->b or not c and ( d or e )" := by
  rw [bytes_lit]
  decide +kernel

/-- a tree with a Str literal with escapes, a Symbol term, a wildcard term whose Ref has a display
name (not printed), a relation and a Ref literal with display name is in the fragment … -/
def sample2 : Ors :=
  .cons (.cons (.cmp [seg "siteRef", seg "dis"] .eq (.str (seg "a \"q\"\n$")))
          (.cons (.isA (seg "hot-water")) (.cons (.weq [seg "equipRef"] { id := seg "p:demo:r:1", dis := some (seg "Dis") }) .nil)))
    (.cons (.cons (.rel (seg "inputs") (some (seg "air")) (some { id := seg "ahu-1", dis := none }))
          (.cons (.cmp [seg "id"] .ne (.ref (seg "x") (some (seg "Dis \\ x")))) .nil)) .nil)

example : Fragment sample2 := by
  refine ⟨by simp [sample2], ?_, by simp [sample2, nestO, nestA, nestT]⟩
  have ids : ∀ x ∈ [seg "siteRef", seg "dis", seg "equipRef", seg "inputs", seg "id"], IdSeg x := by decide +kernel
  have syms : SymSeg (seg "hot-water") ∧ SymSeg (seg "air") := by decide +kernel
  have refs : RefSeg (seg "p:demo:r:1") ∧ RefSeg (seg "ahu-1") ∧ RefSeg (seg "x") := by decide +kernel
  have strs : AsciiStr (seg "a \"q\"\n$") ∧ AsciiStr (seg "Dis \\ x") := by decide +kernel
  have nots : [seg "siteRef", seg "dis"] ≠ kwNot ∧ [seg "equipRef"] ≠ kwNot ∧ [seg "id"] ≠ kwNot := by decide +kernel
  simp only [sample2, AllO, AllA, OkT, OkLit, WFPath]
  simp [ids, syms, refs, nots, strs]
example : printFilter sample2 =
    bytes "siteRef->dis == \"a \\\"q\\\"\\n\\$\" and ^hot-water and equipRef *== @p:demo:r:1 or inputs? ^air @ahu-1 and id != @x \"Dis \\\\ x\"" := by
  rw [bytes_lit]
  decide +kernel
example : WFPath [seg "d", seg "b"] ∧ [seg "d", seg "b"] ≠ kwNot := by simp only [WFPath]; decide
example : IdSeg (seg "siteRef") ∧ [seg "siteRef"] ≠ kwNot := by decide

/-- a tree with every literal kind outside the fragment: a negative Number with a non-ASCII unit of the table, a
unit-less Number, a Date, a Time with a fraction, a UTC DateTime (`…Z`, followed by ` )`: the zone reader's
two-byte look-ahead), a DateTime with offset and zone name, a Str, a Uri and a Ref display name with
characters of 2, 3 and 4 UTF-8 bytes -/
def sample3 : Ors :=
  .cons (.cons (.cmp [seg "temp"] .ge (.num ⟨⟨0, seg "-21.5"⟩, some (seg "°C")⟩))
          (.cons (.cmp [seg "n"] .lt (.num ⟨⟨0, seg "1000000"⟩, none⟩))
          (.cons (.cmp [seg "d"] .eq (.date ⟨2024, 2, 29, seg "2024-02-29"⟩))
          (.cons (.parens (.cons (.cons (.cmp [seg "t"] .le (.time ⟨1, 2, 3, 500000000, seg "01:02:03.500"⟩)) .nil)
               (.cons (.cons (.cmp [seg "ts"] .gt
                  (.dateTime ⟨0, 0, 0, seg "UTC", seg "UTC", seg "2024-02-29T12:34:56Z"⟩)) .nil) .nil))) .nil))))
    (.cons (.cons (.cmp [seg "ts"] .ne
            (.dateTime ⟨0, 0, -18000, seg "New_York", seg "America/New_York", seg "2024-02-29T12:34:56.789-05:00"⟩))
          (.cons (.cmp [seg "dis"] .eq (.str (seg "Büro é€😀 \"x\"")))
          (.cons (.cmp [seg "u"] .eq (.uri (seg "http://x/ä`b")))
          (.cons (.cmp [seg "id"] .eq (.ref (seg "a-1") (some (seg "Raum 1 – Süd")))) .nil)))) .nil)

/-- it satisfies the hypothesis of `C08_holds` (the two timestamps are those of `C01.dtOk_utc` and
`C01.dtOk_newYork`, the rest by evaluation of the decidable predicates) … -/
theorem sample3_wf : WFf sample3 := by
  refine ⟨by simp [sample3], ?_, by decide +kernel⟩
  simp only [sample3, seg, AllO2, AllA2, OkT2, OkLit2, Hs.C01.dtOk_utc, Hs.C01.dtOk_newYork, ne_eq, reduceCtorEq,
    not_false_eq_true, true_and, and_true]
  decide +kernel
/-- … prints as expected … -/
example : printFilter sample3 = bytes ("temp >= -21.5°C and n < 1000000 and d == 2024-02-29 and " ++
    "( t <= 01:02:03.500 or ts > 2024-02-29T12:34:56Z ) or ts != 2024-02-29T12:34:56.789-05:00 New_York and " ++
    "dis == \"Büro é€😀 \\\"x\\\"\" and u == `http://x/ä\\`b` and id == @a-1 \"Raum 1 – Süd\"") := by
  rw [bytes_append, bytes_append, bytes_lit, bytes_lit, bytes_lit, sample3]
  repeat rw [seg_lit]
  decide +kernel
/-- … and round-trips, by the theorem -/
example : filterOfBytes (printFilter sample3) = .ok (lexImageO sample3) := C08_holds sample3 sample3_wf

/-- one literal of each kind outside the fragment -/
example : OkLit2 (.num ⟨⟨0, seg "-12.5"⟩, some (seg "°F")⟩) := by decide +kernel
example : OkLit2 (.num ⟨⟨0, seg "0.000001"⟩, some (seg "kW/m²")⟩) := by decide +kernel
example : OkLit2 (.date ⟨2024, 2, 29, seg "2024-02-29"⟩) := by decide +kernel
example : OkLit2 (.time ⟨23, 59, 59, 1000000000, seg "23:59:60"⟩) := by decide +kernel
example : OkLit2 (.dateTime ⟨0, 0, 0, seg "London", seg "Europe/London", seg "2024-01-01T00:00:00Z"⟩) :=
  Hs.C01.dtOk_london
example : OkLit2 (.str (seg "日本語 \u0001 😀")) ∧ OkLit2 (.uri (seg "http://x/é\n")) ∧
    OkLit2 (.ref (seg "r") (some (seg "Ünïcode"))) := by decide +kernel
example : filterOfBytes (bytes "since >= 2024-02-29") =
    .ok (.cons (.cons (.cmp [seg "since"] .ge (.date ⟨2024, 2, 29, seg "2024-02-29"⟩)) .nil) .nil) := by
  have h := literal_exact_all [seg "since"] .ge (.date ⟨2024, 2, 29, seg "2024-02-29"⟩)
    (by simp only [WFPath]; decide) (by decide) (by decide +kernel)
  have e : printPath [seg "since"] ++ [32] ++ printOp .ge ++ [32] ++ printVal (.date ⟨2024, 2, 29, seg "2024-02-29"⟩)
      = bytes "since >= 2024-02-29" := by
    rw [bytes_lit]
    decide +kernel
  rw [e] at h
  exact h

/-! ### hypotheses of `WFf` that cannot be dropped (kernel-checked witnesses on the model of the code as it is) -/

def one (t : Term) : Ors := .cons (.cons t .nil) .nil

def deepF : Nat → Ors
  | 0 => one (tag "a")
  | n + 1 => one (.parens (deepF n))

/-- 64 nested groups round-trip (by `C08_holds`) … -/
theorem deep64_ok : filterOfBytes (printFilter (deepF 64)) = .ok (lexImageO (deepF 64)) :=
  C08_holds _ (by decide +kernel)
/-- … the 65th does not: the parser's `MAX_NESTING_DEPTH` -/
theorem cex_depth : (filterOfBytes (printFilter (deepF 65))).isOk = false := by decide +kernel

/-- a Number whose decimal text is accepted by `f64::from_str` but denotes a magnitude that rounds to
infinity (1 followed by 309 zeros; `Display for f64` never prints such a text for a finite value) is rejected by
the filter lexer's `is_infinite()` test; with one zero less it is accepted -/
def bigNum (zeros : Nat) : Num := ⟨⟨0, '1' :: List.replicate zeros '0'⟩, none⟩
theorem cex_number_rounds_to_inf : Hs.Zinc.finiteNumOk (bigNum 309) = true ∧
    (filterOfBytes (printFilter (one (.cmp [seg "a"] .eq (.num (bigNum 309)))))).isOk = false := by decide +kernel
example : OkLit2 (.num (bigNum 308)) := by decide +kernel

/-- NaN and the infinities print as `NaN`, `INF`, `-INF`, which the filter grammar does not admit -/
theorem cex_nan : (filterOfBytes (printFilter (one (.cmp [seg "a"] .eq
    (.num ⟨⟨Hs.Zinc.nanBits, seg "NaN"⟩, none⟩))))).isOk = false := by decide +kernel
theorem cex_neg_inf : (filterOfBytes (printFilter (one (.cmp [seg "a"] .eq
    (.num ⟨⟨Hs.Zinc.negInfBits, seg "-inf"⟩, none⟩))))).isOk = false := by decide +kernel
/-- a unit outside the unit table -/
theorem cex_unit : (filterOfBytes (printFilter (one (.cmp [seg "a"] .eq
    (.num ⟨⟨0, seg "5"⟩, some (seg "foo")⟩))))).isOk = false := by decide +kernel
/-- a zone name the zone table does not resolve -/
theorem cex_zone : (filterOfBytes (printFilter (one (.cmp [seg "a"] .eq
    (.dateTime ⟨0, 0, 0, seg "Nowhere", seg "Nowhere", seg "2024-02-29T12:34:56Z"⟩))))).isOk = false := by
  decide +kernel
/-- a calendar date chrono rejects -/
theorem cex_date : (filterOfBytes (printFilter (one (.cmp [seg "a"] .eq
    (.date ⟨2023, 2, 29, seg "2023-02-29"⟩))))).isOk = false := by decide +kernel
/-- the lone path `not` is the operator; an empty `Or` prints as the empty text -/
theorem cex_not : (filterOfBytes (printFilter (one (.has kwNot)))).isOk = false := by decide +kernel
theorem cex_empty : (filterOfBytes (printFilter .nil)).isOk = false := by decide +kernel
/-- a Ref id outside the id alphabet ends at the first foreign byte: `@a b` is read as the Ref `a` -/
theorem cex_ref_id : (filterOfBytes (printFilter (one (.cmp [seg "x"] .eq (.ref (seg "a b") none))))).isOk = false := by
  decide +kernel

def printsAs (r : Res Ors) (s : String) : Bool :=
  match r with
  | .ok o => printFilter o == bytes s
  | _ => false

/-- `printsAs` with the expected bytes as an argument, so that `bytes_lit` applies to them (evaluating the unfolded
`match` is several times dearer than evaluating this) -/
def printsAsBytes (r : Res Ors) (bs : List UInt8) : Bool :=
  match r with
  | .ok o => printFilter o == bs
  | _ => false
theorem printsAs_eq (r : Res Ors) (s : String) : printsAs r s = printsAsBytes r (bytes s) := rfl

/-- the formerly failing input, evaluated -/
theorem p1_path_ends : printsAs (filterOfBytes (bytes "d->b and c")) "d->b and c" = true := by
  rw [printsAs_eq, bytes_lit]
  decide +kernel
/-- a text with literals of several kinds, evaluated -/
theorem ex_literals : printsAs (filterOfBytes (bytes
    "a == true and b != \"x\\n\\u00e9\" and c < 5kW and d >= 2021-03-04 and e *== @r and ^sym and rel? ^t @x and u == `http://x`"))
    "a == true and b != \"x\\né\" and c < 5kW and d >= 2021-03-04 and e *== @r and ^sym and rel? ^t @x and u == `http://x`" = true := by
  rw [printsAs_eq, bytes_lit, bytes_lit]
  decide +kernel

end Hs.C08

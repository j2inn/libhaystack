/-
  C06 — timestamps keep their instant and zone through every constructor and codec.

  Statements are about the model `Hs.Model.Tz` of `fixed_timezone`, `make_date_time`,
  `make_date_time_with_tz`, `make_date_time_from_text`, `find_timezone`, `timezone_short_name`, the Zinc reader/writer and the
  Hayson reader/writer for DateTime (at the level of fields: local seconds, nanoseconds, offset text,
  zone name) and the C constructors/getters.  They quantify over ALL instants (any `Int` seconds, any
  nanoseconds), all offsets, all zone names (`List Char`), and — table theorems — over every zone id
  of the compiled chrono-tz database and the prefix list of `find_timezone` as translated from the
  current sources (`Hs.Gen.Zones`).  The zone offset function is a parameter `TzDb`; the only facts
  assumed of it are stated as hypotheses where they are used:
    `EtcOk db`    — `Etc/GMT∓N` (N = 0: `UTC`) has the constant offset ±N h;
    `OffsetOk o`  — the offset of the written timestamp is a whole number of minutes in −12 h … +14 h
                    (true of every zone of the database between 1980 and 2060; checked by the harness).
  The codec round trips carry `EtcOk` without using it: it would matter for the zone `UTC` only, which shares its
  city name with `Etc/UTC` and so lies outside `InDomain` / `TextDomain` (`unambiguous_ne_utc`).
  `C06_rt_subminute` drops `OffsetOk`: the offset may have seconds (local mean time: Amsterdam +0:19:32
  until 1937); the text carries it rounded to the minute and the readers recover the instant from the
  exact wall-clock time, wherever the zone's offset is the same at the instant the text seems to denote
  (`TextDomain.stable`, the condition `make_date_time_from_text` checks).
  The model is tied to the code by the correspondence check and by the translator's shape assertions.
-/
import Hs.Lemmas.Tz
namespace Hs.C06
open Hs Hs.Tz Hs.Gen.Zones

/-- the database gives every fixed zone its nominal offset: `Etc/GMT-n` is n hours east, `UTC` is 0 -/
def EtcOk (db : TzDb) : Prop := ∀ n ∈ etcHours, ∀ t, db.offsetAt (etcName n) t = n * 3600

/-! ### table theorems (zone list of the compiled database × prefix list of `find_timezone`) -/

/-- `str::parse::<Tz>` of the model = membership in the zone list -/
theorem zone_parse_iff (n : List Char) : parseTz n = some n ↔ n ∈ zones := parseTz_iff n

/-- the city name of every zone with an unambiguous city name resolves back to that zone -/
theorem short_name_resolves : ∀ z ∈ zones, Unambiguous z → findTimezone (shortName z) = some z :=
  fun _ h hu => short_resolves h hu

/-- … and the city name of ANY zone (aliases included) resolves to a zone with the same city name -/
theorem short_name_resolves_alias : ∀ z ∈ zones, ∃ w ∈ zones, findTimezone (shortName z) = some w ∧ shortName w = shortName z :=
  by
  intro z h
  obtain ⟨w, h1, h2, h3⟩ := short_resolves_some h
  exact ⟨w, h2, h1, h3⟩

/-- every city name is lexed in full by the Zinc reader: `[A-Z][A-Za-z0-9_/+-]+` -/
theorem short_name_lexable : ∀ z ∈ zones, lexable (shortName z) = true := fun _ h => short_lexable h

/-! ### constructors -/

/-- **RFC 3339**: whatever the offset (hours and minutes, any sign, any size), a timestamp that is
accepted denotes exactly the instant of the text: local time − offset -/
theorem C06_rfc (loc : Int) (ns : Nat) (off : Int) (dt : DT) (h : makeDateTime loc ns off = .ok dt) :
    dt.secs = loc - off ∧ dt.ns = ns := by
  unfold makeDateTime at h
  split at h
  · simp only [Res.ok.injEq] at h
    subst h
    exact ⟨rfl, rfl⟩
  all_goals cases h

/-- none of the offsets −12:00 … +14:00 (whole minutes, so every 15-minute step) is rejected; a
whole-hour offset gets the fixed zone `Etc/GMT∓N` (hence, with `EtcOk`, the same local offset), any
other offset is kept as its instant in UTC -/
theorem C06_rfc_accepts (loc : Int) (ns : Nat) (off : Int) (h : OffsetOk off) :
    makeDateTime loc ns off = .ok ⟨loc - off, ns, if off % 3600 = 0 then etcName (off / 3600) else utcName⟩ := by
  simp only [makeDateTime, rfcZone_eq off fun _ => h.2]

theorem C06_rfc_offset (db : TzDb) (hdb : EtcOk db) (loc : Int) (ns : Nat) (off : Int) (h : OffsetOk off)
    (hw : off % 3600 = 0) :
    ∃ dt, makeDateTime loc ns off = .ok dt ∧ dt.offset db = off := by
  refine ⟨_, C06_rfc_accepts loc ns off h, ?_⟩
  obtain ⟨_, hlo, hhi⟩ := h
  simp only [DT.offset, hw, if_true]
  rw [hdb (off / 3600) (mem_etcHours (by omega) (by omega))]
  omega

/-- **instant + zone name**: built from an instant and a zone id, or the city name of a zone whose
city name is unambiguous, the timestamp denotes that instant in that zone -/
theorem C06_with_tz (secs : Int) (ns : Nat) (name z : List Char) (hz : z ∈ zones)
    (hn : name = z ∨ (Unambiguous z ∧ name = shortName z)) :
    makeDateTimeWithTz secs ns name = .ok ⟨secs, ns, z⟩ := by
  rcases hn with rfl | ⟨hu, rfl⟩
  · simp [makeDateTimeWithTz, findTimezone_of_mem hz]
  · simp [makeDateTimeWithTz, short_resolves hz hu]

/-- whatever the name, an accepted timestamp keeps the instant and lies in a zone of the database -/
theorem C06_with_tz_instant (secs : Int) (ns : Nat) (name : List Char) (dt : DT)
    (h : makeDateTimeWithTz secs ns name = .ok dt) : dt.secs = secs ∧ dt.ns = ns ∧ dt.tzid ∈ zones := by
  unfold makeDateTimeWithTz at h
  split at h
  · rename_i z hz
    simp only [Res.ok.injEq] at h
    subst h
    exact ⟨rfl, rfl, findTimezone_mem hz⟩
  · cases h

/-! ### codecs -/

/-- a timestamp of the property's domain: a zone of the database with an unambiguous city name -/
structure InDomain (db : TzDb) (d : DT) : Prop where
  zone : d.tzid ∈ zones
  unamb : Unambiguous d.tzid
  off : OffsetOk (d.offset db)

/-- a timestamp whose text can be read back, WHATEVER its offset (whole minutes or not): a zone of the
database with an unambiguous city name; an offset below 23:59:30 either way, so that rounded to the
minute it is below 24 h (`+24:00` is not an offset a reader takes); and the zone has the same offset at
the instant the minute-precision text seems to denote, `offset − rounded offset` (at most 30) seconds
away — the condition `make_date_time_from_text` checks before it takes the wall-clock time as exact -/
structure TextDomain (db : TzDb) (d : DT) : Prop where
  zone : d.tzid ∈ zones
  unamb : Unambiguous d.tzid
  range : (d.offset db).natAbs < 86370
  stable : db.offsetAt d.tzid (d.secs + (d.offset db - roundMin (d.offset db))) = d.offset db

/-- the first step of the Hayson reader (`DateTime::parse_from_rfc3339(val)`) accepts the written offset:
a rounded offset of whole hours has its `Etc/GMT∓N` zone (−12 … +14); any other is taken as UTC -/
def HaysonOk (off : Int) : Prop := roundMin off % 3600 = 0 → -43200 ≤ roundMin off ∧ roundMin off ≤ 50400

/-- where the offset is a whole number of minutes the text carries it as it is and nothing needs checking -/
theorem InDomain.text {db : TzDb} {d : DT} (hd : InDomain db d) : TextDomain db d ∧ HaysonOk (d.offset db) := by
  obtain ⟨hz, hu, h60, hlo, hhi⟩ := hd
  have hr := roundMin_of_whole h60
  refine ⟨⟨hz, hu, by omega, ?_⟩, ?_⟩
  · rw [hr, Int.sub_self, Int.add_zero]; rfl
  · intro _; rw [hr]; exact ⟨hlo, hhi⟩

/-- what both texts of a timestamp carry — the exact wall-clock time, the offset rounded to the minute, the city
name — is what `make_date_time_from_text` makes the timestamp of again -/
theorem TextDomain.fromText {db : TzDb} {d : DT} (hd : TextDomain db d) :
    makeDateTimeFromText db (d.localSecs db - roundMin (d.offset db)) d.ns (roundMin (d.offset db)) d.short = .ok d :=
  fromText_exact db d.secs d.ns d.short d.tzid (short_resolves hd.zone hd.unamb) hd.stable

/-- **Zinc, any offset** (through `make_date_time_from_text`): the writer prints the exact wall-clock time
and the offset rounded to the minute (`+00:20` for Amsterdam's +0:19:32); the reader gives back the same
timestamp — instant, nanoseconds and zone -/
theorem C06_zinc_rt_subminute (db : TzDb) (hdb : EtcOk db) (d : DT) (hd : TextDomain db d) :
    zincDec db (zincEnc db d) = .ok d := by
  have hutc : d.tzid ≠ utcName := unambiguous_ne_utc hd.unamb
  have hb : d.isUtc = false := by simpa [DT.isUtc] using hutc
  by_cases h0 : d.offset db = 0
  · obtain ⟨secs, ns, z⟩ := d
    simp only [DT.offset] at h0
    simp [zincEnc, zincDec, hb, DT.localSecs, DT.offset, DT.short, h0, rfcOffsetText, parseOffTxt,
      short_lexable hd.zone, short_ne_utc hd.unamb hutc, makeDateTimeWithTz, short_resolves hd.zone hd.unamb]
  · rw [zincEnc, hb, if_neg (by decide), zincDec_offset db _ _ (n := d.short) h0 hd.range (short_lexable hd.zone)
      (short_ne_utc hd.unamb hutc)]
    exact hd.fromText

/-- **Hayson, any offset**: likewise, when the reader's first step accepts the written offset -/
theorem C06_json_rt_subminute (db : TzDb) (hdb : EtcOk db) (d : DT) (hd : TextDomain db d)
    (hj : HaysonOk (d.offset db)) : jsonDec db (jsonEnc db d) = .ok d := by
  have hb : d.isUtc = false := by simpa [DT.isUtc] using unambiguous_ne_utc hd.unamb
  rw [jsonEnc, hb, if_neg (by decide), jsonDec_tz db _ _ d.short hj]
  exact hd.fromText

/-- **the text of a timestamp denotes it, whatever the offset of its zone**: for ANY offset below 23:59:30
either way — whole minutes or not — at an instant where the zone's offset is locally constant in the sense
the code checks, writing (exact wall-clock time, offset rounded to the minute, city name) and reading back
gives the same timestamp, through Zinc and through Hayson -/
theorem C06_rt_subminute (db : TzDb) (hdb : EtcOk db) (d : DT) (hd : TextDomain db d) :
    zincDec db (zincEnc db d) = .ok d ∧ (HaysonOk (d.offset db) → jsonDec db (jsonEnc db d) = .ok d) :=
  ⟨C06_zinc_rt_subminute db hdb d hd, C06_json_rt_subminute db hdb d hd⟩

/-- **Zinc**: reading what the writer wrote gives the same timestamp — same instant, same zone, hence
(the offset being a function of zone and instant) the same local offset and the same zone name;
on either side of any transition, since nothing but `OffsetOk` is assumed of the offset -/
theorem C06_zinc_rt (db : TzDb) (hdb : EtcOk db) (d : DT) (hd : InDomain db d) :
    zincDec db (zincEnc db d) = .ok d := C06_zinc_rt_subminute db hdb d hd.text.1

/-- **Hayson**: likewise -/
theorem C06_json_rt (db : TzDb) (hdb : EtcOk db) (d : DT) (hd : InDomain db d) :
    jsonDec db (jsonEnc db d) = .ok d := C06_json_rt_subminute db hdb d hd.text.1 hd.text.2

/-- **C API**: the constructor given UTC fields and the zone id or city name builds that instant in that
zone; the getters return the UTC fields, the local fields (instant + offset) and the city name -/
theorem C06_capi (db : TzDb) (d : DT) (hz : d.tzid ∈ zones) (hu : Unambiguous d.tzid) :
    capiMakeTz d.secs d.ns d.tzid = .ok d ∧ capiMakeTz d.secs d.ns d.short = .ok d ∧
    capiGetUtc d = (d.secs, d.ns) ∧ capiGetLocal db d = (d.secs + d.offset db, d.ns) ∧
    capiGetZone d = shortName d.tzid ∧ (capiMakeUtc d.secs d.ns).secs = d.secs := by
  obtain ⟨secs, ns, z⟩ := d
  exact ⟨C06_with_tz secs ns z z hz (.inl rfl), C06_with_tz secs ns (shortName z) z hz (.inr ⟨hu, rfl⟩), rfl, rfl, rfl, rfl⟩

/-- The property at full strength. -/
def C06_full : Prop :=
  (∀ loc ns off dt, makeDateTime loc ns off = .ok dt → dt.secs = loc - off ∧ dt.ns = ns) ∧
  (∀ loc ns off, OffsetOk off → ∃ dt, makeDateTime loc ns off = .ok dt) ∧
  (∀ secs ns name z, z ∈ zones → (name = z ∨ (Unambiguous z ∧ name = shortName z)) →
    makeDateTimeWithTz secs ns name = .ok ⟨secs, ns, z⟩) ∧
  (∀ db, EtcOk db → ∀ d, InDomain db d → zincDec db (zincEnc db d) = .ok d ∧ jsonDec db (jsonEnc db d) = .ok d)

theorem C06_holds : C06_full :=
  ⟨C06_rfc, fun loc ns off h => ⟨_, C06_rfc_accepts loc ns off h⟩, C06_with_tz,
   fun db hdb d hd => ⟨C06_zinc_rt db hdb d hd, C06_json_rt db hdb d hd⟩⟩

/-! ### non-vacuity -/

/-- a database satisfying `EtcOk`: fixed zones have their nominal offset, Sydney is at +10/+11 h -/
def sampleDb : TzDb where
  offsetAt z t :=
    match etcHours.find? (fun n => etcName n == z) with
    | some n => n * 3600
    | none =>
      if z = "Australia/Sydney".toList then (if t % 2 = 0 then 36000 else 39600)
      else if z = "Asia/Kolkata".toList then 19800
      else 0

theorem sampleDb_ok : EtcOk sampleDb := by
  intro n hn t
  simp only [sampleDb, etcName_find hn]

theorem unambiguous_of_table (z : List Char)
    (h : zones.all (fun w => shortName w != shortName z || w == z) = true) : Unambiguous z := by
  intro w hw hs
  have := List.all_eq_true.1 h w hw
  simp only [Bool.or_eq_true, bne_iff_ne, ne_eq, beq_iff_eq] at this
  rcases this with h | h
  · exact absurd hs h
  · exact h

/-- Sydney is a zone of the database with an unambiguous city name -/
theorem sydney_in_domain (secs : Int) (ns : Nat) : InDomain sampleDb ⟨secs, ns, "Australia/Sydney".toList⟩ := by
  refine ⟨(parseTz_iff "Australia/Sydney".toList).1 (by decide +kernel),
    unambiguous_of_table "Australia/Sydney".toList (by decide +kernel), ?_⟩
  have hnone : etcHours.find? (fun n => etcName n == "Australia/Sydney".toList) = none := by decide +kernel
  simp only [DT.offset, sampleDb, hnone, OffsetOk, if_true]
  split <;> decide

/-- … so the round-trip theorems apply to it at every instant -/
example (secs : Int) (ns : Nat) :
    zincDec sampleDb (zincEnc sampleDb ⟨secs, ns, "Australia/Sydney".toList⟩) = .ok ⟨secs, ns, "Australia/Sydney".toList⟩ :=
  C06_zinc_rt sampleDb sampleDb_ok _ (sydney_in_domain secs ns)

set_option maxRecDepth 100000 in
/-- `+10:00` (two hour digits) and `+05:30` (minutes) keep their instant -/
example : makeDateTime 36000 0 36000 = .ok ⟨0, 0, "Etc/GMT-10".toList⟩ ∧
    makeDateTime 19800 5 19800 = .ok ⟨0, 5, "UTC".toList⟩ := by decide +kernel

/-! ### non-vacuity of `C06_rt_subminute`: offsets with seconds -/

/-- the text offsets of local mean time: Amsterdam +0:19:32 is written `+00:20` (rounded, not truncated),
Krasnoyarsk +6:11:26 `+06:11`, New_York −4:56:02 `-04:56`; 20 s either way `+00:00` / `-00:00`, never `Z` -/
example : rfcOffsetText 1172 = "+00:20".toList ∧ rfcOffsetText 22286 = "+06:11".toList ∧
    rfcOffsetText (-17762) = "-04:56".toList ∧ rfcOffsetText 20 = "+00:00".toList ∧
    rfcOffsetText (-20) = "-00:00".toList ∧ rfcOffsetText 0 = "Z".toList ∧
    roundMin 1172 = 1200 ∧ roundMin 22286 = 22260 ∧ roundMin (-17762) = -17760 ∧ roundMin (-30) = -60 := by decide +kernel

/-- a sample database with local mean time: Amsterdam +0:19:32 before an instant in 1937 and +0:20 from
then on, Krasnoyarsk +6:11:26, New_York −4:56:02, Sydney at an offset no text can carry -/
def lmtDb : TzDb where
  offsetAt z t :=
    match etcHours.find? (fun n => etcName n == z) with
    | some n => n * 3600
    | none =>
      if z = "Europe/Amsterdam".toList then (if t < -1025740800 then 1172 else 1200)
      else if z = "Asia/Krasnoyarsk".toList then 22286
      else if z = "America/New_York".toList then -17762
      else if z = "Australia/Sydney".toList then 86370
      else 0

theorem lmtDb_ok : EtcOk lmtDb := by
  intro n hn t
  simp only [lmtDb, etcName_find hn]

/-- Amsterdam in its mean-time period, at every instant of it: the hypotheses of `C06_rt_subminute` hold
(the text seems to denote an instant 28 s earlier, where the offset is the same) -/
theorem amsterdam_in_text_domain (secs : Int) (ns : Nat) (h : secs < -1025740800) :
    TextDomain lmtDb ⟨secs, ns, "Europe/Amsterdam".toList⟩ ∧ HaysonOk (lmtDb.offsetAt "Europe/Amsterdam".toList secs) := by
  have hnone : etcHours.find? (fun n => etcName n == "Europe/Amsterdam".toList) = none := by decide +kernel
  have hoff : ∀ t, t < -1025740800 → lmtDb.offsetAt "Europe/Amsterdam".toList t = 1172 := by
    intro t ht
    simp only [lmtDb, hnone, if_true, ht]
  have hr : roundMin 1172 = 1200 := by decide
  refine ⟨⟨?_, ?_, ?_, ?_⟩, ?_⟩
  · exact (parseTz_iff "Europe/Amsterdam".toList).1 (by decide +kernel)
  · exact unambiguous_of_table "Europe/Amsterdam".toList (by decide +kernel)
  · simp only [DT.offset, hoff secs h]; decide
  · simp only [DT.offset, hoff secs h, hr]
    exact hoff _ (by omega)
  · simp only [HaysonOk, hoff secs h, hr]; decide

/-- … so the text of such a timestamp is read back as the timestamp itself -/
example (secs : Int) (ns : Nat) (h : secs < -1025740800) :
    zincDec lmtDb (zincEnc lmtDb ⟨secs, ns, "Europe/Amsterdam".toList⟩) = .ok ⟨secs, ns, "Europe/Amsterdam".toList⟩ ∧
    jsonDec lmtDb (jsonEnc lmtDb ⟨secs, ns, "Europe/Amsterdam".toList⟩) = .ok ⟨secs, ns, "Europe/Amsterdam".toList⟩ :=
  ⟨(C06_rt_subminute lmtDb lmtDb_ok _ (amsterdam_in_text_domain secs ns h).1).1,
   (C06_rt_subminute lmtDb lmtDb_ok _ (amsterdam_in_text_domain secs ns h).1).2 (amsterdam_in_text_domain secs ns h).2⟩

set_option maxRecDepth 100000 in
/-- the same by evaluation, on the texts the real code writes: `1209-06-21T05:39:32+00:20 Amsterdam`
(UTC seconds −24000000000), `…T11:31:26+06:11 Krasnoyarsk`, `…T00:23:58-04:56 New_York` -/
example :
    zincEnc lmtDb ⟨-24000000000, 0, "Europe/Amsterdam".toList⟩ = ⟨-23999998828, 0, "+00:20".toList, some "Amsterdam".toList⟩ ∧
    zincDec lmtDb ⟨-23999998828, 0, "+00:20".toList, some "Amsterdam".toList⟩ = .ok ⟨-24000000000, 0, "Europe/Amsterdam".toList⟩ ∧
    zincDec lmtDb ⟨-23999977714, 0, "+06:11".toList, some "Krasnoyarsk".toList⟩ = .ok ⟨-24000000000, 0, "Asia/Krasnoyarsk".toList⟩ ∧
    zincDec lmtDb ⟨-24000017762, 5, "-04:56".toList, some "New_York".toList⟩ = .ok ⟨-24000000000, 5, "America/New_York".toList⟩ ∧
    jsonDec lmtDb ⟨-23999977714, 0, 22260, some "Krasnoyarsk".toList⟩ = .ok ⟨-24000000000, 0, "Asia/Krasnoyarsk".toList⟩ ∧
    jsonDec lmtDb ⟨-24000017762, 0, -17760, some "New_York".toList⟩ = .ok ⟨-24000000000, 0, "America/New_York".toList⟩ := by
  decide +kernel

set_option maxRecDepth 100000 in
/-- a text whose offset is NOT the zone's rounded offset (here truncated: `+00:19`) is taken at its word,
and so is any text where the zone's offset is whole minutes (Amsterdam at +0:20) -/
example :
    zincDec lmtDb ⟨-23999998828, 0, "+00:19".toList, some "Amsterdam".toList⟩ = .ok ⟨-23999999968, 0, "Europe/Amsterdam".toList⟩ ∧
    zincDec lmtDb ⟨1200, 0, "+00:20".toList, some "Amsterdam".toList⟩ = .ok ⟨0, 0, "Europe/Amsterdam".toList⟩ := by
  decide +kernel

set_option maxRecDepth 100000 in
/-- the bound of `TextDomain.range` is sharp: an offset of 23:59:30 is written `+24:00`, which the Zinc
reader does not take for an offset (`FixedOffset::east_opt` is `None`): the wall-clock time is read as UTC -/
example : (zincEnc lmtDb ⟨0, 0, "Australia/Sydney".toList⟩).offTxt = "+24:00".toList ∧
    zincDec lmtDb (zincEnc lmtDb ⟨0, 0, "Australia/Sydney".toList⟩) = .ok ⟨86370, 0, "Australia/Sydney".toList⟩ := by
  decide +kernel

end Hs.C06

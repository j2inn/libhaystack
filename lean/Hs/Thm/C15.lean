/-
  C15 — every database unit is found by each of its names and survives both codecs.

  The table (`Hs.Gen.Units`: 443 unit statics, the 946-entry `UNITS` map, the byte classes of the Zinc number
  reader) is regenerated from /repo on every run; the kernel-decided facts about it are in
  `Hs.Lemmas.UnitsTable`.  Everything below is derived from those facts by general lemmas and holds for every
  unit of the table, every id, EVERY string (lookup of a non-id), every decimal text and every continuation of
  the input.  Rust's `f64` printing/parsing is a parameter (`FloatIO`, trusted base, exercised by the harness).
-/
import Hs.Lemmas.UnitsTable
namespace Hs.C15
open Hs Hs.Units Hs.Gen.Units

/-! ## lookup -/

/-- The look-up, characterised once: `UNITS.get(s)` is the position of the unit that has `s` among its ids. -/
theorem getUnitIdx_iff (s : List Char) (i : Nat) :
    getUnitIdx s = some i ↔ ∃ u, units[i]? = some u ∧ s ∈ u.ids := by
  rw [← mem_flatIds, ← tableOK.mem_iff]
  exact ⟨findIdx_some_mem, findIdx_of_mem_nodup tableOK.entries_nodup⟩

/-- Looking up any id of any unit returns that unit. -/
theorem ids_resolve (u : Row) (hu : u ∈ units) (id : List Char) (hid : id ∈ u.ids) : getUnit id = some u := by
  obtain ⟨i, hi⟩ := List.getElem?_of_mem hu
  unfold getUnit
  rw [(getUnitIdx_iff id i).2 ⟨u, hi, hid⟩]; exact hi

/-- Every entry of `UNITS` maps an id of the unit it points to. -/
theorem entries_are_ids (e : List Char × Nat) (he : e ∈ entries) : ∃ u, units[e.2]? = some u ∧ e.1 ∈ u.ids :=
  mem_flatIds.1 ((tableOK.mem_iff e).1 he)

/-- No id belongs to two units. -/
theorem no_shared_id (i j : Nat) (u v : Row) (id : List Char) (hi : units[i]? = some u) (hj : units[j]? = some v)
    (hu : id ∈ u.ids) (hv : id ∈ v.ids) : i = j :=
  Option.some.inj (((getUnitIdx_iff id i).2 ⟨u, hi, hu⟩).symm.trans ((getUnitIdx_iff id j).2 ⟨v, hj, hv⟩))

/-- A lookup that answers, answers with a unit of the table that has the string among its ids … -/
theorem getUnit_some (s : List Char) (u : Row) (h : getUnit s = some u) : u ∈ units ∧ s ∈ u.ids := by
  unfold getUnit at h
  cases hf : getUnitIdx s with
  | none => simp [hf] at h
  | some i =>
    rw [hf, Option.bind_some] at h
    obtain ⟨u', hu', hs⟩ := (getUnitIdx_iff s i).1 hf
    cases hu'.symm.trans h
    exact ⟨List.mem_of_getElem? h, hs⟩

/-- … so looking up a string that is no unit's id returns nothing (any string). -/
theorem getUnit_none_of_not_id (s : List Char) (h : ∀ u ∈ units, s ∉ u.ids) : getUnit s = none := by
  cases hg : getUnit s with
  | none => rfl
  | some u => exact absurd (getUnit_some s u hg).2 (h u (getUnit_some s u hg).1)

/-! ## the symbol -/

theorem symbol_mem_ids (u : Row) (h : symbol u ≠ []) : symbol u ∈ u.ids := by
  unfold symbol at h ⊢
  cases hl : u.ids.getLast? with
  | none => simp [hl] at h
  | some s => simpa [hl] using List.mem_of_getLast? hl

/-- Every unit's symbol is non-empty, consists of unit bytes only, does not start with a byte of the decimal
scan and is not an exponent prefix. -/
theorem symbol_lexable (u : Row) (hu : u ∈ units) :
    symbol u ≠ [] ∧ symbolBytes u ≠ [] ∧ (∀ b ∈ symbolBytes u, isUnitChar b = true) ∧
    (∀ b, (symbolBytes u).head? = some b → isDecChar b = false) ∧ expPrefix (symbolBytes u) = false := by
  have h := List.all_eq_true.1 table_symbols u hu
  simp only [symbolOk, Bool.and_eq_true, Bool.not_eq_true', List.all_eq_true] at h
  obtain ⟨⟨⟨h1, h2⟩, h3⟩, h4⟩ := h
  have hne : symbolBytes u ≠ [] := by
    intro h0; rw [h0] at h1; simp at h1
  refine ⟨?_, hne, h2, ?_, h4⟩
  · intro h0
    apply hne
    simp [symbolBytes, utf8, h0]
  · intro b hb
    rw [hb] at h3
    simpa using h3

/-- The symbol is one of the unit's ids, hence resolves to the unit: what the Hayson decoder does with the
`unit` entry (`get_unit(unit.as_str())`). -/
theorem C15_json (u : Row) (hu : u ∈ units) : getUnit (symbol u) = some u :=
  ids_resolve u hu _ (symbol_mem_ids u (symbol_lexable u hu).1)

/-! ## Zinc -/

/-- `parse_unit` reads back exactly the symbol when the input ends there or continues with a non-unit byte. -/
theorem parseUnit_symbol (u : Row) (hu : u ∈ units) (rest : List UInt8) (hr : Delim rest) :
    parseUnit (symbolBytes u ++ rest) = (symbolBytes u, rest) :=
  parseUnit_reads _ _ (symbol_lexable u hu).2.2.1 hr

/-- A decimal text followed by a unit's symbol splits back into that decimal (no exponent) and that unit. -/
theorem C15_zinc (u : Row) (hu : u ∈ units) (d rest : List UInt8) (hd : DecimalText d) (hr : Delim rest) :
    lexNumber (d ++ symbolBytes u ++ rest) = .ok (⟨d, none, some (symbolBytes u), rest⟩, some u) := by
  obtain ⟨_, hne, hall, hfirst, hexp⟩ := symbol_lexable u hu
  have h := lexNumberText_reads d (symbolBytes u) rest hd hall hne hfirst hexp hr
  have hg : getUnitOfBytes (symbolBytes u) = some u := by
    rw [symbolBytes, getUnitOfBytes_utf8]; exact C15_json u hu
  simp only [lexNumber, h, hg]

/-- Encode then decode of a finite Number with a unit gives back the value and the unit, for any behaviour of
`f64` printing/parsing that prints decimal texts and parses back what it prints. -/
theorem C15_zinc_roundtrip {F : Type} (P : FloatIO F) (x : F) (u : Row) (hu : u ∈ units)
    (rest : List UInt8) (hr : Delim rest) :
    decodeNumber P (encodeNumber P x u ++ rest) = some (x, some u) := by
  have h := C15_zinc u hu (P.fmt x) rest (P.fmt_shape x) hr
  simp only [decodeNumber, encodeNumber, h, P.parse_fmt, Option.getD_none, List.append_nil, Option.map_some]

/-! ## the property at full strength -/

def C15_full : Prop :=
  (∀ u ∈ units, ∀ id ∈ u.ids, getUnit id = some u) ∧
  (∀ s : List Char, (∀ u ∈ units, s ∉ u.ids) → getUnit s = none) ∧
  (∀ u ∈ units, getUnit (symbol u) = some u) ∧
  (∀ (F : Type) (P : FloatIO F) (x : F), ∀ u ∈ units, ∀ rest, Delim rest →
    decodeNumber P (encodeNumber P x u ++ rest) = some (x, some u))

theorem C15_holds : C15_full :=
  ⟨ids_resolve, getUnit_none_of_not_id, C15_json, fun _ P x u hu rest hr => C15_zinc_roundtrip P x u hu rest hr⟩

/-! ## non-vacuity -/

/-- the table is populated and lookups compute -/
example : (getUnit ['k', 'W']).map name = some "kilowatt".toList ∧ getUnit ['k', 'w'] = none ∧
    (getUnit "meter".toList).map symbol = some ['m'] := by decide +kernel
/-- a float printer/parser satisfying the hypotheses of `FloatIO` exists -/
def twoFloats : FloatIO Bool where
  fmt b := if b then [49, 46, 53] else [45, 48]            -- "1.5", "-0"
  parse t := if t = [49, 46, 53] then some true else if t = [45, 48] then some false else none
  parse_fmt b := by cases b <;> decide
  fmt_shape b := by cases b <;> decide
/-- `-0m³` followed by `,`: decimal `-0`, unit `cubic_meter` -/
example : (decodeNumber twoFloats ([45, 48] ++ utf8 ['m', '³'] ++ [44])).map (fun r => (r.1, r.2.map name))
    = some (false, some "cubic_meter".toList) := by decide +kernel
/-- the hypotheses of `C15_zinc` are satisfiable: `Delim` holds of `,…`, `DecimalText` of `123.456` -/
example : Delim [44, 32] ∧ DecimalText [49, 50, 51, 46, 52, 53, 54] := by
  refine ⟨.inr ⟨44, [32], rfl, by decide⟩, by decide⟩

end Hs.C15

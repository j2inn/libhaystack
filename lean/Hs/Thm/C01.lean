/-
  C01 — Zinc encode → decode returns the original value.

  Model: `Hs.Zinc.encode` (encode.rs) and `Hs.Zinc.fromBytes` (decode/*: scanner, lexer, parser).
  What Rust std / chrono / chrono-tz compute stays lexical in the model (see ZincLex.lean): a decoded
  number is the text handed to `f64::from_str`, a decoded timestamp is its token text.  The
  statement therefore reads: decoding the writer's output yields the *lexical image* of the value —
  every string, name, tag, cell, row and nesting identical, every number/coordinate/timestamp
  re-read as exactly the text the writer printed for it.  `parse (fmt x) = x` for f64 and the
  chrono text round trip are the trusted-base hypotheses the harness validates on every run.
-/
import Hs.Lemmas.ZincRtTop
namespace Hs.C01
open Hs Hs.Zinc

/-- the lexical image of a number: what the reader returns for the printed text (NaN and the infinities without a
unit, a finite number as the decimal text the writer printed) -/
def lexNum (n : Num) : Num :=
  if Flt.isNaNBits n.v.bits then { v := { bits := nanBits, txt := "NaN".toList }, unit := none }
  else if Flt.isInfBits n.v.bits then
    (if Flt.signBit n.v.bits then { v := { bits := negInfBits, txt := "-inf".toList }, unit := none }
     else { v := { bits := posInfBits, txt := "inf".toList }, unit := none })
  else { v := { bits := lexBits, txt := n.v.txt }, unit := n.unit }

mutual
/-- lexical image of a value -/
def lexImage : Val → Val
  | .num n => .num (lexNum n)
  | .coord a b => .coord { bits := lexBits, txt := a.txt } { bits := lexBits, txt := b.txt }
  | .dateTime t =>
    .dateTime { secs := 0, ns := 0, off := 0, zone := [], tzid := [],
                txt := if t.tzid == "UTC".toList then t.txt else t.txt ++ [' '] ++ t.zone }
  | .list xs => .list (lexVals xs)
  | .dict d => .dict (lexTags d)
  | .grid md cols rows ver => .grid (lexOTags md) (lexCols cols) (lexRows rows) ver
  | v => v
def lexVals : Vals → Vals
  | .nil => .nil
  | .cons v vs => .cons (lexImage v) (lexVals vs)
def lexTags : Tags → Tags
  | .nil => .nil
  | .cons k v t => .cons k (lexImage v) (lexTags t)
def lexOTags : OTags → OTags
  | .none => .none
  | .some t => .some (lexTags t)
def lexCols : Cols → Cols
  | .nil => .nil
  | .cons n m c => .cons n (lexOTags m) (lexCols c)
def lexRows : Rows → Rows
  | .nil => .nil
  | .cons r rs => .cons (lexTags r) (lexRows rs)
end

/-- The property at full strength, for a well-formedness predicate `WF` (the property's list:
identifier names, id alphabets, capitalised XStr types other than the reserved `C`, no control
characters in Uris, database units, unit-less non-finite numbers, years 0000–9999, row keys among
the column names, at least one column, resolvable unambiguous zone): -/
def C01_full (WF : Val → Prop) : Prop :=
  ∀ v, WF v → fromBytes (encode v) = .ok (lexImage v)

/-! ### the kinds with finitely many values: exhaustive -/

def isOk (r : Res Val) (p : Val → Bool) : Bool :=
  match r with
  | .ok v => p v
  | _ => false

theorem isOk_eq {r : Res Val} {p : Val → Bool} (h : isOk r p = true) : ∃ v, r = .ok v ∧ p v = true := by
  cases r <;> simp [isOk] at h
  exact ⟨_, rfl, h⟩

/-- the kernel evaluates `r` to `.ok` of a value that `p` accepts, and `p` accepts `w` only -/
theorem eq_of_isOk {r : Res Val} {p : Val → Bool} {w : Val} (hp : ∀ v, p v = true → v = w)
    (h : isOk r p = true) : r = .ok w := by
  obtain ⟨v, hv, hpv⟩ := isOk_eq h
  rw [hv, hp v hpv]

theorem rt_null : fromBytes (encode .null) = .ok .null :=
  eq_of_isOk (p := fun v => match v with | .null => true | _ => false)
    (by intro v h; cases v <;> simp at h; rfl) (by decide +kernel)
theorem rt_marker : fromBytes (encode .marker) = .ok .marker :=
  eq_of_isOk (p := fun v => match v with | .marker => true | _ => false)
    (by intro v h; cases v <;> simp at h; rfl) (by decide +kernel)
theorem rt_remove : fromBytes (encode .remove) = .ok .remove :=
  eq_of_isOk (p := fun v => match v with | .remove => true | _ => false)
    (by intro v h; cases v <;> simp at h; rfl) (by decide +kernel)
theorem rt_na : fromBytes (encode .na) = .ok .na :=
  eq_of_isOk (p := fun v => match v with | .na => true | _ => false)
    (by intro v h; cases v <;> simp at h; rfl) (by decide +kernel)
theorem rt_bool (b : Bool) : fromBytes (encode (.bool b)) = .ok (.bool b) :=
  eq_of_isOk (p := fun v => match v with | .bool c => c == b | _ => false)
    (by intro v h; cases v <;> simp at h; rw [h]) (by cases b <;> decide +kernel)


/-! ## The ladder

The lemmas behind the rungs are in `Hs/Lemmas/ZincRt*.lean`; `good_leaf` (`ZincRtTop.lean`) is the case of C04's
`leaf_of_spells` (`ZincSpellLeaf.lean`) at the writer's text.  Vocabulary used below:
* `At s rest` — the scanner `s` is positioned at `rest`: current byte = head of `rest`, unread bytes
  (peek stash first, then the reader) = its tail; at the end of the input `is_eof` is up and nothing is unread
  (`Hs/Lemmas/ZincRtScan.lean`; `Scan.make bs` satisfies `At · bs`).
* `Delim rest` — what follows a value in writer output: nothing, `,` `]` `}` newline, or a space followed by
  the lower-case first letter of a tag name.
* `Post s rest` — `At s rest`, and the peek stash is empty unless `rest` starts with a space (the Ref reader
  peeks one byte past a space).
* `RdVal v` — the framing statement of a value: for every scanner at `enc v true ++ rest` with `Delim rest`,
  enough fuel (`4·|enc v| + 8`) and `depth + nestV v < 64`, reading the first token and running `parseValue`
  gives the lexical image of `v` and leaves the scanner at `rest`.
-/

/-! ### `lexImage` is the function the lemma files use -/

mutual
theorem lexImage_eq : ∀ v : Val, lexImage v = lexImg v := by
  intro v
  cases v with
  | list xs => rw [lexImage, lexImg, lexVals_eq xs]
  | dict d => rw [lexImage, lexImg, lexTags_eq d]
  | grid md cols rows ver => rw [lexImage, lexImg, lexOTags_eq md, lexCols_eq cols, lexRows_eq rows]
  | _ => rfl
theorem lexVals_eq : ∀ xs : Vals, lexVals xs = lexImgs xs
  | .nil => rfl
  | .cons v vs => by rw [lexVals, lexImgs, lexImage_eq v, lexVals_eq vs]
theorem lexTags_eq : ∀ t : Tags, lexTags t = lexImgT t
  | .nil => rfl
  | .cons k v t => by rw [lexTags, lexImgT, lexImage_eq v, lexTags_eq t]
theorem lexOTags_eq : ∀ o : OTags, lexOTags o = lexImgO o
  | .none => rfl
  | .some t => by rw [lexOTags, lexImgO, lexTags_eq t]
theorem lexCols_eq : ∀ c : Cols, lexCols c = lexImgC c
  | .nil => rfl
  | .cons n m c => by rw [lexCols, lexImgC, lexOTags_eq m, lexCols_eq c]
theorem lexRows_eq : ∀ r : Rows, lexRows r = lexImgR r
  | .nil => rfl
  | .cons r rs => by rw [lexRows, lexImgR, lexTags_eq r, lexRows_eq rs]
end

/-! ### rung 1 — UTF-8 -/

/-- the lossy decoder is the identity on encoder output, for every text -/
theorem rt_utf8 (s : List Char) : lossy (encChars s) = s := lossy_encChars s

/-- every byte of a non-ASCII character's encoding is ≥ 0x80 (byte-oriented loops copy it verbatim) -/
theorem utf8_high_bytes (c : Char) (h : 128 ≤ c.toNat) : ∀ b ∈ encChar c, 128 ≤ b.toNat := encChar_nonascii c h

/-! ### rung 2 — scanner normal form -/

theorem scan_make_at (bs : List UInt8) : At (Scan.make bs) bs := At_make_all bs
theorem scan_advance {s : Scan} {b : UInt8} {r : List UInt8} (h : At s (b :: r)) : At s.advance r := h.advance
theorem scan_read {s : Scan} {b c : UInt8} {r : List UInt8} (h : At s (b :: c :: r)) : s.read = (some c, s.advance) :=
  h.read
theorem scan_peek {s : Scan} {b c : UInt8} {r : List UInt8} (h : At s (b :: c :: r)) (hs : s.stash = []) :
    ∃ s1, s.peek = (some c, s1) ∧ At s1 (b :: c :: r) ∧ s1.stash.length = 1 ∧ s1.lastPeek = c ∧ s1.pos = s.pos :=
  h.peek0' hs

/-! ### rung 3 — Str, Uri, Ref, Symbol, XStr: every payload; any following text for Str, Uri and a Ref with display name,
a text that ends the token for the others (`RefEnd`, a byte outside the id alphabet, `Delim`) -/

/-- **rt_str**: every `s : List Char` (controls, quotes, backslash, `$`, astral planes), whatever follows -/
theorem rt_str (s : List Char) (sc : Scan) (rest : List UInt8) (fuel : Nat)
    (h : At sc (encQuoted s ++ rest)) (hf : (encQuoted s).length ≤ fuel) :
    ∃ sc', parseStr fuel sc = .ok (s, sc') ∧ At sc' rest := by
  obtain ⟨sc', e, h', _⟩ := parseStr_rt s sc rest fuel h hf
  exact ⟨sc', e, h'⟩

/-- **rt_uri**: every text — the writer escapes `` ` `` `\` and control characters, the reader undoes exactly
these (no hypothesis on the characters is needed in the model) -/
theorem rt_uri (s : List Char) (sc : Scan) (rest : List UInt8) (fuel : Nat)
    (h : At sc (encUri s ++ rest)) (hs : sc.stash = []) (hf : (encUri s).length ≤ fuel) :
    ∃ sc', parseUri fuel sc = .ok (s, sc') ∧ At sc' rest := by
  obtain ⟨sc', e, h', _⟩ := parseUri_rt s sc rest fuel h hs hf
  exact ⟨sc', e, h'⟩

/-- **rt_ref** without display name; `RefEnd rest`: nothing, a byte outside the id alphabet other than a
space, or a space followed by a byte other than `"` -/
theorem rt_ref_nodis (id : List Char) (hid : isRefId id = true) (sc : Scan) (rest : List UInt8) (fuel : Nat)
    (h : At sc (64 :: encChars id ++ rest)) (hs : sc.stash = []) (hend : RefEnd rest) (hf : id.length < fuel) :
    ∃ sc', parseRef fuel sc = .ok (.ref id none, sc') ∧ At sc' rest := by
  have hid := isRefId_parts hid
  obtain ⟨sc', e, h', _⟩ := parseRef_nodis id hid.2 hid.1 sc rest fuel h hs hend hf
  exact ⟨sc', e, h'⟩

/-- **rt_ref** with display name: any `dis`, any following text -/
theorem rt_ref_dis (id : List Char) (hid : isRefId id = true) (dis : List Char) (sc : Scan) (rest : List UInt8)
    (fuel : Nat) (h : At sc (64 :: encChars id ++ 32 :: encQuoted dis ++ rest)) (hs : sc.stash = [])
    (hf : id.length + (encQuoted dis).length < fuel) :
    ∃ sc', parseRef fuel sc = .ok (.ref id (some dis), sc') ∧ At sc' rest := by
  have hid := isRefId_parts hid
  obtain ⟨sc', e, h', _⟩ := parseRef_dis id hid.2 hid.1 dis sc rest fuel h hs hf
  exact ⟨sc', e, h'⟩

/-- **rt_symbol** -/
theorem rt_symbol (s : List Char) (hs : isSymBody s = true) (sc : Scan) (rest : List UInt8) (fuel : Nat)
    (h : At sc (94 :: encChars s ++ rest)) (hst : Stop isRefB rest) (hf : s.length < fuel) :
    ∃ sc', parseSymbol fuel sc = .ok (.sym s, sc') ∧ At sc' rest :=
  ⟨_, (parseSymbol_rt s hs sc rest fuel h hst hf).1, (parseSymbol_rt s hs sc rest fuel h hst hf).2⟩

/-- **rt_xstr** (lexer level): capitalised ASCII type other than the reserved `C`, any value text -/
theorem rt_xstr (ty : List Char) (hty : isXStrType ty = true) (v : List Char) (sc : Scan) (rest : List UInt8)
    (fuel : Nat) (h : At sc (enc (.xstr ty v) true ++ rest)) (hs : sc.stash = []) (hd : Delim rest)
    (hf : (enc (.xstr ty v) true).length + 3 ≤ fuel) :
    ∃ sc', lexRead fuel sc = .ok { sc := sc', tok := .val (.xstr ty v) } ∧ At sc' rest := by
  obtain ⟨sc', e, hp⟩ := (good_leaf (.xstr ty v) rfl hty nofun nofun).1.2 sc rest fuel h hs hd hf
  exact ⟨sc', by simpa [lexImg] using e, hp.1⟩

/-! ### rung 4 — numbers, dates, times, coordinates (lexer level, after any `Delim`) -/

/-- **rt_number**: finite number whose decimal text is accepted by `f64::from_str` and whose unit is a
symbol of the unit table (`finiteNumOk`); also NaN, INF, -INF (`numOk`) -/
theorem rt_number (n : Num) (hn : numOk n = true) (sc : Scan) (rest : List UInt8) (fuel : Nat)
    (h : At sc (encNum n ++ rest)) (hs : sc.stash = []) (hd : Delim rest) (hf : (encNum n).length + 3 ≤ fuel) :
    ∃ sc', lexRead fuel sc = .ok { sc := sc', tok := .val (.num (lexNum n)) } ∧ At sc' rest := by
  have he : enc (.num n) true = encNum n := by rw [enc]
  obtain ⟨sc', e, hp⟩ := (good_num n hn).1.2 sc rest fuel (by rw [he]; exact h) hs hd (by rw [he]; exact hf)
  refine ⟨sc', ?_, hp.1⟩
  rw [e, ← lexImage_eq]; rfl

theorem rt_date (d : Date) (hd' : dateOk d = true) (sc : Scan) (rest : List UInt8) (fuel : Nat)
    (h : At sc (encChars d.txt ++ rest)) (hs : sc.stash = []) (hd : Delim rest) (hf : 2 ≤ fuel) :
    ∃ sc', lexRead fuel sc = .ok { sc := sc', tok := .val (.date d) } ∧ At sc' rest := by
  obtain ⟨sc', e, h', _⟩ := lexRead_date_of_stop d hd' sc rest fuel h hs (hd.stop (by decide)) hf
  exact ⟨sc', e, h'⟩

theorem rt_time (t : Time) (ht : timeOk t = true) (sc : Scan) (rest : List UInt8) (fuel : Nat)
    (h : At sc (encChars t.txt ++ rest)) (hs : sc.stash = []) (hd : Delim rest) (hf : t.txt.length + 2 ≤ fuel) :
    ∃ sc', lexRead fuel sc = .ok { sc := sc', tok := .val (.time t) } ∧ At sc' rest := by
  obtain ⟨sc', e, h', _⟩ := lexRead_time t ht sc rest fuel h hs hd hf
  exact ⟨sc', e, h'⟩

/-- **rt_datetime**: a timestamp token — date, `T`, time, optional fraction, `Z` / `Z Name` / `±hh:mm Name` with
valid calendar fields and a zone name the zone table resolves (`dtOk`) — comes back as its token text -/
theorem rt_datetime (t : DateTime) (ht : dtOk t = true) (sc : Scan) (rest : List UInt8) (fuel : Nat)
    (h : At sc (encDateTime t ++ rest)) (hs : sc.stash = []) (hd : Delim rest)
    (hf : (encDateTime t).length + 3 ≤ fuel) :
    ∃ sc', lexRead fuel sc = .ok { sc := sc', tok := .val (lexImage (.dateTime t)) } ∧ At sc' rest := by
  have he : enc (.dateTime t) true = encDateTime t := by rw [enc]
  obtain ⟨sc', e, hp⟩ := (good_leaf (.dateTime t) rfl ht nofun nofun).1.2 sc rest fuel (by rw [he]; exact h) hs hd (by rw [he]; exact hf)
  exact ⟨sc', by rw [lexImage_eq]; exact e, hp.1⟩

theorem rt_coord (a b : Flt) (ha : decTextOk a.txt = true) (hb : decTextOk b.txt = true) (sc : Scan)
    (rest : List UInt8) (fuel : Nat) (h : At sc (enc (.coord a b) true ++ rest)) (hs : sc.stash = [])
    (hd : Delim rest) (hf : (enc (.coord a b) true).length + 3 ≤ fuel) :
    ∃ sc', lexRead fuel sc = .ok { sc := sc', tok := .val (lexImage (.coord a b)) } ∧ At sc' rest := by
  obtain ⟨sc', e, hp⟩ := (tok_coord a b ha hb).2 sc rest fuel h hs hd hf
  exact ⟨sc', by rw [lexImage_eq]; exact e, hp.1⟩

/-! ### rung 5 — composites, by mutual induction on `Val` -/

/-- **rt_list**: a list frames when its elements do -/
theorem rt_list (xs : Vals) (h : GoodVs xs) : RdVal (.list xs) := rdV (.list xs) h

/-- **rt_dict**: identifier keys in strictly ascending order (`dictOf` rebuilds the same `Tags`) -/
theorem rt_dict (d : Tags) (hk : keysIdent d = true) (hs : keysSorted d.keys = true) (h : GoodT d) :
    RdVal (.dict d) := rdV (.dict d) ⟨hk, hs, h⟩

/-- **rt_grid** (nested `<< … >>`): header with meta, columns with meta, rows with Null and missing cells,
zero rows, nested grids in cells -/
theorem rt_grid (md : OTags) (cols : Cols) (rows : Rows) (ver : List Char)
    (h : GoodV (.grid md cols rows ver)) : RdVal (.grid md cols rows ver) := rdV _ h

/-! ### the property for the model -/

/-- **C01 for the model, for the explicit decidable well-formedness predicate `wfV`** (defined in
`Hs/Lemmas/ZincWf.lean`), all 18 kinds, any nesting below the reader's limit:

* tag, column, dict-key names are identifiers (`isIdent`); dict / meta / row keys strictly ascending
  (`keysSorted`: the `BTreeMap` order — `dictOf` rebuilds the same `Tags`);
* Ref ids non-empty over the id alphabet (`isRefId`), any display name; Symbol bodies `isSymBody`;
  XStr types capitalised ASCII names other than the reserved `C` (`isXStrType`), any XStr value, any Str, any Uri;
* numbers: NaN, ±INF, or a finite number whose text is a decimal `f64::from_str` accepts and whose unit is a
  symbol of the unit table made of unit characters (`numOk`); coordinates with decimal components;
* dates, times, timestamps whose texts chrono accepts and whose fields are what the text says (`dateOk`,
  `timeOk`, `dtOk`: zone name resolvable through the zone table);
* grids: `ver` = "3.0", at least one column, distinct identifier column names, meta dicts absent or non-empty,
  row keys among the column names, a single-column grid has no missing cell (`metaShape`, `colsShape`,
  `rowsShape`); grid meta, column meta (first, middle, last column), Null cells, missing cells, zero rows and
  nested grids are all covered;
* nesting at most 63 deep (`depthOk`): the reader rejects anything deeper (`MAX_NESTING_DEPTH = 64`).

Relative to the property's text the residual hypotheses are therefore: the nesting bound (the property says
"at any nesting depth", the repaired reader refuses depth ≥ 64), `ver` = "3.0" (the writer always prints 3.0),
grid/column meta not `Some(empty dict)` (written like `None`, read back as `None`), the single-column missing
cell (known finding Z4), and the XStr type `C`.  Numbers and timestamps are compared lexically (`lexImage`):
`parse (fmt x) = x` for `f64` and chrono's text round trip are trusted-base assumptions validated by the
harness. -/
theorem C01_wf : C01_full (fun v => wfV v = true ∧ depthOk v = true) := by
  intro v h
  rw [lexImage_eq]
  exact rt_of_wf v h.1 h.2

/-! ### the residual hypotheses of `wfV` / `depthOk` cannot be dropped (model of the code as it is) -/

def deepList : Nat → Val
  | 0 => .list .nil
  | n + 1 => .list (.cons (deepList n) .nil)

/-- 63 levels of nesting round-trip (by `C01_wf`), … -/
theorem deep63_ok : fromBytes (encode (deepList 63)) = .ok (lexImage (deepList 63)) :=
  C01_wf _ (by decide +kernel)
/-- … the 64th does not: the reader's `MAX_NESTING_DEPTH` makes the property's "at any nesting depth" false -/
theorem C01_cex_depth : (fromBytes (encode (deepList 64))).isOk = false := by decide +kernel

/-- the writer always prints `ver:"3.0"`: another version string does not come back -/
theorem C01_cex_ver :
    isOk (fromBytes (encode (.grid .none (.cons ['a'] .none .nil) .nil ['2', '.', '0'])))
      (fun v => match v with | .grid _ _ _ ver => ver == ['3', '.', '0'] | _ => false) = true := by decide +kernel

/-- grid meta `Some(empty dict)` is written like `None` and read back as `None` -/
theorem C01_cex_empty_meta :
    isOk (fromBytes (encode (.grid (.some .nil) (.cons ['a'] .none .nil) .nil ['3', '.', '0'])))
      (fun v => match v with | .grid .none _ _ _ => true | _ => false) = true := by decide +kernel

/-- known finding Z4: in a single-column grid a missing cell is written `N` and comes back as a Null cell -/
theorem C01_cex_single_missing :
    isOk (fromBytes (encode (.grid .none (.cons ['a'] .none .nil) (.cons .nil .nil) ['3', '.', '0'])))
      (fun v => match v with | .grid _ _ (.cons (.cons _ .null .nil) .nil) _ => true | _ => false) = true := by
  decide +kernel

/-- the XStr type `C` is the Coord literal of the grammar -/
theorem C01_cex_xstr_C : (fromBytes (encode (.xstr ['C'] ['x']))).isOk = false := by decide +kernel

/-! ### the hypotheses are satisfiable: concrete non-trivial inputs -/

section examples

/-- Str: controls, quote, backslash, `$`, BMP and astral characters -/
example : ∃ sc', parseStr 100 (Scan.make (encQuoted "a\t\"\\$\x01é€😀".toList ++ [44, 49])) =
    .ok ("a\t\"\\$\x01é€😀".toList, sc') ∧ At sc' [44, 49] :=
  rt_str _ _ _ _ (scan_make_at _) (by decide +kernel)

/-- Uri with a control character, a backquote, a backslash and non-ASCII text -/
example : ∃ sc', parseUri 100 (Scan.make (encUri "http://x/`a\\b\n é😀".toList ++ [93])) =
    .ok ("http://x/`a\\b\n é😀".toList, sc') ∧ At sc' [93] :=
  rt_uri _ _ _ _ (scan_make_at _) (by decide +kernel) (by decide +kernel)

example : isRefId "p:demo:r:2a.b-c~d_E".toList = true := by decide
/-- a Ref followed by a space and a tag name (grid meta): `RefEnd` -/
example : RefEnd [32, 97, 58] := Or.inr (Or.inr ⟨97, [58], rfl, by decide⟩)
example : isSymBody "lib:ph.a-b".toList = true := by decide
example : Stop isRefB [44] := Stop_cons (by decide)
example : isXStrType "Bin".toList = true := by decide
example : Delim [32, 100, 105, 115] := Or.inr (Or.inr ⟨100, [105, 115], rfl, by decide⟩)
example : Delim [10, 62, 62] := Or.inr (Or.inl ⟨10, [62, 62], rfl, by decide⟩)

/-- The table look-ups of the units of all samples (those below, `exNum`, and `kW` of the samples of C04 and C11) in
ONE evaluation: each look-up compares the symbol with the table's ids from the top, and the kernel turns an id of the
table into bytes once for the five. -/
theorem unitOk_table :
    unitOk (some "°F".toList) = true ∧ unitOk (some "EER".toList) = true ∧ unitOk (some "kW/m²".toList) = true ∧
    unitOk (some "kW".toList) = true ∧ unitOk (some "°C".toList) = true := by
  decide +kernel
theorem unitOk_samples :
    unitOk (some "°F".toList) = true ∧ unitOk (some "EER".toList) = true ∧ unitOk (some "kW/m²".toList) = true :=
  ⟨unitOk_table.1, unitOk_table.2.1, unitOk_table.2.2.1⟩
/-- numbers: negative fraction with a non-ASCII unit of the table, a unit starting with `E`, a plain
integer, NaN and both infinities -/
example : numOk ⟨⟨0, "-12.5".toList⟩, some "°F".toList⟩ = true := by
  simp only [numOk, finiteNumOk, unitOk_samples.1, Bool.and_true]; decide +kernel
example : numOk ⟨⟨0, "100000000000000000000".toList⟩, some "EER".toList⟩ = true := by
  simp only [numOk, finiteNumOk, unitOk_samples.2.1, Bool.and_true]; decide +kernel
example : numOk ⟨⟨0, "0.000001".toList⟩, some "kW/m²".toList⟩ = true := by
  simp only [numOk, finiteNumOk, unitOk_samples.2.2, Bool.and_true]; decide +kernel
example : numOk ⟨⟨0, "42".toList⟩, none⟩ = true := by decide +kernel
example : numOk ⟨⟨nanBits, "NaN".toList⟩, none⟩ = true := by decide +kernel
example : numOk ⟨⟨negInfBits, "-inf".toList⟩, none⟩ = true := by decide +kernel

example : dateOk ⟨2024, 2, 29, "2024-02-29".toList⟩ = true := by decide +kernel
example : timeOk ⟨1, 2, 3, 500000000, "01:02:03.500".toList⟩ = true := by decide +kernel
/-- a leap second -/
example : timeOk ⟨23, 59, 59, 1000000000, "23:59:60".toList⟩ = true := by decide +kernel
example : decTextOk "-33.8688".toList = true ∧ decTextOk "151.2093".toList = true := by decide +kernel
/-- timestamps: UTC, an offset zone with a fraction, a zone with offset zero, an `Etc/GMT-3` style name -/
theorem dtOk_utc : dtOk ⟨0, 0, 0, "UTC".toList, "UTC".toList, "2024-02-29T12:34:56Z".toList⟩ = true := by decide +kernel
example : dtOk ⟨0, 0, 0, "UTC".toList, "UTC".toList, "2024-02-29T12:34:56Z".toList⟩ = true := dtOk_utc
/-- The three samples whose zone name is looked up in the zone table, checked in ONE evaluation: each look-up
compares the name with the table's names from the top, and the kernel turns a name of the table into bytes once for
the three.  (The characters are put in the place of the literals first: evaluating `"…".toList` has the kernel encode
the literal to UTF-8 and decode it again.) -/
theorem dtOk_samples :
    dtOk ⟨0, 0, -18000, "New_York".toList, "America/New_York".toList, "2024-02-29T12:34:56.789-05:00".toList⟩ = true ∧
    dtOk ⟨0, 0, 0, "London".toList, "Europe/London".toList, "2024-01-01T00:00:00Z".toList⟩ = true ∧
    dtOk ⟨0, 0, 10800, "GMT-3".toList, "Etc/GMT-3".toList, "2024-01-01T00:00:00.123456789+03:00".toList⟩ = true := by
  repeat rw [String.toList_ofList]
  decide +kernel
theorem dtOk_newYork : dtOk ⟨0, 0, -18000, "New_York".toList, "America/New_York".toList,
    "2024-02-29T12:34:56.789-05:00".toList⟩ = true := dtOk_samples.1
example : dtOk ⟨0, 0, -18000, "New_York".toList, "America/New_York".toList,
    "2024-02-29T12:34:56.789-05:00".toList⟩ = true := dtOk_newYork
theorem dtOk_london : dtOk ⟨0, 0, 0, "London".toList, "Europe/London".toList, "2024-01-01T00:00:00Z".toList⟩ = true :=
  dtOk_samples.2.1
example : dtOk ⟨0, 0, 0, "London".toList, "Europe/London".toList, "2024-01-01T00:00:00Z".toList⟩ = true := dtOk_london
theorem dtOk_gmt3 : dtOk ⟨0, 0, 10800, "GMT-3".toList, "Etc/GMT-3".toList, "2024-01-01T00:00:00.123456789+03:00".toList⟩ = true :=
  dtOk_samples.2.2
example : dtOk ⟨0, 0, 10800, "GMT-3".toList, "Etc/GMT-3".toList, "2024-01-01T00:00:00.123456789+03:00".toList⟩ = true := dtOk_gmt3

def exNum : Val := .num ⟨⟨0, "21.5".toList⟩, some "°C".toList⟩
def exRow1 : Tags := .cons "id".toList (.ref "a-1".toList (some "Room \"1\"".toList))
  (.cons "temp".toList exNum (.cons "ts".toList (.date ⟨2024, 2, 29, "2024-02-29".toList⟩) .nil))
def exRow2 : Tags := .cons "temp".toList .null (.cons "ts".toList
  (.dateTime ⟨0, 0, -18000, "New_York".toList, "America/New_York".toList, "2024-02-29T12:34:56.789-05:00".toList⟩) .nil)
def exRow3 : Tags := .nil
def exInner : Val :=
  .grid .none (.cons "id".toList .none (.cons "temp".toList .none (.cons "ts".toList .none .nil)))
    (.cons exRow1 (.cons exRow2 (.cons exRow3 .nil))) "3.0".toList
/-- a grid with meta (Marker, Str, Ref followed by the next tag), column meta on the first and the last
column, a nested grid and a list of dicts in cells, Null and missing cells -/
def exGrid : Val :=
  .grid (.some (.cons "dis".toList (.str "Site é".toList) (.cons "hisRef".toList (.ref "h".toList none)
      (.cons "m".toList .marker .nil))))
    (.cons "a".toList (.some (.cons "dis".toList (.str "A".toList) (.cons "unitRef".toList (.ref "u".toList none) .nil)))
      (.cons "b".toList .none (.cons "c".toList (.some (.cons "x".toList .marker .nil)) .nil)))
    (.cons (.cons "a".toList exInner (.cons "c".toList
        (.list (.cons (.dict (.cons "k".toList (.uri "http://x/`".toList) (.cons "t".toList
          (.time ⟨1, 2, 3, 0, "01:02:03".toList⟩) .nil))) (.cons (.coord ⟨0, "-1.5".toList⟩ ⟨0, "3".toList⟩)
          (.cons (.xstr "Bin".toList "a\"b".toList) (.cons (.sym "ph-lib".toList) .nil))))) .nil))
      (.cons (.cons "b".toList .na .nil) (.cons .nil .nil)))
    "3.0".toList
def exZeroRows : Val := .grid .none (.cons "only".toList .none .nil) .nil "3.0".toList

/-! well-formedness of the examples, assembled from that of their parts (each evaluated once) -/

theorem exNum_wf : wfV exNum = true := by
  simp only [exNum, wfV, numOk, finiteNumOk, unitOk_table.2.2.2.2, Bool.and_true]; decide +kernel
theorem exRow1_wf : wfT exRow1 = true := by
  simp only [exRow1, wfT, exNum_wf]; decide +kernel
theorem exRow2_wf : wfT exRow2 = true := by
  simp only [exRow2, wfT, wfV, dtOk_newYork]; rfl
theorem exInner_wf : wfV exInner = true := by
  simp only [exInner, wfV, wfR, exRow1_wf, exRow2_wf]; decide +kernel
theorem exGrid_wf : wfV exGrid = true ∧ depthOk exGrid = true := by
  simp only [exGrid, wfV, wfR, wfT, exInner_wf]; decide +kernel

example : wfV exGrid = true ∧ depthOk exGrid = true := exGrid_wf
example : wfV exZeroRows = true ∧ depthOk exZeroRows = true := by decide +kernel
example : GoodV exInner := good_of_wf _ exInner_wf
example : GoodVs (.cons exNum (.cons exInner .nil)) :=
  goods_of_wf _ (by simp only [wfVs, exNum_wf, exInner_wf]; rfl)
example : keysIdent exRow1 = true ∧ keysSorted exRow1.keys = true ∧ GoodT exRow1 :=
  ⟨by decide, by decide, goodt_of_wf _ exRow1_wf⟩

/-- the round trip of the example grids, through `C01_wf` -/
example : fromBytes (encode exGrid) = .ok (lexImage exGrid) := C01_wf exGrid exGrid_wf
example : fromBytes (encode exZeroRows) = .ok (lexImage exZeroRows) := C01_wf exZeroRows (by decide +kernel)

end examples

end Hs.C01

/-
  Hs.Lemmas.CmpChars — `cmpChars` (Rust `String: Ord` as an `Ordering`) is the three-way form of core's order on names
  (`Key.cmp_iff` of `Hs.Lemmas.KeyOrder`); what it, `cmpOpt cmpChars` and `cmpList cmpChars` call `Equal` is equality.
  Below the order ladder of C12 (`CmpOrd` …) and below `Kinds`, whose sorted union is ordered by `cmpChars`.
-/
import Hs.Model.Cmp
import Hs.Lemmas.KeyOrder
namespace Hs

theorem cmpChars_iff (a b : List Char) :
    (cmpChars a b = .lt ↔ a < b) ∧ (cmpChars a b = .eq ↔ a = b) ∧ (cmpChars a b = .gt ↔ b < a) :=
  Key.cmp_iff (by rw [cmpChars]) (fun _ _ => by rw [cmpChars]) (fun _ _ => by rw [cmpChars])
    (fun _ _ _ _ => by rw [cmpChars]) a b

theorem cmpChars_eq_iff (a b : List Char) : cmpChars a b = .eq ↔ a = b := (cmpChars_iff a b).2.1

theorem cmpOptChars_eq_iff (a b : Option (List Char)) : cmpOpt cmpChars a b = .eq ↔ a = b := by
  cases a <;> cases b <;> simp [cmpOpt, cmpChars_eq_iff]

theorem cmpKeys_eq_iff : ∀ a b : List (List Char), cmpList cmpChars a b = .eq ↔ a = b
  | [], [] => by simp [cmpList]
  | [], _ :: _ => by simp [cmpList]
  | _ :: _, [] => by simp [cmpList]
  | a :: as, b :: bs => by
    simp only [cmpList, Ordering.then_eq_eq, cmpChars_eq_iff, cmpKeys_eq_iff as bs, List.cons.injEq]

end Hs

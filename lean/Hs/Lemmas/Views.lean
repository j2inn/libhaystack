/-
  The hand-rolled list types of `Hs.Model.Val` (`Vals`, `Tags`, `Cols`, `Rows`; hand-rolled so that `Val` stays plainly
  mutual) against their `List` views; the entries of a `Tags` as an association list of `Hs.Lemmas.KeyMap`.
-/
import Hs.Model.Val
import Hs.Lemmas.KeyMap
namespace Hs

theorem Vals.ofList_toList : ∀ xs : Vals, Vals.ofList xs.toList = xs
  | .nil => rfl
  | .cons v vs => by rw [Vals.toList, Vals.ofList, Vals.ofList_toList vs]
theorem Vals.toList_ofList : ∀ l : List Val, (Vals.ofList l).toList = l
  | [] => rfl
  | v :: l => by rw [Vals.ofList, Vals.toList, Vals.toList_ofList l]
theorem Vals.length_toList : ∀ xs : Vals, xs.toList.length = xs.length
  | .nil => rfl
  | .cons _ vs => by rw [Vals.toList, List.length_cons, Vals.length_toList vs, Vals.length]

theorem Tags.ofList_toList : ∀ t : Tags, Tags.ofList t.toList = t
  | .nil => rfl
  | .cons k v t => by rw [Tags.toList, Tags.ofList, Tags.ofList_toList t]
theorem Tags.toList_ofList : ∀ l : List (List Char × Val), (Tags.ofList l).toList = l
  | [] => rfl
  | (k, v) :: l => by rw [Tags.ofList, Tags.toList, Tags.toList_ofList l]
theorem Tags.keys_eq : ∀ t : Tags, t.keys = t.toList.map (·.1)
  | .nil => rfl
  | .cons k v t => by rw [Tags.keys, Tags.toList, List.map_cons, Tags.keys_eq t]
theorem Tags.length_keys : ∀ t : Tags, t.keys.length = t.length
  | .nil => rfl
  | .cons _ _ t => by rw [Tags.keys, List.length_cons, Tags.length_keys t, Tags.length]
theorem Tags.get?_eq : ∀ (t : Tags) (k : List Char), t.get? k = Key.find t.toList k
  | .nil, _ => rfl
  | .cons k' v t, k => by
    rw [Tags.get?, Tags.toList, Key.find_cons, Tags.get?_eq t k]
    by_cases e : k' = k <;> simp [e]
theorem Tags.sorted_toList {t : Tags} : Key.Sorted t.toList ↔ Key.Asc t.keys := by
  rw [Key.sorted_iff_keys, Tags.keys_eq]

theorem Cols.ofList_toList : ∀ c : Cols, Cols.ofList c.toList = c
  | .nil => rfl
  | .cons n md c => by rw [Cols.toList, Cols.ofList, Cols.ofList_toList c]
theorem Cols.toList_ofList : ∀ l : List (List Char × OTags), (Cols.ofList l).toList = l
  | [] => rfl
  | (n, md) :: l => by rw [Cols.ofList, Cols.toList, Cols.toList_ofList l]
theorem Cols.names_eq : ∀ c : Cols, c.names = c.toList.map (·.1)
  | .nil => rfl
  | .cons n md c => by rw [Cols.names, Cols.toList, List.map_cons, Cols.names_eq c]

theorem Cols.names_ofList : ∀ l : List (List Char × OTags), (Cols.ofList l).names = l.map (·.1)
  | [] => rfl
  | (n, md) :: l => by rw [Cols.ofList, Cols.names, List.map_cons, Cols.names_ofList l]

theorem Rows.ofList_toList : ∀ r : Rows, Rows.ofList r.toList = r
  | .nil => rfl
  | .cons r rs => by rw [Rows.toList, Rows.ofList, Rows.ofList_toList rs]
theorem Rows.toList_ofList : ∀ l : List Tags, (Rows.ofList l).toList = l
  | [] => rfl
  | r :: l => by rw [Rows.ofList, Rows.toList, Rows.toList_ofList l]
theorem Rows.length_ofList : ∀ l : List Tags, (Rows.ofList l).length = l.length
  | [] => rfl
  | _ :: l => by rw [Rows.ofList, Rows.length, Rows.length_ofList l, List.length_cons]

end Hs

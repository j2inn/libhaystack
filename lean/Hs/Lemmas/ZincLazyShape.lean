/-
  C11 (lazy rows): the shape of one `RowIterator::next` call on ARBITRARY input.
  Whenever `rowNext` hands out a row, the row was completed by its newline token, and everything the call reads
  after that newline is done by the final `consume_end`: skip white space, read ONE token, and one more token
  exactly when that token is `>` inside a nested grid (`>>`).
-/
import Hs.Lemmas.ZincTotalParse
namespace Hs.Zinc
open Hs Hs.Scan

theorem rowNext_shape (f d : Nat) (r : RowState) (cols : List (List Char)) (row : Tags) (r3 : RowState)
    (h : rowNext (f + 1) d r cols = .ok (some row, r3)) :
    ∃ (r1 : RowState) (kvs : List (List Char × Val)) (p2 : PS),
      consumeEnd f r = .ok r1 ∧ rowLoop f d r1.p cols 0 [] = .ok (kvs, p2) ∧ p2.isChar 10 = true ∧
      row = dictOf kvs ∧ consumeEnd f { r1 with p := p2 } = .ok r3 := by
  revert h
  rw [rowNext]
  split
  · nofun
  refine Res.ok_elim (r := consumeEnd f r) (fun r1 h1 => ?_) nofun nofun nofun nofun
  dsimp only
  split
  · nofun
  refine Res.ok_elim (r := rowLoop f d r1.p cols 0 []) (fun ⟨kvs, p2⟩ h3 => ?_) nofun nofun nofun nofun
  dsimp only
  refine Res.ok_elim (r := consumeEnd f { r1 with p := p2 }) (fun r3' h4 => ?_) nofun nofun nofun nofun
  intro h
  cases h
  exact ⟨r1, kvs, p2, rfl, h3, ((rowLoop_spec f d r1.p cols 0 []).post h3).2, rfl, h4⟩

theorem consumeEnd_reads (f : Nat) (r r3 : RowState) (h10 : r.p.isChar 10 = true)
    (h : consumeEnd (f + 1) r = .ok r3) :
    ∃ sc', consumeWhiteSpaces (f + 1) r.p.sc = .ok sc' ∧
      ((sc'.eof = true ∧ r3.p = { r.p with sc := sc' }) ∨
       (sc'.eof = false ∧ ∃ p1, lexRead f sc' = .ok p1 ∧
          (r3.p = p1 ∨
           (r.nestedStart = true ∧ PS.isChar p1 62 = true ∧ lexRead f p1.sc = .ok r3.p ∧ r3.nestedEnd = true)))) := by
  revert h
  rw [consumeEnd]
  simp only [h10, if_true]
  refine Res.ok_elim (r := consumeWhiteSpaces (f + 1) r.p.sc) (fun sc' hw => ?_) nofun nofun nofun nofun
  dsimp only
  intro h
  refine ⟨sc', rfl, ?_⟩
  cases he : sc'.eof with
  | true =>
    -- nothing is read: the newline token stays in hand, and it is not `>`
    have h62 : PS.isChar { r.p with sc := sc' } 62 = false :=
      Bool.eq_false_iff.mpr (fun h => absurd (PS.isChar_unique (p := { r.p with sc := sc' }) h10 h) (by decide))
    simp only [PS.isEof, he, Bool.not_true, Bool.false_eq_true, if_false, h62, Bool.and_false, Res.ok.injEq] at h
    exact Or.inl ⟨rfl, by rw [← h]⟩
  | false =>
    simp only [PS.isEof, he, Bool.not_false, if_true, PS.read] at h
    revert h
    refine Res.ok_elim (r := lexRead f sc') (fun p1 h1 => ?_) nofun nofun nofun nofun
    dsimp only
    intro h
    refine Or.inr ⟨rfl, p1, rfl, ?_⟩
    revert h
    split
    · next hc =>
      simp only [Bool.and_eq_true] at hc
      refine Res.ok_elim (r := lexRead f p1.sc) (fun p2 h2 => ?_) nofun nofun nofun nofun
      dsimp only
      split
      · intro h; cases h; exact Or.inr ⟨hc.1, hc.2, rfl, rfl⟩
      · nofun
    · intro h; cases h; exact Or.inl rfl

end Hs.Zinc

/-
  The scalar leaves of both ladders (`wfS`, C01's `wfV` with lexical numerals of any legal shape, is in `ZincWf`).
  `leaf_of_spells`: every sentence of a well-formed scalar is one token, read to the lexical image of the value before
  any text that may follow a value in a sentence.  The writer's text of a scalar other than a finite number or a
  coordinate is a sentence (`spells_leaf` in `ZincEncForm`), and what follows a value in writer output may follow one in a sentence
  (`Delim.toW`): so C01's token statements (`TokRt`, `FirstOk`) are the special case `leaf_good`.
-/
import Hs.Lemmas.ZincSpellNumber
import Hs.Lemmas.ZincSpellTokTime
namespace Hs.Zinc
open Hs Hs.Scan Hs.Spell

/-! ### every sentence of a scalar -/

theorem firstW_upper {cs : List Char} (h : isUpperName cs = true) (x : List UInt8) : FirstW (encChars cs ++ x) := by
  obtain ⟨b, r, e, hb⟩ := isUpperName_head h
  rw [e]
  exact FirstW.of_head (P := isUpperB) (by decide) hb _

theorem leaf_of_spells : ∀ (v : Val) (bs : List UInt8), Scalar v = true → wfS v = true → Spells v bs →
    TokW bs (lexImg v) ∧ FirstW bs
  | v, bs, hsc, hwf, h => by
    -- the literal kinds `N M R NA T F`: `cs` is the keyword
    have kw : ∀ (cs : List Char), isUpperName cs = true → ∀ {v : Val}, keyword cs = some (lexImg v) →
        TokW (encChars cs) (lexImg v) ∧ FirstW (encChars cs) :=
      fun cs hcs _ hk => ⟨tokW_kw cs hcs _ hk, by simpa using firstW_upper hcs []⟩
    cases h with
    | null => exact kw ['N'] (by decide) rfl
    | marker => exact kw ['M'] (by decide) rfl
    | remove => exact kw ['R'] (by decide) rfl
    | na => exact kw ['N', 'A'] (by decide) rfl
    | true_ => exact kw ['T'] (by decide) rfl
    | false_ => exact kw ['F'] (by decide) rfl
    | num n _ h => exact ⟨tokW_num n bs h hwf, firstW_num n bs h⟩
    | str s _ h =>
      obtain ⟨t, e⟩ := quoted_shape h
      exact ⟨tokW_str s bs h, by rw [e]; exact firstW_cons _ _ (by decide)⟩
    | uri s body h => exact ⟨tokW_uri s body h, firstW_cons _ _ (by decide)⟩
    | ref id => exact ⟨tokW_ref id hwf, firstW_cons _ _ (by decide)⟩
    | refDis id dis q h => exact ⟨tokW_refDis id dis hwf q h, firstW_cons _ _ (by decide)⟩
    | sym s => exact ⟨tokW_sym s hwf, firstW_cons _ _ (by decide)⟩
    | date d => exact ⟨tokW_date d hwf, firstW_date d hwf⟩
    | time t _ h => exact ⟨tokW_time t hwf bs h, firstW_time t hwf bs h⟩
    | dateTime t => rw [encDateTime_sp]; exact ⟨tokW_datetime t hwf, firstW_datetime t hwf⟩
    | coord a b la las lo los w1 w2 w3 w4 ha hb hta htb h1 h2 h3 h4 =>
      have := tokW_coord la las lo los w1 w2 w3 w4 ha hb h1 h2 h3 h4
      simp only [lexImg, hta, htb]
      exact ⟨this, firstW_cons _ _ (by decide)⟩
    | xstr ty v q w1 w2 h h1 h2 => exact ⟨tokW_xstr ty v hwf q w1 w2 h h1 h2, firstW_upper (and_true_left hwf) _⟩
    | list => cases hsc
    | dict => cases hsc
    | grid => cases hsc

/-! ### the writer's text of a scalar -/

theorem TokRt.of_W {v : Val} (hsc : Scalar v = true) (h : TokW (enc v true) (lexImg v)) : TokRt v :=
  ⟨hsc, fun s rest fuel hat hs hd hf => h s rest fuel hat hs hd.toW hf⟩

theorem leaf_good (v : Val) (hsc : Scalar v = true) (hwf : wfS v = true) (h : Spells v (enc v true)) :
    TokRt v ∧ FirstOk (enc v true) :=
  ⟨TokRt.of_W hsc (leaf_of_spells v _ hsc hwf h).1, (leaf_of_spells v _ hsc hwf h).2.ok⟩

end Hs.Zinc

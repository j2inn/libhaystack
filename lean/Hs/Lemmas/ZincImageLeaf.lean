/-
  C11, decoder image invariant: what the lexer's tokens carry (`tokInv`), and the lexemes of the scalar kinds with a
  lexical leaf.  The ten bytes `dddd-dd-dd` with the calendar fields chrono makes of them are a date C01's round trip
  covers (`dateOk`); a decimal text `f64::from_str` accepts, over digits `.` `-`, is a coordinate component it covers
  (`decTextOk`); every Number the reader builds is in its normal form.  So Date and Coord need no hypothesis in C11.
  The readers that produce these lexemes are walked in `ZincTotalLex`.
-/
import Hs.Lemmas.ZincImageIds
import Hs.Lemmas.ZincImageBase
namespace Hs.Zinc
open Hs Hs.Scan

/-- what the parser may rely on for the token under the cursor -/
def tokInv : Tok → Prop
  | .id i => isIdent i = true
  | .val v => Scalar v = true ∧ decV v = true
  | .ch _ => True
  | .none => True

theorem isNum_ref (b : UInt8) (h : isNumB b = true) : isRefB b = true := by
  simp only [isNumB, Bool.or_eq_true] at h
  simp only [isRefB, isAlnumB, isRefPunct, Bool.or_eq_true]
  rcases h with (h | h) | h
  · exact Or.inl (Or.inl (Or.inl h))
  · exact Or.inr (Or.inl (Or.inr h))
  · exact Or.inr (Or.inl (Or.inl (Or.inr h)))

theorem isNumB_ascii (b : UInt8) (h : isNumB b = true) : b.toNat < 128 := isRefB_ascii b (isNum_ref b h)

theorem isDigitB_ascii (b : UInt8) (h : isDigitB b = true) : b.toNat < 128 :=
  isNumB_ascii b (by simp [isNumB, h])

/-! ### Date -/

def Digits (n : Nat) (acc out : List UInt8) : Prop :=
  ∃ ds, out = acc ++ ds ∧ ds.length = n ∧ ∀ b ∈ ds, isDigitB b = true

theorem Digits.cons {n : Nat} {acc out : List UInt8} {b : UInt8} (hb : isDigitB b = true)
    (h : Digits n (acc ++ [b]) out) : Digits (n + 1) acc out := by
  obtain ⟨ds, e, hl, hd⟩ := h
  exact ⟨b :: ds, by rw [e]; simp, by simp [hl], fun x hm => (List.mem_cons.mp hm).elim (fun e => e ▸ hb) (hd x)⟩

theorem len4 {α} (l : List α) (h : l.length = 4) : ∃ a b c d, l = [a, b, c, d] := by
  match l, h with
  | [a, b, c, d], _ => exact ⟨a, b, c, d, rfl⟩
theorem len2 {α} (l : List α) (h : l.length = 2) : ∃ a b, l = [a, b] := by
  match l, h with
  | [a, b], _ => exact ⟨a, b, rfl⟩

/-- the text `parse_date` hands to chrono -/
def DateRaw (raw : List UInt8) : Prop :=
  ∃ y0 y1 y2 y3 m0 m1 d0 d1, raw = [y0, y1, y2, y3, 45, m0, m1, 45, d0, d1] ∧
    isDigitB y0 = true ∧ isDigitB y1 = true ∧ isDigitB y2 = true ∧ isDigitB y3 = true ∧ isDigitB m0 = true ∧
    isDigitB m1 = true ∧ isDigitB d0 = true ∧ isDigitB d1 = true

theorem DateRaw.of_digits {y m d : List UInt8} (hy : Digits 4 [] y) (hm : Digits 2 [] m) (hd : Digits 2 [] d) :
    DateRaw (y ++ [45] ++ m ++ [45] ++ d) := by
  obtain ⟨ys, ey, ly, hys⟩ := hy
  obtain ⟨ms, em, lm, hms⟩ := hm
  obtain ⟨ds, ed, ld, hds⟩ := hd
  obtain ⟨y0, y1, y2, y3, rfl⟩ := len4 ys ly
  obtain ⟨m0, m1, rfl⟩ := len2 ms lm
  obtain ⟨d0, d1, rfl⟩ := len2 ds ld
  simp only [List.nil_append] at ey em ed
  subst ey em ed
  exact ⟨y0, y1, y2, y3, m0, m1, d0, d1, rfl, hys y0 (by simp), hys y1 (by simp), hys y2 (by simp), hys y3 (by simp),
    hms m0 (by simp), hms m1 (by simp), hds d0 (by simp), hds d1 (by simp)⟩

theorem mkDate_txt {raw : List UInt8} {d : Date} (h : mkDate raw = some d) : d.txt = asciiChars raw := by
  unfold mkDate at h
  simp only [] at h
  split at h
  · cases h; rfl
  · cases h

theorem DateRaw.dateOk {raw : List UInt8} {d : Date} (hr : DateRaw raw) (hmk : mkDate raw = some d) :
    dateOk d = true := by
  obtain ⟨y0, y1, y2, y3, m0, m1, d0, d1, rfl, h0, h1, h2, h3, h4, h5, h6, h7⟩ := hr
  have hasc : ∀ b ∈ [y0, y1, y2, y3, 45, m0, m1, 45, d0, d1], b.toNat < 128 := by
    simp only [List.forall_mem_cons, List.not_mem_nil, false_imp_iff, implies_true, and_true]
    exact ⟨isDigitB_ascii _ h0, isDigitB_ascii _ h1, isDigitB_ascii _ h2, isDigitB_ascii _ h3, by decide,
      isDigitB_ascii _ h4, isDigitB_ascii _ h5, by decide, isDigitB_ascii _ h6, isDigitB_ascii _ h7⟩
  obtain ⟨a1, a2⟩ := asciiChars_ascii _ hasc
  unfold Zinc.dateOk
  rw [mkDate_txt hmk, a1, a2]
  simp only [h0, h1, h2, h3, h4, h5, h6, h7, hmk, beq_self_eq_true, Bool.and_self]

/-! ### decimals, numbers, keywords -/

theorem decTextOk_of_bytes (bs : List UInt8) (h : decBytesOk bs = true) : decTextOk (asciiChars bs) = true := by
  have hall : ∀ b ∈ bs, b.toNat < 128 := by
    intro b hb
    simp only [decBytesOk, Bool.and_eq_true, List.all_eq_true] at h
    exact isNumB_ascii b (h.1 b hb)
  obtain ⟨a1, a2⟩ := asciiChars_ascii bs hall
  unfold decTextOk
  rw [a1, a2, h]; rfl

theorem tokInv_coord {lat lng : List UInt8} (h1 : decBytesOk lat = true) (h2 : decBytesOk lng = true) :
    tokInv (.val (.coord (mkCoordFlt lat) (mkCoordFlt lng))) := by
  have h1 := decTextOk_of_bytes _ h1
  have h2 := decTextOk_of_bytes _ h2
  refine ⟨rfl, ?_⟩
  simp only [mkCoordFlt] at h1 h2 ⊢
  simp [decV, h1, h2]

theorem tokInv_mkNum (dec : List UInt8) (exp : Option (List UInt8 × List UInt8)) (unit : Option (List Char)) :
    tokInv (.val (mkNum dec exp unit)) := by
  refine ⟨rfl, ?_⟩
  have a1 : Flt.isNaNBits lexBits = false := by decide
  have a2 : Flt.isInfBits lexBits = false := by decide
  simp [mkNum, decV, lexNumI, a1, a2]

theorem tokInv_negInf :
    tokInv (.val (.num { v := { bits := negInfBits, txt := "-inf".toList }, unit := Option.none })) :=
  ⟨rfl, by decide⟩

/-- one `if` of `keyword` read back by unification (`split at h` on the chain of `if`s is slow to check) -/
theorem some_of_ite {α : Type} {c : Prop} [Decidable c] {a x : α} {r : Option α}
    (h : (if c then some a else r) = some x) : a = x ∨ r = some x := by
  by_cases hc : c
  · rw [if_pos hc] at h; exact Or.inl (Option.some.inj h)
  · rw [if_neg hc] at h; exact Or.inr h

theorem keyword_img (lit : List Char) (v : Val) (h : keyword lit = some v) : tokInv (.val v) := by
  unfold keyword at h
  -- eight `if`s, each returning a constant
  repeat (rcases some_of_ite h with rfl | h; · exact ⟨rfl, by decide⟩)
  cases h

end Hs.Zinc

/-
  C01 and C04 read direction: dates through `parse_number_date_time` (the 4-digits-then-dash
  look-ahead rule).  The fixed-width parts are evaluated on the explicit scanner state.  What follows the token
  enters as a `Stop` hypothesis, which every notion of delimiter provides.
-/
import Hs.Lemmas.ZincRtNumLex
import Hs.Lemmas.ZincWf
namespace Hs.Zinc
open Hs Hs.Scan

/-!
Before it consumes anything the reader has peeked at all ten bytes and at the byte after them: four peeks in
`ndtPeeks`, five in `isPartialDate`, one for the `T` test.  So in the state it ends in, the last byte peeked is the
byte `x` that follows, and the ten `advance`s of `parseDate` have emptied the stash: `Scan.at x r x (pos + 10)`.  At
the end of the input the last peek fails (`lastPeek` stays `d1`) and so does the tenth `advance`, which leaves `cur`
and `pos` as they were: `cur = d1`, `pos + 9`, `eof` up.  With the witness given, `simp` only has to run the reader. -/

theorem ndt_date (y0 y1 y2 y3 m0 m1 d0 d1 : UInt8)
    (hdg : DateDigits y0 y1 y2 y3 m0 m1 d0 d1)
    (d : Date) (hmk : mkDate [y0, y1, y2, y3, 45, m0, m1, 45, d0, d1] = some d)
    (x : UInt8) (r : List UInt8) (hx : x ≠ 84) (lp : UInt8) (pos fuel : Nat) :
    ∃ s', parseNumberDateTime fuel (Scan.at y0 (y1 :: y2 :: y3 :: 45 :: m0 :: m1 :: 45 :: d0 :: d1 :: x :: r) lp pos)
      = .ok (.date d, s') ∧ At s' (x :: r) ∧ s'.stash = [] := by
  refine ⟨Scan.at x r x (pos + 10), ?_, At_at .., rfl⟩
  unfold parseNumberDateTime
  simp only [Scan.at, digit_ne_minus hdg.y0, Bool.false_eq_true, if_false]
  simp [ndtPeeks, Scan.peek, Scan.readByte, hdg.y0, hdg.y1, hdg.y2, hdg.y3, isPartialDate, hdg.m0, hdg.m1, hdg.d0, hdg.d1, hx,
    parseDate, parseDateRaw, takeDigits, Scan.advance, Scan.read, hmk]

theorem ndt_date_eof (y0 y1 y2 y3 m0 m1 d0 d1 : UInt8)
    (hdg : DateDigits y0 y1 y2 y3 m0 m1 d0 d1)
    (d : Date) (hmk : mkDate [y0, y1, y2, y3, 45, m0, m1, 45, d0, d1] = some d)
    (lp : UInt8) (pos fuel : Nat) :
    ∃ s', parseNumberDateTime fuel (Scan.at y0 (y1 :: y2 :: y3 :: 45 :: m0 :: m1 :: 45 :: d0 :: [d1]) lp pos)
      = .ok (.date d, s') ∧ At s' [] ∧ s'.stash = [] := by
  refine ⟨{ cur := d1, stash := [], lastPeek := d1, eof := true, inp := [], pos := pos + 9 }, ?_, by simp [At], rfl⟩
  unfold parseNumberDateTime
  simp only [Scan.at, digit_ne_minus hdg.y0, Bool.false_eq_true, if_false]
  simp [ndtPeeks, Scan.peek, Scan.readByte, hdg.y0, hdg.y1, hdg.y2, hdg.y3, isPartialDate, hdg.m0, hdg.m1, hdg.d0, hdg.d1,
    parseDate, parseDateRaw, takeDigits, Scan.advance, Scan.read, hmk]

/-- a date is read when no `T` follows (which would make it a timestamp) -/
theorem lexRead_date_of_stop (d : Date) (hok : dateOk d = true) (s : Scan) (rest : List UInt8) (fuel : Nat)
    (h : At s (encChars d.txt ++ rest)) (hs : s.stash = []) (hst : Stop (· == 84) rest) (hf : 2 ≤ fuel) :
    ∃ s', lexRead fuel s = .ok { sc := s', tok := .val (.date d) } ∧ At s' rest ∧ s'.stash = [] := by
  obtain ⟨f, rfl⟩ : ∃ f, fuel = f + 1 := ⟨fuel - 1, by omega⟩
  obtain ⟨y0, y1, y2, y3, m0, m1, d0, d1, heq, hdg, hmk⟩ := dateOk_elim hok
  rw [heq] at h
  simp only [List.cons_append, List.nil_append] at h
  have hseq := eq_at_of_At h hs
  rw [lexRead_ndt h (by simp [hdg.y0])]
  cases rest with
  | nil =>
    obtain ⟨s', e, h', hs'⟩ := ndt_date_eof y0 y1 y2 y3 m0 m1 d0 d1 hdg d hmk
      s.lastPeek s.pos f
    refine ⟨s', ?_, h', hs'⟩
    rw [hseq, e]
  | cons x r =>
    obtain ⟨s', e, h', hs'⟩ := ndt_date y0 y1 y2 y3 m0 m1 d0 d1 hdg d hmk
      x r (by simpa using hst x r rfl) s.lastPeek s.pos f
    refine ⟨s', ?_, h', hs'⟩
    rw [hseq, e]

end Hs.Zinc

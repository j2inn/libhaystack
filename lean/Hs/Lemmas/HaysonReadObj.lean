/-
  Hs.Lemmas.HaysonReadObj — reading one Hayson object whose members stand in any order: the visitor's
  outcome is the outcome on the members in the order the specification lists them (`fromJson_obj_of_perm`);
  for a `{"_kind": kind, …}` object that is `finish kind` on the listed members, decoded
  (`fromJson_kindObj`), which the scalar kinds (number, ref, symbol, uri, date, time, dateTime, coord, xstr)
  instantiate.  That the listed names are distinct comes from Lemmas/HaysonMembers.

  Names: in this namespace `read` is the REFERENCE reader's function (Spec/HaysonRead.lean).  The lemmas `read_<kind>`,
  `read_val`, `read_dictObj`, `read_grid…`, `read_denotes…` of this ladder (HaysonReadObj, HaysonReadContainers,
  HaysonReadDenotes) are about the library's visitor `fromJson`; those about the function `read` are `read_obj`,
  `read_arr`, `read_kindObj` (the twin of `fromJson_kindObj`), `readKind_<kind>`, `rdr_…`, `reader_…` (Lemmas/HaysonRef…).
-/
import Hs.Lemmas.HaysonMembers
import Hs.Lemmas.HaysonGrid
import Hs.Lemmas.HaysonTotal
namespace Hs.Spec.Hayson
open Hs Hs.Hayson

/-! ### the members of an object as a list, decoded -/

def decView (L : Mems) : List (List Char × Res Val) := L.map (fun p => (p.1, fromJson p.2))

@[simp] theorem decView_cons (p : List Char × Json) (L : Mems) :
    decView (p :: L) = (p.1, fromJson p.2) :: decView L := rfl
theorem view_eq_decView : ∀ ms : Members, view ms = decView ms.toList
  | .nil => rfl
  | .cons k j ms => by rw [view, Members.toList_cons, decView_cons, view_eq_decView ms]
theorem decView_keys (L : Mems) : (decView L).map (·.1) = L.map (·.1) := by
  rw [decView, List.map_map]; rfl
theorem view_keys (ms : Members) : (view ms).map (·.1) = ms.toList.map (·.1) := by
  rw [view_eq_decView, decView_keys]
theorem view_perm {ms ms' : Members} (hp : ms.toList.Perm ms'.toList) : (view ms).Perm (view ms') := by
  rw [view_eq_decView, view_eq_decView]
  exact hp.map _

theorem decView_cons_ok {k : List Char} {j : Json} {v : Val} {tm : Mems} {l : List (List Char × Val)}
    (hj : fromJson j = .ok v) (hv : decView tm = okView l) : decView ((k, j) :: tm) = okView ((k, v) :: l) := by
  rw [decView_cons, okView_cons, hj, hv]

theorem keys_of_decView {tm : Mems} {l : List (List Char × Val)} (hv : decView tm = okView l) :
    tm.map (·.1) = l.map (·.1) := by
  rw [← decView_keys, hv, okView_keys]

theorem noKind_of_decView {tm : Mems} {l : List (List Char × Val)} (hv : decView tm = okView l)
    (hd : (s "_kind" :: tm.map (·.1)).Nodup) : ∀ p ∈ l, p.1 ≠ s "_kind" :=
  fun _ hp e => (List.nodup_cons.mp hd).1 (keys_of_decView hv ▸ e ▸ List.mem_map_of_mem hp)

/-- the order hypothesis of `runR_perm` on decoded members: a member that does not decode fails with the plain `Err`
(`fromJson_okOrErr`), so only the early-return kinds have to be excluded -/
theorem orderHyp_decView {L : Mems} (hne : ∀ p ∈ L, p.1 = s "_kind" → isEarly (fromJson p.2) = false) :
    OrderHyp (decView L) := by
  intro p hp
  obtain ⟨q, hq, rfl⟩ := List.mem_map.mp hp
  exact ⟨fromJson_okOrErr q.2, hne q hq⟩

theorem orderHyp_view (ms : Members) (h : ∀ p ∈ ms.toList, p.1 = s "_kind" → isEarly (fromJson p.2) = false) :
    OrderHyp (view ms) :=
  view_eq_decView ms ▸ orderHyp_decView h

/-! ### one object, members in any order -/

theorem fromJson_obj_of_perm (ms : Members) (L : Mems) (hp : ms.toList.Perm L)
    (hd : (L.map (·.1)).Nodup)
    (hne : ∀ p ∈ L, p.1 = s "_kind" → isEarly (fromJson p.2) = false) :
    fromJson (.obj ms) = runR (decView L) [] [] := by
  rw [fromJson_obj, view_eq_decView]
  have hp' : (decView L).Perm (decView ms.toList) := hp.symm.map _
  exact (runR_perm hp' ((decView_keys L).symm ▸ hd) (orderHyp_decView hne) [] []).symm

theorem fromJson_kindObj_collect {kind : String} {rest : Mems} {vals : List (List Char × Val)} {ms : Members}
    (hp : ms.toList.Perm (kindMem kind :: rest)) (hk : kind ∈ knownKinds)
    (hv : decView rest = okView vals) (hd : (s "_kind" :: rest.map (·.1)).Nodup) :
    fromJson (.obj ms) = finish (s kind) (vals.foldl (fun acc p => insertTag p.1 p.2 acc) []) := by
  rw [fromJson_obj_of_perm ms _ hp hd]
  · rw [decView_cons, kindMem_fst, kindMem_snd, fromJson_str, runR_kind, kindStep_known hk, hv,
      runR_noKind vals _ _ (noKind_of_decView hv hd)]
  · intro p hp' e
    rcases List.mem_cons.mp hp' with rfl | hp'
    · exact isEarly_known hk
    · exact absurd e (noKind_of_names hd p hp')

theorem fromJson_kindObj {kind : String} {rest : Mems} {vals : List (List Char × Val)} {ms : Members}
    (hp : ms.toList.Perm (kindMem kind :: rest)) (hk : kind ∈ knownKinds) (hnd : kind ≠ "dict")
    (hv : decView rest = okView vals) (hd : (s "_kind" :: rest.map (·.1)).Nodup) :
    fromJson (.obj ms) = finish (s kind) vals := by
  rw [fromJson_kindObj_collect hp hk hv hd]
  have hn : (vals.map (·.1)).Nodup := by rw [← keys_of_decView hv]; exact (List.nodup_cons.mp hd).2
  exact finish_congr hk hnd (fun k => by rw [foldl_insertTag_eq]; exact Key.find_collect_nodup hn (s k))

theorem numTok_decodes {f : Flt} {j : Json} (h : NumTok f j) :
    fromJson j = .ok (.num { v := f, unit := none }) := by
  cases h <;> rfl

/-! ### scalar kinds -/

theorem numVal_decodes {f : Flt} {jv : Json} (h : NumVal f jv) :
    ∃ w, fromJson jv = .ok w ∧ numEntry w = some { v := f, unit := none } := by
  cases h with
  | tok h => exact ⟨_, numTok_decodes h, rfl⟩
  | inf => exact ⟨_, rfl, by simp [numEntry]⟩
  | negInf => exact ⟨_, rfl, by simp [numEntry, s_inj]⟩
  | nan => exact ⟨_, rfl, by simp [numEntry, s_inj]⟩

theorem read_number {f : Flt} {jv : Json} {u : Option (List Char)} {um : Mems} {ms : Members}
    (hv : NumVal f jv) (hu : OptUnit u um) (hp : ms.toList.Perm (kindMem "number" :: (s "val", jv) :: um)) :
    fromJson (.obj ms) = .ok (.num { v := f, unit := u }) := by
  obtain ⟨w, hw, hn⟩ := numVal_decodes hv
  cases hu with
  | absent =>
    rw [fromJson_kindObj hp known_number (by simp) (vals := [(s "val", w)])
      (decView_cons_ok hw rfl) (names_number .absent), finish_number]
    simp [getStr, getTag, s_inj, hn]
  | present id sym hsym =>
    rw [fromJson_kindObj hp known_number (by simp) (vals := [(s "val", w), (s "unit", .str id)])
      (decView_cons_ok hw (decView_cons_ok (fromJson_str id) rfl)) (names_number (.present id sym hsym)), finish_number]
    simp [getStr, getTag, s_inj, hn, hsym]

/-- `ref` and `dateTime`: a string `val` and an optional string member `name` -/
theorem read_valOpt {kind name : String} {mk : List Char → Option (List Char) → Val}
    (hk : kind ∈ knownKinds) (hnd : kind ≠ "dict")
    (hf : ∀ d, finish (s kind) d = match getStr d "val" with
      | some v => .ok (mk v (getStr d name))
      | none => .err)
    (h1 : name ≠ "_kind") (h2 : name ≠ "val")
    {x : List Char} {o : Option (List Char)} {om : Mems} {ms : Members} (ho : OptStr name o om)
    (hp : ms.toList.Perm (kindMem kind :: (s "val", .str x) :: om)) : fromJson (.obj ms) = .ok (mk x o) := by
  cases ho with
  | absent =>
    rw [fromJson_kindObj hp hk hnd (vals := [(s "val", .str x)]) rfl names_val, hf]
    simp [getStr, getTag, s_inj, h2.symm]
  | present y =>
    rw [fromJson_kindObj hp hk hnd (vals := [(s "val", .str x), (s name, .str y)]) rfl
      (names_valOpt h1 h2 (.present y)), hf]
    simp [getStr, getTag, s_inj, h2.symm]

theorem read_val {kind : String} {C : List Char → Val} (hk : kind ∈ knownKinds) (hnd : kind ≠ "dict")
    (hf : ∀ d, finish (s kind) d = match getStr d "val" with
      | some v => .ok (C v)
      | none => .err)
    {x : List Char} {ms : Members} (hp : ms.toList.Perm [kindMem kind, (s "val", .str x)]) :
    fromJson (.obj ms) = .ok (C x) := by
  rw [fromJson_kindObj hp hk hnd (vals := [(s "val", .str x)]) rfl names_val, hf]
  simp [getStr, getTag]

theorem read_coord {a b : Flt} {ja jb : Json} {ms : Members} (ha : NumTok a ja) (hb : NumTok b jb)
    (hp : ms.toList.Perm [kindMem "coord", (s "lat", ja), (s "lng", jb)]) :
    fromJson (.obj ms) = .ok (.coord a b) := by
  rw [fromJson_kindObj hp known_coord (by simp)
    (vals := [(s "lat", .num ⟨a, none⟩), (s "lng", .num ⟨b, none⟩)])
    (decView_cons_ok (numTok_decodes ha) (decView_cons_ok (numTok_decodes hb) rfl)) names_coord, finish_coord]
  simp [getNum, getTag, s_inj]

theorem read_xstr {ty x : List Char} {ms : Members}
    (hp : ms.toList.Perm [kindMem "xstr", (s "type", .str ty), (s "val", .str x)]) :
    fromJson (.obj ms) = .ok (.xstr ty x) := by
  rw [fromJson_kindObj hp known_xstr (by simp) (vals := [(s "type", .str ty), (s "val", .str x)]) rfl
    names_xstr, finish_xstr]
  simp [getStr, getTag, s_inj]

end Hs.Spec.Hayson

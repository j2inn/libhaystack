/-
  Hs.Lemmas.ZincParseSpec — the Zinc parser on ARBITRARY input: one specification per function of the parser's
  `mutual` block (`ParserSpec.…`, predicate `Res.Sat`), all thirteen proved together by induction on the fuel
  (`parserSpecs`).  A specification says: no `panic` / `depth`, and `diverge` only when `fuel ≤ 8 * measure + c`; the
  measure (`Scan.mu`, `PS.M`, `RowState.K`) does not grow; and, given that what the call started from came out of the
  lexer (`PSok`) within the depth limit, what it returns is of the reader's shape (`decV`, as `ZincImageParse` says).
  C03 reads off the first two parts, C11 the third.

  Why the budgets close: every loop iteration either exits or consumes a token, a token costs at least
  one unit of `PS.M`, and one unit of measure buys 8 units of fuel — more than the longest chain of
  calls between two `read`s (`parseValue → parseGrid → rowsLoop → rowNext → rowLoop → parseValue`).
  The constants `c` rank the call graph: `fuel_le` asks `c' < 8 * j + c` of a call to a function with constant `c'`
  after `j` units have been consumed, so a caller that consumes nothing before the call carries the larger constant
  (`consumeEnd` 10 < `rowLoop` 41 < `rowNext` 42 < `rowsLoop` 43; `gridHeader` 30 < `parseGrid` 38 < `parseValue` 40).
-/
import Hs.Lemmas.ZincTotalMeasure
import Hs.Lemmas.ZincImageParse
namespace Hs
open Scan
namespace Zinc

@[elab_as_elim]
theorem PS.read_step {n : Nat} {p : PS} {j b c : Nat} {P : Res PS → Prop} (S : p.sc.mu + j ≤ b)
    (ok : ∀ p1, p1.M + j ≤ b ∧ (p1.tokNone = true → p1.isEof = true) ∧ PSok p1 → P (.ok p1)) (err : P .err)
    (diverge : n + 1 ≤ 8 * b + (c + 2) → P .diverge) : P (PS.read n p) :=
  (PS.read_spec n p).elim (fun p1 h => ok p1 ⟨add_le_trans h.1 S, h.2⟩) err (fun hd => diverge (by omega))

/-! ### the specifications

Each postcondition is a pair: what the call leaves, and — under hypotheses on what it started from — what it
returns.  The hypotheses are inside the postcondition because the first half holds without them. -/

namespace ParserSpec

abbrev ValuePost (d : Nat) (p : PS) (o : Val × PS) : Prop :=
  (o.2.sc.mu ≤ p.sc.mu ∧ (p.tokNone = true → o.2 = p)) ∧ (PSok p → ValOk d o.1 ∧ PSok o.2)

abbrev CollPost (d : Nat) (p : PS) (o : Val × PS) : Prop :=
  o.2.sc.mu ≤ p.sc.mu ∧ (d ≤ 64 → PSok p → CollOk d o.1 ∧ PSok o.2)

abbrev ListPost (d : Nat) (p : PS) (acc : List Val) (o : Val × PS) : Prop :=
  o.2.sc.mu ≤ p.sc.mu ∧ (d ≤ 64 → (∀ x ∈ acc, ValOk d x) → CollOk d o.1 ∧ PSok o.2)

abbrev TagsPost (d : Nat) (p : PS) (acc : List (List Char × Val)) (o : List (List Char × Val) × PS) : Prop :=
  o.2.sc.mu ≤ p.sc.mu ∧ (d ≤ 64 → PSok p → KV d acc → KV d o.1 ∧ PSok o.2)

abbrev ColsPost (d : Nat) (p : PS) (acc : List (List Char × OTags)) (o : List (List Char × OTags) × PS) : Prop :=
  o.2.sc.mu ≤ p.sc.mu ∧ (d ≤ 64 → ColsInv d acc → ColsInv d o.1 ∧ o.1 ≠ [] ∧ PSok o.2)

abbrev RowPost (d : Nat) (p : PS) (cols : List (List Char)) (acc : List (List Char × Val))
    (o : List (List Char × Val) × PS) : Prop :=
  (o.2.M ≤ p.M ∧ o.2.isChar 10 = true) ∧ (PSok p → RowKV d cols acc → RowKV d cols o.1 ∧ PSok o.2)

def parseValue (fuel : Nat) : Prop := ∀ d p, (Zinc.parseValue fuel d p).Sat fuel (8 * p.M + 40) (ValuePost d p)
def parseList (fuel : Nat) : Prop := ∀ d p, (Zinc.parseList fuel d p).Sat fuel (8 * p.M + 36) (CollPost d p)
def listLoop (fuel : Nat) : Prop :=
  ∀ d p e acc, (Zinc.listLoop fuel d p e acc).Sat fuel (8 * p.sc.mu + 41) (ListPost d p acc)
def parseDict (fuel : Nat) : Prop := ∀ d p, (Zinc.parseDict fuel d p).Sat fuel (8 * p.M + 30) (CollPost d p)
def dictParts (fuel : Nat) : Prop :=
  ∀ d p e acc, (Zinc.dictParts fuel d p e acc).Sat fuel (8 * p.M + 30) (TagsPost d p acc)
def colMeta (fuel : Nat) : Prop := ∀ d p acc, (Zinc.colMeta fuel d p acc).Sat fuel (8 * p.M + 30) (TagsPost d p acc)
def gridColumns (fuel : Nat) : Prop :=
  ∀ d p acc, (Zinc.gridColumns fuel d p acc).Sat fuel (8 * p.sc.mu + 30) (ColsPost d p acc)
def consumeEnd (fuel : Nat) : Prop := ∀ r, (Zinc.consumeEnd fuel r).Sat fuel (8 * r.p.M + 10)
  (fun o => (o.p.M ≤ r.p.M ∧ (r.p.isChar 10 = true → o.p.isEof = true ∨ o.p.M < r.p.M)) ∧ (PSok r.p → PSok o.p))
def rowLoop (fuel : Nat) : Prop :=
  ∀ d p cols k acc, (Zinc.rowLoop fuel d p cols k acc).Sat fuel (8 * p.M + 41) (RowPost d p cols acc)
def rowNext (fuel : Nat) : Prop := ∀ d r cols, (Zinc.rowNext fuel d r cols).Sat fuel (8 * r.p.M + 42)
  (fun o => o.2.K + (if o.1.isSome then 1 else 0) ≤ r.K ∧
    (d ≤ 64 → PSok r.p → PSok o.2.p ∧ ∀ row, o.1 = some row → RowInv d cols row))
def rowsLoop (fuel : Nat) : Prop := ∀ d r cols acc, (Zinc.rowsLoop fuel d r cols acc).Sat fuel (8 * r.K + 43)
  (fun o => o.2.K ≤ r.K ∧
    (d ≤ 64 → PSok r.p → (∀ x ∈ acc, RowInv d cols x) → (∀ x ∈ o.1, RowInv d cols x) ∧ PSok o.2.p))
/-- the header is at least `ver` and `:` -/
def gridHeader (fuel : Nat) : Prop := ∀ d p, (Zinc.gridHeader fuel d p).Sat fuel (8 * p.M + 30)
  (fun o => o.2.p.M + 2 ≤ p.M ∧ (d ≤ 64 → PSok p →
    MetaOk d o.1.1 ∧ ColsInv d o.1.2.1 ∧ o.1.2.1 ≠ [] ∧ PSok o.2.p))
def parseGrid (fuel : Nat) : Prop := ∀ d p, (Zinc.parseGrid fuel d p).Sat fuel (8 * p.M + 38) (CollPost d p)

end ParserSpec

structure ParserSpecs (fuel : Nat) : Prop where
  parseValue : ParserSpec.parseValue fuel
  parseList : ParserSpec.parseList fuel
  listLoop : ParserSpec.listLoop fuel
  parseDict : ParserSpec.parseDict fuel
  dictParts : ParserSpec.dictParts fuel
  colMeta : ParserSpec.colMeta fuel
  gridColumns : ParserSpec.gridColumns fuel
  consumeEnd : ParserSpec.consumeEnd fuel
  rowLoop : ParserSpec.rowLoop fuel
  rowNext : ParserSpec.rowNext fuel
  rowsLoop : ParserSpec.rowsLoop fuel
  gridHeader : ParserSpec.gridHeader fuel
  parseGrid : ParserSpec.parseGrid fuel

open ParserSpec (ValuePost CollPost ListPost TagsPost ColsPost RowPost)

/- In the steps below `S… : pₖ.sc.mu + j ≤ b` and `H… : pₖ.M + j ≤ b` record how far the measure has
dropped when the state `pₖ` is reached (`b` is the measure the budget of the function is stated in): a `read`
with a token in hand drops it by one, every other call leaves it alone.  `fuel_le` turns such a fact into the
`diverge` arm of the call made on `pₖ`.  `PSok pₖ` comes with every `read` (`PS.read_step`).
Most specifications state the budget in `M` of the state a call starts from (the token in hand counts) and say of the
state it returns that `sc.mu` has not grown (the token a call returns with is not one it has consumed).  So after a
call its `h.1 : p'.sc.mu ≤ pₖ.sc.mu` is brought back into the form `S…` by `PS.mu_le_M` (`mu ≤ M`), and into a
statement about `sc.mu` of the caller's own state by `PS.le_mu_of_tok` where the caller held a token.
`rowsLoop_step'` is primed because `rowsLoop_step` (`ZincTotalParse`) is the same step from the budget-and-measure half
`Specs` alone, and `C11.rowsLoop_step` the unfolding equation of `rowsLoop`. -/

/-! ### `parse_value`, `parse_list` -/

theorem value_step {n} (ih : ParserSpecs n) : ParserSpec.parseValue (n + 1) := by
  intro d p; rw [parseValue]
  refine Res.Sat.ite_intro (fun _ => trivial) (fun hd => ?_)
  have hd : d + 1 ≤ 64 := by unfold maxNestingDepth at hd; omega
  -- a collection is only entered with a token in hand, so `p.tokNone = true → …` is void for it
  have tail : ∀ {r : Res (Val × PS)} {c' : Nat}, r.Sat n (8 * p.M + c') (CollPost (d + 1) p) → c' < 40 →
      p.tokNone = false → r.Sat (n + 1) (8 * p.M + 40) (ValuePost d p) :=
    fun h hc hf => h.mono (fun hd => fuel_le hd (Nat.le_refl (p.M + 0)) hc)
      (fun _ h => ⟨⟨h.1, fun ht => absurd (hf.symm.trans ht) Bool.false_ne_true⟩,
        fun hp => ⟨(h.2 hd hp).1.val, (h.2 hd hp).2⟩⟩)
  split
  · next hid => exact tail (ih.parseGrid (d + 1) p) (by decide) (PS.tokNone_of_tok hid)
  · next hv =>
    exact ⟨⟨Nat.le_refl _, fun _ => rfl⟩, fun hp => ⟨ValOk_scalar (Nat.le_of_succ_le hd) (PSok_val hp hv), hp⟩⟩
  · next hch =>
    have hf := PS.tokNone_of_tok hch
    refine Res.Sat.ite_intro (fun _ => tail (ih.parseList (d + 1) p) (by decide) hf) (fun _ => ?_)
    refine Res.Sat.ite_intro (fun _ => tail (ih.parseDict (d + 1) p) (by decide) hf) (fun _ => ?_)
    exact Res.Sat.ite_intro (fun _ => tail (ih.parseGrid (d + 1) p) (by decide) hf) (fun _ => trivial)
  · exact ⟨⟨Nat.le_refl _, fun _ => rfl⟩, fun hp => ⟨ValOk_scalar (Nat.le_of_succ_le hd) ⟨rfl, rfl⟩, hp⟩⟩

theorem list_step {n} (ih : ParserSpecs n) : ParserSpec.parseList (n + 1) := by
  intro d p; rw [parseList]
  refine Res.Sat.guard_intro (fun hc => ?_)
  -- the `[` in hand counts one unit, so `listLoop`'s budget `8 * mu + 41` is `8 * M + 33`
  exact (ih.listLoop d p false []).mono (fun hd => fuel_le hd (Nat.le_of_eq (PS.M_of_isChar hc).symm))
    (fun _ h => ⟨h.1, fun hD _ => h.2 hD nofun⟩)

theorem listLoop_step {n} (ih : ParserSpecs n) : ParserSpec.listLoop (n + 1) := by
  intro d p e acc; rw [listLoop]
  refine PS.read_step (Nat.le_refl (p.sc.mu + 0)) (fun p1 h1 => ?_) trivial id
  dsimp only
  refine Res.Sat.ite_intro
    (fun _ => ⟨Nat.le_trans (PS.mu_le_M p1) h1.1, fun hD hacc => ⟨list_ok hD hacc, h1.2.2⟩⟩) (fun _ => ?_)
  have again : ∀ {p' : PS} e' acc', p'.sc.mu + 1 ≤ p.sc.mu →
      (d ≤ 64 → (∀ x ∈ acc, ValOk d x) → ∀ x ∈ acc', ValOk d x) →
      (listLoop n d p' e' acc').Sat (n + 1) (8 * p.sc.mu + 41) (ListPost d p acc) :=
    fun e' acc' S ha => (ih.listLoop d _ e' acc').mono (fun hd => fuel_le hd S)
      (fun _ h => ⟨Nat.le_trans h.1 (Nat.le_of_succ_le S), fun hD hacc => h.2 hD (ha hD hacc)⟩)
  refine Res.Sat.ite_intro (fun _ => ?_) (fun _ => ?_)
  · exact Res.Sat.ite_intro (fun hc => again _ _ (PS.S_of_tok (PS.tokNone_of_isChar hc) h1.1) (fun _ h => h))
      (fun _ => trivial)
  · refine (ih.parseValue d p1).elim (fun ⟨v, p2⟩ h2 => ?_) trivial (fun hd => fuel_le hd (j := 0) h1.1)
    dsimp only [ValuePost] at h2 ⊢
    refine Res.Sat.ite_intro (fun _ => trivial) (fun he => ?_)
    -- `p1` holds a token: otherwise `parseValue` returned `p1` itself, which is at the end of the input
    have S2 : p2.sc.mu + 1 ≤ p.sc.mu := by
      cases ht : p1.tokNone with
      | true => exact absurd (by rw [h2.1.2 ht]; exact h1.2.1 ht) he
      | false => exact Nat.le_trans (Nat.succ_le_succ h2.1.1) (PS.S_of_tok ht h1.1)
    exact again _ _ S2 (fun _ hacc => forall_mem_snoc hacc (h2.2 h1.2.2).1)

/-! ### `parse_dict`, `parse_dict_parts`, `parse_grid_column_meta` -/

theorem dict_step {n} (ih : ParserSpecs n) : ParserSpec.parseDict (n + 1) := by
  intro d p; rw [parseDict]
  refine Res.Sat.guard_intro (fun hc => ?_)
  have S : p.sc.mu + 1 ≤ p.M := Nat.le_of_eq (PS.M_of_isChar hc).symm
  refine PS.read_step S (fun p1 h1 => ?_) trivial id
  dsimp only
  refine (ih.dictParts d p1 false []).elim (fun ⟨kvs, p2⟩ h2 => ?_) trivial (fun hd => fuel_le hd h1.1)
  dsimp only at h2 ⊢
  exact Res.Sat.ite_intro
    (fun _ => ⟨PS.le_mu_of_tok (PS.tokNone_of_isChar hc) (add_le_trans (Nat.le_trans h2.1 (PS.mu_le_M p1)) h1.1),
      fun hD _ => ⟨dict_ok hD (h2.2 hD h1.2.2 nofun).1, (h2.2 hD h1.2.2 nofun).2⟩⟩)
    (fun _ => trivial)

theorem tags_stop (d : Nat) (p : PS) (acc : List (List Char × Val)) : TagsPost d p acc (acc, p) :=
  ⟨Nat.le_refl _, fun _ hp hacc => ⟨hacc, hp⟩⟩

/-- the arm `key [: value]` that `dictParts` and `colMeta` share, up to the function `loop` they go on with -/
theorem tag_step {n} (ih : ParserSpecs n) (d : Nat) (p : PS) {key : List Char} (hid : p.tok = .id key)
    (loop : PS → List (List Char × Val) → Res (List (List Char × Val) × PS))
    (hloop : ∀ p' acc', (loop p' acc').Sat n (8 * p'.M + 30) (TagsPost d p' acc')) (acc : List (List Char × Val)) :
    (match PS.read n p with
      | .ok p1 =>
        if p1.isEof then .ok (acc ++ [(key, .marker)], p1)
        else if p1.isChar 58 then
          match p1.read n with
          | .ok p2 =>
            match parseValue n d p2 with
            | .ok (v, p3) =>
              match p3.read n with
              | .ok p4 => loop p4 (acc ++ [(key, v)])
              | .err => .err | .panic => .panic | .diverge => .diverge | .depth => .depth
            | .err => .err | .panic => .panic | .diverge => .diverge | .depth => .depth
          | .err => .err | .panic => .panic | .diverge => .diverge | .depth => .depth
        else loop p1 (acc ++ [(key, .marker)])
      | .err => .err | .panic => .panic | .diverge => .diverge | .depth => .depth :
      Res (List (List Char × Val) × PS)).Sat (n + 1) (8 * p.M + 30) (TagsPost d p acc) := by
  have hf := PS.tokNone_of_tok hid
  have S : p.sc.mu + 1 ≤ p.M := Nat.le_of_eq (PS.M_of_tok hf).symm
  refine PS.read_step S (fun p1 h1 => ?_) trivial id
  have S1 : p1.sc.mu + 1 ≤ p.M := add_le_trans (PS.mu_le_M p1) h1.1
  have go : ∀ {q : PS} {j : Nat} (v : Val), q.M + (j + 1) ≤ p.M → PSok q → (d ≤ 64 → ValOk d v) →
      (loop q (acc ++ [(key, v)])).Sat (n + 1) (8 * p.M + 30) (TagsPost d p acc) :=
    fun v H hq hv => (hloop _ _).mono (fun hd => fuel_le hd H (by omega))
      (fun _ h => ⟨PS.le_mu_of_tok hf (add_le_trans (Nat.le_trans h.1 (PS.mu_le_M _)) H),
        fun hD hp hacc => h.2 hD hq (KV_snoc hacc (PSok_id hp hid) (hv hD))⟩)
  dsimp only
  refine Res.Sat.ite_intro (fun _ => ⟨PS.le_mu_of_tok hf S1,
    fun hD hp hacc => ⟨KV_snoc hacc (PSok_id hp hid) (ValOk_marker hD), h1.2.2⟩⟩) (fun _ => ?_)
  refine Res.Sat.ite_intro (fun hc => ?_) (fun _ => go _ h1.1 h1.2.2 ValOk_marker)
  have S1 : p1.sc.mu + 2 ≤ p.M := PS.S_of_tok (PS.tokNone_of_isChar hc) h1.1
  refine PS.read_step S1 (fun p2 h2 => ?_) trivial id
  dsimp only
  refine (ih.parseValue d p2).elim (fun ⟨v, p3⟩ h3 => ?_) trivial (fun hd => fuel_le hd h2.1)
  dsimp only at h3 ⊢
  have S3 : p3.sc.mu + 2 ≤ p.M := add_le_trans (Nat.le_trans h3.1.1 (PS.mu_le_M p2)) h2.1
  exact PS.read_step S3 (fun p4 h4 => go v h4.1 h4.2.2 (fun _ => (h3.2 h2.2.2).1)) trivial id

theorem dictParts_step {n} (ih : ParserSpecs n) : ParserSpec.dictParts (n + 1) := by
  intro d p e acc; rw [dictParts]
  refine Res.Sat.ite_intro (fun _ => tags_stop d p acc) (fun _ => ?_)
  refine Res.Sat.ite_intro (fun hc => ?_) (fun _ => ?_)
  · -- the `,` in hand is consumed
    have hf := PS.tokNone_of_isChar (Bool.and_eq_true_iff.mp hc).2
    refine PS.read_step (Nat.le_of_eq (PS.M_of_tok hf).symm) (fun p1 h1 => ?_) trivial id
    exact (ih.dictParts d p1 false acc).mono (fun hd => fuel_le hd h1.1)
      (fun _ h => ⟨PS.le_mu_of_tok hf (add_le_trans (Nat.le_trans h.1 (PS.mu_le_M p1)) h1.1),
        fun hD _ hacc => h.2 hD h1.2.2 hacc⟩)
  · split
    · next key hid => exact tag_step ih d p hid _ (fun p' acc' => ih.dictParts d p' true acc') acc
    all_goals exact tags_stop d p acc

theorem colMeta_step {n} (ih : ParserSpecs n) : ParserSpec.colMeta (n + 1) := by
  intro d p acc; rw [colMeta]
  refine Res.Sat.ite_intro (fun _ => tags_stop d p acc) (fun _ => ?_)
  refine Res.Sat.ite_intro (fun _ => tags_stop d p acc) (fun _ => ?_)
  split
  · next key hid => exact tag_step ih d p hid _ (fun p' acc' => ih.colMeta d p' acc') acc
  all_goals exact tags_stop d p acc

/-! ### `parse_grid_columns` -/

theorem gridColumns_step {n} (ih : ParserSpecs n) : ParserSpec.gridColumns (n + 1) := by
  intro d p acc; rw [gridColumns]
  refine PS.read_step (Nat.le_refl (p.sc.mu + 0)) (fun p1 h1 => ?_) trivial id
  dsimp only
  split
  · next name hid =>
    have hname := PSok_id h1.2.2 hid
    have S1 : p1.sc.mu + 1 ≤ p.sc.mu := PS.S_of_tok (PS.tokNone_of_tok hid) h1.1
    refine PS.read_step S1 (fun p2 h2 => ?_) trivial id
    have H2 : p2.M + 1 ≤ p.sc.mu := h2.1
    dsimp only
    -- the name token has been consumed (`H2`), so every way round the loop starts one unit below `p.sc.mu`; the ways
    -- differ in what the column is added with: no meta (`bare`), the tags `colMeta` collected (`withMeta`), or not at
    -- all when `colMeta` collected none (the model's dropped column)
    have again : ∀ {p' : PS} acc', p'.sc.mu + 1 ≤ p.sc.mu → (d ≤ 64 → ColsInv d acc → ColsInv d acc') →
        (gridColumns n d p' acc').Sat (n + 1) (8 * p.sc.mu + 30) (ColsPost d p acc) :=
      fun acc' S ha => (ih.gridColumns d _ acc').mono (fun hd => fuel_le hd S)
        (fun _ h => ⟨Nat.le_trans h.1 (Nat.le_of_succ_le S), fun hD hacc => h.2 hD (ha hD hacc)⟩)
    have bare : d ≤ 64 → ColsInv d acc → ColsInv d (acc ++ [(name, .none)]) :=
      fun hD hacc => ColsInv_snoc hacc hname (meta_none d hD)
    refine Res.Sat.ite_intro (fun _ => ⟨Nat.le_trans (PS.mu_le_M p2) (Nat.le_of_succ_le H2),
      fun hD hacc => ⟨bare hD hacc, by simp, h2.2.2⟩⟩) (fun _ => ?_)
    refine Res.Sat.ite_intro
      (fun hc => again _ (Nat.le_of_succ_le (PS.S_of_tok (PS.tokNone_of_isChar hc) H2)) bare) (fun _ => ?_)
    refine Res.Sat.ite_intro (fun _ => trivial) (fun _ => ?_)
    refine (ih.colMeta d p2 []).elim (fun ⟨kvs, p3⟩ h3 => ?_) trivial (fun hd => fuel_le hd H2)
    dsimp only at h3 ⊢
    have S3 : p3.sc.mu + 1 ≤ p.sc.mu := add_le_trans (Nat.le_trans h3.1 (PS.mu_le_M p2)) H2
    have i3 := fun hD => h3.2 hD h2.2.2 nofun
    refine Res.Sat.ite_intro (fun hne => ?_) (fun _ => again _ S3 (fun _ h => h))
    have withMeta : d ≤ 64 → ColsInv d acc → ColsInv d (acc ++ [(name, OTags.some (dictOf kvs))]) :=
      fun hD hacc => ColsInv_snoc hacc hname (meta_of_KV hD (i3 hD).1 (by simpa using hne))
    refine Res.Sat.ite_intro
      (fun _ => ⟨Nat.le_of_succ_le S3, fun hD hacc => ⟨withMeta hD hacc, by simp, (i3 hD).2⟩⟩) (fun _ => ?_)
    exact Res.Sat.ite_intro (fun _ => Res.Sat.ite_intro (fun _ => again _ S3 withMeta) (fun _ => trivial))
      (fun _ => trivial)
  all_goals exact trivial

/-! ### `consume_end`, `parse_row`, `RowIterator::next`, collecting the rows -/

/-- `consumeEnd` calls nothing of the block: no induction hypothesis -/
theorem consumeEnd_step (n : Nat) : ParserSpec.consumeEnd (n + 1) := by
  intro r; rw [consumeEnd]
  -- the newline block: white space, then one `read` unless that hit the end of the input
  generalize hb : (ite (r.p.isChar 10 = true) _ _ : Res PS) = step1
  have hs : step1.Sat (n + 1) (8 * r.p.M + 2) (fun p1 => (p1.M ≤ r.p.M ∧
      (r.p.isChar 10 = true → p1.isEof = true ∨ p1.M < r.p.M)) ∧ (PSok r.p → PSok p1)) := by
    rw [← hb]
    refine Res.Sat.ite_intro (fun hc => ?_) (fun hc => ⟨⟨Nat.le_refl _, fun h => absurd h hc⟩, id⟩)
    have hf := PS.tokNone_of_isChar hc
    have hM := PS.M_of_tok hf
    refine (consumeWhiteSpaces_spec (n + 1) r.p.sc).elim (fun sc' h1 => ?_) trivial
      (fun hd => (by omega : n + 1 ≤ 8 * r.p.M + 2))
    have S' : sc'.mu + 1 ≤ r.p.M := hM ▸ Nat.succ_le_succ h1
    dsimp only
    refine Res.Sat.ite_not_intro (fun _ => ?_) (fun he => ⟨⟨?_, fun _ => Or.inl he⟩, fun hp => PSok_sc hp sc'⟩)
    · refine PS.read_step (p := { sc := sc', tok := r.p.tok }) S' (fun p1 h2 => ?_) trivial id
      have H1 : p1.M + 1 ≤ r.p.M := h2.1
      exact ⟨⟨Nat.le_of_succ_le H1, fun _ => Or.inr H1⟩, fun _ => h2.2.2⟩
    · exact Nat.le_trans (Nat.le_of_eq (PS.M_of_tok (p := { sc := sc', tok := r.p.tok }) hf)) S'
  clear hb
  refine hs.elim (fun p1 h1 => ?_) trivial (fun hd => Nat.le_trans hd (Nat.add_le_add_left (by decide) _))
  dsimp only
  refine Res.Sat.ite_intro (fun hc => ?_) (fun _ => h1)
  have S1 : p1.sc.mu + 1 ≤ r.p.M :=
    Nat.le_trans (Nat.le_of_eq (PS.M_of_isChar (Bool.and_eq_true_iff.mp hc).2).symm) h1.1.1
  refine PS.read_step S1 (fun p2 h2 => ?_) trivial id
  have H2 : p2.M + 1 ≤ r.p.M := h2.1
  exact Res.Sat.ite_intro (fun _ => ⟨⟨Nat.le_of_succ_le H2, fun _ => Or.inr H2⟩, fun _ => h2.2.2⟩) (fun _ => trivial)

theorem rowLoop_step {n} (ih : ParserSpecs n) : ParserSpec.rowLoop (n + 1) := by
  intro d p cols k acc; rw [rowLoop]
  have again : ∀ {p' : PS} k' acc', p'.M + 1 ≤ p.M → PSok p' → (PSok p → RowKV d cols acc → RowKV d cols acc') →
      (rowLoop n d p' cols k' acc').Sat (n + 1) (8 * p.M + 41) (RowPost d p cols acc) :=
    fun k' acc' H hp' ha => (ih.rowLoop d _ cols k' acc').mono (fun hd => fuel_le hd H)
      (fun _ h => ⟨⟨Nat.le_trans h.1.1 (Nat.le_of_succ_le H), h.1.2⟩, fun hp hacc => h.2 hp' (ha hp hacc)⟩)
  refine Res.Sat.ite_intro (fun hc => ?_) (fun _ => ?_)
  · have S : p.sc.mu + 1 ≤ p.M := Nat.le_of_eq (PS.M_of_isChar hc).symm
    refine PS.read_step S (fun p1 h1 => ?_) trivial id
    exact again _ _ h1.1 h1.2.2 (fun _ h => h)
  refine Res.Sat.ite_intro (fun hc => ⟨⟨Nat.le_refl _, hc⟩, fun hp hacc => ⟨hacc, hp⟩⟩) (fun _ => ?_)
  refine Res.Sat.ite_intro (fun _ => trivial) (fun ht => ?_)
  have S : p.sc.mu + 1 ≤ p.M := Nat.le_of_eq (PS.M_of_tok (Bool.of_not_eq_true ht)).symm
  refine (ih.parseValue d p).elim (fun ⟨v, p1⟩ h1 => ?_) trivial (fun hd => fuel_le hd (Nat.le_refl (p.M + 0)))
  dsimp only at h1 ⊢
  have S1 : p1.sc.mu + 1 ≤ p.M := add_le_trans h1.1.1 S
  split
  · next name hn =>
    refine PS.read_step S1 (fun p2 h2 => ?_) trivial id
    exact again _ _ h2.1 h2.2.2
      (fun hp hacc => forall_mem_snoc (a := (name, v)) hacc ⟨List.mem_of_getElem? hn, (h1.2 hp).1⟩)
  · exact trivial

theorem rowNext_step {n} (ih : ParserSpecs n) : ParserSpec.rowNext (n + 1) := by
  intro d r cols; rw [rowNext]
  refine Res.Sat.ite_intro (fun _ => ⟨Nat.le_refl _, fun _ hp => ⟨hp, nofun⟩⟩) (fun hc => ?_)
  have hK := RowState.K_of_not_eof (Bool.or_eq_false_iff.mp (Bool.of_not_eq_true hc)).1
  refine (ih.consumeEnd r).elim (fun r1 h1 => ?_) trivial (fun hd => fuel_le hd (Nat.le_refl (r.p.M + 0)))
  dsimp only
  refine Res.Sat.ite_intro (fun _ => ⟨?_, fun _ hp => ⟨h1.2 hp, nofun⟩⟩) (fun _ => ?_)
  · exact Nat.le_trans (RowState.K_le r1) (hK ▸ Nat.succ_le_succ h1.1.1)
  refine (ih.rowLoop d r1.p cols 0 []).elim (fun ⟨kvs, p2⟩ h2 => ?_) trivial (fun hd => fuel_le hd (j := 0) h1.1.1)
  dsimp only at h2 ⊢
  have H2 : p2.M ≤ r.p.M := Nat.le_trans h2.1.1 h1.1.1
  refine (ih.consumeEnd { r1 with p := p2 }).elim (fun r3 h3 => ?_) trivial (fun hd => fuel_le hd (j := 0) H2)
  refine ⟨?_, fun hD hp => ⟨h3.2 (h2.2 (h1.2 hp) nofun).2, fun row e => ?_⟩⟩
  · -- the row ended in a newline: `consumeEnd` went past it, or stopped at the end of the input
    show r3.K + 1 ≤ r.K
    rw [hK]
    refine Nat.succ_le_succ ?_
    cases h3.1.2 h2.1.2 with
    | inl he => exact Nat.le_trans (Nat.le_of_eq (RowState.K_of_eof he)) (Nat.le_trans h3.1.1 H2)
    | inr hlt => exact Nat.le_trans (RowState.K_le r3) (Nat.le_trans hlt H2)
  · cases e; exact row_of_RowKV hD (h2.2 (h1.2 hp) nofun).1

theorem rowsLoop_step' {n} (ih : ParserSpecs n) : ParserSpec.rowsLoop (n + 1) := by
  intro d r cols acc; rw [rowsLoop]
  refine (ih.rowNext d r cols).elim (fun ⟨o, r1⟩ h1 => ?_) trivial (fun hd => fuel_le hd (j := 0) (RowState.M_le_K r))
  cases o with
  | none => exact ⟨h1.1, fun hD hp hacc => ⟨hacc, (h1.2 hD hp).1⟩⟩
  | some row =>
    have h1' : r1.K + 1 ≤ r.K := h1.1
    exact (ih.rowsLoop d r1 cols _).mono (fun hd => fuel_le hd h1')
      (fun _ h => ⟨Nat.le_trans h.1 (Nat.le_of_succ_le h1'),
        fun hD hp hacc => h.2 hD (h1.2 hD hp).1 (forall_mem_snoc hacc ((h1.2 hD hp).2 row rfl))⟩)

/-! ### the header, `parse_grid` -/

theorem gridHeader_step {n} (ih : ParserSpecs n) : ParserSpec.gridHeader (n + 1) := by
  intro d p; rw [gridHeader]
  -- `parse_nested_grid_start`
  generalize hb : (ite (p.isChar 60 = true) _ _ : Res (Bool × PS)) = start
  have hs : start.Sat (n + 1) (8 * p.M + 2) (fun o => o.2.M ≤ p.M ∧ (PSok p → PSok o.2)) := by
    rw [← hb]
    refine Res.Sat.ite_intro (fun _ => ?_) (fun _ => ⟨Nat.le_refl _, id⟩)
    have S : p.sc.mu + 0 ≤ p.M := PS.mu_le_M p
    refine PS.read_step S (fun p1 h1 => ?_) trivial id
    have S1 : p1.sc.mu + 0 ≤ p.M := Nat.le_trans (PS.mu_le_M p1) h1.1
    dsimp only
    refine Res.Sat.guard_intro (fun _ => ?_)
    refine (consumeWhiteSpaces_spec (n + 1) p1.sc).elim (fun sc' h2 => ?_) trivial
      (fun hd => (by omega : n + 1 ≤ 8 * p.M + 2))
    dsimp only
    exact PS.read_step (p := { sc := sc', tok := p1.tok }) (add_le_trans h2 S1)
      (fun p2 h3 => ⟨h3.1, fun _ => h3.2.2⟩) trivial id
  clear hb
  refine hs.elim (fun ⟨nested, p0⟩ h0 => ?_) trivial (fun hd => Nat.le_trans hd (Nat.add_le_add_left (by decide) _))
  dsimp only at h0 ⊢
  -- `parse_grid_ver`: `ver`, `:` and the version string are three tokens
  split
  next name hid =>
    have S0 : p0.sc.mu + 1 ≤ p.M := PS.M_of_tok (PS.tokNone_of_tok hid) ▸ h0.1
    refine Res.Sat.ite_intro (fun _ => trivial) (fun _ => ?_)
    refine PS.read_step S0 (fun p1 h1 => ?_) trivial id
    dsimp only
    refine Res.Sat.guard_intro (fun hc => ?_)
    have S1 : p1.sc.mu + 2 ≤ p.M := PS.S_of_tok (PS.tokNone_of_isChar hc) h1.1
    refine PS.read_step S1 (fun p2 h2 => ?_) trivial id
    dsimp only
    split
    next ver hval =>
      have S2 : p2.sc.mu + 3 ≤ p.M := PS.S_of_tok (PS.tokNone_of_tok hval) h2.1
      refine PS.read_step S2 (fun p3 h3 => ?_) trivial id
      have H3 : p3.M + 3 ≤ p.M := h3.1
      dsimp only
      refine (ih.dictParts d p3 false []).elim (fun ⟨mkvs, p4⟩ h4 => ?_) trivial (fun hd => fuel_le hd H3)
      dsimp only at h4 ⊢
      have S4 : p4.sc.mu + 3 ≤ p.M := add_le_trans (Nat.le_trans h4.1 (PS.mu_le_M p3)) H3
      refine Res.Sat.guard_intro (fun _ => ?_)
      refine (ih.gridColumns d p4 []).elim (fun ⟨cols, p5⟩ h5 => ?_) trivial (fun hd => fuel_le hd S4)
      dsimp only at h5 ⊢
      have S5 : p5.sc.mu + 3 ≤ p.M := add_le_trans h5.1 S4
      refine Res.Sat.guard_intro (fun _ => ?_)
      refine PS.read_step S5 (fun p6 h6 => ⟨Nat.le_of_succ_le h6.1, fun hD _ => ?_⟩) trivial id
      exact ⟨meta_ok hD (h4.2 hD h3.2.2 nofun).1 rfl, (h5.2 hD nofun).1, (h5.2 hD nofun).2.1, h6.2.2⟩
    all_goals exact trivial
  all_goals exact trivial

theorem grid_step {n} (ih : ParserSpecs n) : ParserSpec.parseGrid (n + 1) := by
  intro d p; rw [parseGrid]
  refine (ih.gridHeader d p).elim (fun ⟨⟨md, cols, ver⟩, r⟩ h1 => ?_) trivial
    (fun hd => fuel_le hd (Nat.le_refl (p.M + 0)))
  dsimp only at h1 ⊢
  -- the header consumed two units; the iterator measure `K` is at most one above `M`
  have H1 : r.K + 1 ≤ p.M := Nat.le_trans (Nat.succ_le_succ (RowState.K_le r)) h1.1
  refine (ih.rowsLoop d r _ []).elim (fun ⟨rows, r1⟩ h2 => ?_) trivial (fun hd => fuel_le hd H1)
  dsimp only at h2 ⊢
  refine ⟨?_, fun hD hp => ?_⟩
  · have := PS.M_le p
    exact Nat.le_trans (PS.mu_le_M r1.p) (Nat.le_trans (RowState.M_le_K r1) (Nat.le_trans h2.1 (by omega)))
  · obtain ⟨hm, hcs, hne, hpr⟩ := h1.2 hD hp
    obtain ⟨hrows, hp1⟩ := h2.2 hD hpr nofun
    exact ⟨grid_ok hD hm hcs hne hrows, hp1⟩

/-! ### all thirteen, by induction on the fuel -/

theorem parserSpecs : ∀ fuel, ParserSpecs fuel := by
  intro fuel
  induction fuel with
  | zero =>
    -- the first `intro` unfolds the `ParserSpec.…` definition
    constructor <;> intro <;> intros <;>
      simp only [parseValue, parseList, listLoop, parseDict, dictParts, colMeta, gridColumns, consumeEnd, rowLoop,
        rowNext, rowsLoop, gridHeader, parseGrid, Res.Sat_diverge, Nat.zero_le]
  | succ n ih =>
    exact {
      parseValue := value_step ih
      parseList := list_step ih
      listLoop := listLoop_step ih
      parseDict := dict_step ih
      dictParts := dictParts_step ih
      colMeta := colMeta_step ih
      gridColumns := gridColumns_step ih
      consumeEnd := consumeEnd_step n
      rowLoop := rowLoop_step ih
      rowNext := rowNext_step ih
      rowsLoop := rowsLoop_step' ih
      gridHeader := gridHeader_step ih
      parseGrid := grid_step ih }

end Zinc
end Hs

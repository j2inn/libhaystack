/-
  Hs.Lemmas.HaysonMembers — what `Denotes` says about the MEMBER NAMES of an object, whatever reads it: the names
  each kind lists are pairwise distinct, the tag members of a dict object carry the dict's keys.  Used by the
  visitor's read direction, by the reference reader's, and by the order hypotheses (`OrdOK`) alike.
-/
import Hs.Spec.HaysonDenote
import Hs.Lemmas.HaysonOrd
namespace Hs.Spec.Hayson
open Hs Hs.Hayson

@[simp] theorem kindMem_fst (kind : String) : (kindMem kind).1 = s "_kind" := rfl
@[simp] theorem kindMem_snd (kind : String) : (kindMem kind).2 = .str (s kind) := rfl

theorem names_val {j : Json} : (s "_kind" :: [(s "val", j)].map (·.1)).Nodup := by simp [s_inj]
theorem names_valOpt {name : String} (h1 : name ≠ "_kind") (h2 : name ≠ "val") {o : Option (List Char)} {om : Mems}
    {j : Json} (ho : OptStr name o om) : (s "_kind" :: ((s "val", j) :: om).map (·.1)).Nodup := by
  cases ho <;> simp [s_inj, h1.symm, h2.symm]
theorem names_number {u : Option (List Char)} {um : Mems} {j : Json} (hu : OptUnit u um) :
    (s "_kind" :: ((s "val", j) :: um).map (·.1)).Nodup := by
  cases hu <;> simp [s_inj]
theorem names_coord {a b : Json} : (s "_kind" :: [(s "lat", a), (s "lng", b)].map (·.1)).Nodup := by simp [s_inj]
theorem names_xstr {a b : Json} : (s "_kind" :: [(s "type", a), (s "val", b)].map (·.1)).Nodup := by simp [s_inj]
theorem names_grid3 {a b : Json} : (s "_kind" :: [(s "cols", a), (s "rows", b)].map (·.1)).Nodup := by simp [s_inj]
theorem names_grid4 {m a b : Json} : (s "_kind" :: [(s "meta", m), (s "cols", a), (s "rows", b)].map (·.1)).Nodup := by
  simp [s_inj]

theorem noKind_of_names {rest : Mems} (hd : (s "_kind" :: rest.map (·.1)).Nodup) : ∀ p ∈ rest, p.1 ≠ s "_kind" :=
  fun _ hp e => (List.nodup_cons.mp hd).1 (e ▸ List.mem_map_of_mem hp)

theorem keys_of_denotesM : {t : Tags} → {tm : Mems} → DenotesM t tm → tm.map (·.1) = t.keys
  | _, _, .nil => rfl
  | _, _, .cons _ hm => by simp [Tags.keys, keys_of_denotesM hm]

theorem tagMembers_nodup {t : Tags} {tm : Mems} (hm : tm.map (·.1) = t.keys) (hk : TagKeys t) :
    (s "_kind" :: tm.map (·.1)).Nodup :=
  hm ▸ List.nodup_cons.mpr ⟨fun h => hk.2 _ h rfl, ((strictSorted_iff _).mp hk.1).nodup⟩

theorem metaMembers_nodup {t : Tags} {tm vm : Mems} {ver : List Char} (hm : tm.map (·.1) = t.keys) (hk : TagKeys t)
    (hnv : ∀ k ∈ t.keys, k ≠ s "ver") (hvm : OptVer ver vm) : (s "_kind" :: (vm ++ tm).map (·.1)).Nodup := by
  have h := tagMembers_nodup hm hk
  cases hvm with
  | absent => exact h
  | present =>
    simp only [List.cons_append, List.nil_append, List.map_cons, List.nodup_cons, List.mem_cons, not_or] at h ⊢
    exact ⟨⟨by simp [s_inj], h.1⟩, fun h' => hnv _ (hm ▸ h') rfl, h.2⟩

end Hs.Spec.Hayson

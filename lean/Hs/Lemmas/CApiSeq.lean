/-
  Lemmas for C17: the pool (`pget`/`pset`/`perase`), `Vals` against core `List` operations.
-/
import Hs.Model.CApi
import Hs.Lemmas.Views
namespace Hs.CApi
open Hs

theorem pget_pset_same {α} (p : List (Nat × α)) (h : Nat) (x : α) (hx : (pget p h).isSome) :
    pget (pset p h x) h = some x := by
  induction p with
  | nil => simp [pget] at hx
  | cons kv t ih =>
    obtain ⟨k, v⟩ := kv
    by_cases hk : k = h
    · simp [pset, pget, hk]
    · simp [pset, pget, hk] at hx ⊢
      exact ih hx

theorem pget_pset_other {α} (p : List (Nat × α)) (h h' : Nat) (x : α) (hne : h' ≠ h) :
    pget (pset p h x) h' = pget p h' := by
  induction p with
  | nil => simp [pset, pget]
  | cons kv t ih =>
    obtain ⟨k, v⟩ := kv
    by_cases hk : k = h
    · have : k ≠ h' := by intro e; exact hne (e ▸ hk.symm ▸ rfl)
      simp [pset, pget, hk, ih]
      subst hk
      simp [this]
    · simp [pset, pget, hk, ih]

theorem pget_perase_other {α} (p : List (Nat × α)) (h h' : Nat) (hne : h' ≠ h) :
    pget (perase p h) h' = pget p h' := by
  induction p with
  | nil => simp [perase, pget]
  | cons kv t ih =>
    obtain ⟨k, v⟩ := kv
    by_cases hk : k = h
    · subst hk
      have : k ≠ h' := fun e => hne e.symm
      simp [perase, pget, ih, this]
    · simp [perase, pget, hk, ih]

theorem pget_perase_same {α} (p : List (Nat × α)) (h : Nat) : pget (perase p h) h = none := by
  induction p with
  | nil => simp [perase, pget]
  | cons kv t ih =>
    obtain ⟨k, v⟩ := kv
    by_cases hk : k = h
    · simp [perase, hk, ih]
    · simp [perase, pget, hk, ih]

theorem pget_cons_same {α} (p : List (Nat × α)) (k : Nat) (v : α) : pget ((k, v) :: p) k = some v := by
  simp [pget]

def AgreeOff (h : Nat) (s0 s : CState) : Prop := ∀ h', h' ≠ h → pget s0.pool h' = pget s.pool h'

theorem val?_congr {s s' : CState} {h : Nat} (hs : AgreeOff h s' s) : ∀ e, e ≠ some h → s'.val? e = s.val? e
  | none, _ => rfl
  | some _, hne => hs _ (fun e => hne (congrArg some e))

theorem toList_ofList (l : List Val) : (Vals.ofList l).toList = l := Vals.toList_ofList l

theorem toList_vPush : (xs : Vals) → (x : Val) → (vPush xs x).toList = xs.toList ++ [x]
  | .nil, _ => rfl
  | .cons v vs, x => by simp [vPush, Vals.toList, toList_vPush vs x]

theorem vGet?_eq : (xs : Vals) → (i : Nat) → vGet? xs i = xs.toList[i]?
  | .nil, _ | .cons v vs, 0 => by simp [vGet?, Vals.toList]
  | .cons v vs, i + 1 => by simp [vGet?, Vals.toList, vGet?_eq vs i]

theorem toList_vSet : (xs : Vals) → (i : Nat) → (x : Val) → (vSet xs i x).toList = xs.toList.set i x
  | .nil, _, _ | .cons v vs, 0, x => by simp [vSet, Vals.toList]
  | .cons v vs, i + 1, x => by simp [vSet, Vals.toList, toList_vSet vs i x]

theorem toList_vRemoveAt : (xs : Vals) → (i : Nat) → (vRemoveAt xs i).toList = xs.toList.eraseIdx i
  | .nil, _ | .cons v vs, 0 => by simp [vRemoveAt, Vals.toList]
  | .cons v vs, i + 1 => by simp [vRemoveAt, Vals.toList, toList_vRemoveAt vs i]

end Hs.CApi

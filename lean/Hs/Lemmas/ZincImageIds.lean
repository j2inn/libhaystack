/-
  C11, decoder image invariant: the id alphabets.  A run of bytes of the literal class or of the Ref class, read as a
  text, satisfies the side condition the round trip of C01 asks of an identifier, a capitalised name, a Ref id, a
  Symbol body (`isIdent`, `isUpperName`, `isRefId`, `isSymBody`).  The readers that collect such runs are walked in
  `ZincTotalLex`.
-/
import Hs.Lemmas.ZincByteClass
namespace Hs.Zinc
open Hs Hs.Scan

/-! ### ASCII bytes as characters -/

/-- the shape of `isIdent`, `isUpperName`, `isSymBody` on a text read off bytes: a first byte of class `F`, then
bytes of the ASCII class `C` -/
theorem headRest_chr {F C : UInt8 → Bool} (hC : ∀ b, C b = true → b.toNat < 128) {b : UInt8} {bs : List UInt8}
    (h128 : b.toNat < 128) (hb : F b = true) (hbs : ∀ x ∈ bs, C x = true) :
    (decide ((chr b).toNat < 128) && F (byteOf (chr b)) && AllB C (bs.map chr)) = true := by
  rw [chr_toNat b h128, byteOf_chr b h128, hb, AllB_map_chr bs (fun x hx => ⟨hC x (hbs x hx), hbs x hx⟩)]
  simpa using h128

/-! ### the id alphabets are ASCII -/

theorem isRefB_ascii (b : UInt8) (h : isRefB b = true) : b.toNat < 128 := by
  simp only [isRefB, isAlnumB, isDigitB, isLowerB, isUpperB, isRefPunct, Bool.or_eq_true, Bool.and_eq_true,
    decide_eq_true_eq, beq_iff_eq, UInt8.le_iff_toNat_le, ← UInt8.toNat_inj] at h
  simp only [UInt8.toNat_ofNat] at h
  omega

theorem isLit_ref (b : UInt8) (h : isLitB b = true) : isRefB b = true := by
  simp only [isLitB, Bool.or_eq_true] at h
  simp only [isRefB, isRefPunct, Bool.or_eq_true]
  exact h.imp id Or.inr

theorem isLitB_ascii (b : UInt8) (h : isLitB b = true) : b.toNat < 128 := isRefB_ascii b (isLit_ref b h)

/-! ### runs of the id alphabets as texts -/

theorem lossy_class {C : UInt8 → Bool} (hC : ∀ b, C b = true → b.toNat < 128) {bs : List UInt8}
    (hbs : ∀ x ∈ bs, C x = true) : lossy bs = bs.map chr :=
  lossy_ascii _ (fun x hx => hC x (hbs x hx))

/-- what `parse_literal` returns from `s` -/
def LitText (s : Scan) (lit : List Char) : Prop :=
  ∃ bs : List UInt8, lit = chr s.cur :: bs.map chr ∧ isLitB s.cur = true ∧ ∀ b ∈ bs, isLitB b = true

theorem LitText.of_run {s : Scan} {acc : List UInt8} (hr : ∃ r, acc = s.cur :: r)
    (hall : ∀ b ∈ acc, isLitB b = true) : LitText s (lossy acc) := by
  obtain ⟨r, rfl⟩ := hr
  exact ⟨r, lossy_class isLitB_ascii hall, hall _ (by simp), fun b hb => hall b (by simp [hb])⟩

theorem LitText.ident {s : Scan} {lit : List Char} (h : LitText s lit) (hl : isLowerB s.cur = true) :
    isIdent lit = true := by
  obtain ⟨bs, rfl, hc, hb⟩ := h
  exact headRest_chr isLitB_ascii (isLitB_ascii _ hc) hl hb

theorem LitText.upper {s : Scan} {lit : List Char} (h : LitText s lit) (hu : isUpperB s.cur = true) :
    isUpperName lit = true := by
  obtain ⟨bs, rfl, hc, hb⟩ := h
  exact headRest_chr isLitB_ascii (isLitB_ascii _ hc) hu hb

theorem isRefId_of_bytes {acc : List UInt8} (hne : acc.isEmpty = false) (h : ∀ x ∈ acc, isRefB x = true) :
    isRefId (lossy acc) = true := by
  rw [lossy_class isRefB_ascii h]
  simp only [isRefId, Bool.and_eq_true, Bool.not_eq_true', List.isEmpty_map]
  exact ⟨hne, AllB_map_chr acc (fun x hx => ⟨isRefB_ascii x (h x hx), h x hx⟩)⟩

theorem isSymBody_of_bytes {b : UInt8} {r : List UInt8} (hl : isLowerB b = true) (h : ∀ x ∈ b :: r, isRefB x = true) :
    isSymBody (lossy (b :: r)) = true := by
  rw [lossy_class isRefB_ascii h]
  exact headRest_chr isRefB_ascii (isRefB_ascii _ (h b (by simp))) hl (fun x hx => h x (by simp [hx]))

end Hs.Zinc

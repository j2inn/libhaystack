/-
  C04 (write direction): the parts of a scalar that the reference reader reads with a function of their own —
  `decimal`, `dateP`, `timeP`, `zoneP` — on the writer's texts, and what `dateP` and `timeP` refuse: the shape test of
  `scalar` tries date, time, number in this order, so a number text must be neither a date nor a time, and a time
  text not a date.  The grammar's decimal `["-"] digits ["." digits] [exp]` wants a digit on both sides of the point
  (`strictDec`).
-/
import Hs.Lemmas.SpecRtBasic
import Hs.Lemmas.ZincStrict
import Hs.Lemmas.ZincTexts
namespace Hs.Spec
open Hs Hs.Zinc Hs.Scan

/-- piece of `decimal`: the sign -/
def decSign (i : In) : In × In := match i with
  | 45 :: r => ([45], r)
  | r => (([] : In), r)
/-- piece of `decimal`: the fraction -/
def decFrac (r1 : In) : In × In := match r1 with
  | 46 :: c :: r => if isDigit c then let (f, t) := digitsU (c :: r); ([46] ++ f, t) else (([] : In), r1)
  | _ => (([] : In), r1)
/-- piece of `decimal`: the exponent -/
def decExp (r2 : In) : In × In := match r2 with
  | e :: rest =>
    if e == 101 || e == 69 then
      let (sg, r) := match rest with
        | 43 :: r => ([43], r)
        | 45 :: r => ([45], r)
        | r => (([] : In), r)
      match r with
      | c :: _ => if isDigit c then let (d, t) := digitsU r; ([101] ++ sg ++ d, t) else (([] : In), r2)
      | [] => (([] : In), r2)
    else (([] : In), r2)
  | [] => (([] : In), r2)

theorem decimal_eq (allowExp : Bool) (i : In) : decimal allowExp i =
    (match (decSign i).2 with
     | b :: _ =>
       if !isDigit b then none else
       some ((decSign i).1 ++ (digitsU (decSign i).2).1 ++ (decFrac (digitsU (decSign i).2).2).1 ++
          (if !allowExp then (([] : In), (decFrac (digitsU (decSign i).2).2).2)
            else decExp (decFrac (digitsU (decSign i).2).2).2).1,
          (if !allowExp then (([] : In), (decFrac (digitsU (decSign i).2).2).2)
            else decExp (decFrac (digitsU (decSign i).2).2).2).2)
     | [] => none) := by
  rfl

/-- the class of `digitsU`'s loop -/
def isDigU (b : UInt8) : Bool := isDigit b || b == 95

theorem digitsU_rt (ds rest : List UInt8) (hds : ∀ b ∈ ds, isDigitB b = true) (hst : Stop isDigU rest) :
    digitsU (ds ++ rest) = (ds, rest) := by
  unfold digitsU
  have : span (fun b => isDigit b || b == 95) (ds ++ rest) = (ds, rest) :=
    span_all _ ds rest (fun b hb => by simp [isDigit_eq, hds b hb]) hst
  rw [this]
  simp only [Prod.mk.injEq, and_true]
  rw [List.filter_eq_self]
  intro b hb; exact hds b hb

/-- what may follow a decimal text read with exponents allowed: not an exponent -/
def NoExp (rest : List UInt8) : Prop :=
  ∀ e r, rest = e :: r → (e = 101 ∨ e = 69) → ∀ c r', r = c :: r' → isDigitB c = false ∧ c ≠ 43 ∧ c ≠ 45

theorem decExp_none {rest : List UInt8} (h : NoExp rest) : decExp rest = ([], rest) := by
  cases rest with
  | nil => rfl
  | cons e r =>
    by_cases he : e = 101 ∨ e = 69
    · cases r with
      | nil => rcases he with rfl | rfl <;> simp [decExp]
      | cons c r' =>
        obtain ⟨h1, h2, h3⟩ := h e (c :: r') rfl he c r' rfl
        have h1' : isDigit c = false := h1
        rcases he with rfl | rfl <;> simp [decExp, h1', h2, h3]
    · have : (e == 101 || e == 69) = false := by
        simp only [not_or] at he
        simp [he.1, he.2]
      simp [decExp, this]

def isDecCont (b : UInt8) : Bool := isDigit b || b == 95 || b == 46

theorem stop_digU {rest : List UInt8} (h : Stop isDecCont rest) : Stop isDigU rest := by
  intro b r e
  have := h b r e
  simp only [isDecCont, Bool.or_eq_false_iff] at this
  simp [isDigU, this.1.1, this.1.2]

theorem decFrac_rt {fp rest : List UInt8}
    (hfp : fp = [] ∨ ∃ c fr, fp = 46 :: c :: fr ∧ ∀ x ∈ c :: fr, isDigitB x = true) (h : Stop isDecCont rest) :
    decFrac (fp ++ rest) = (fp, rest) := by
  rcases hfp with rfl | ⟨c, fr, rfl, hfr⟩
  · cases rest with
    | nil => rfl
    | cons b r =>
      have := h b r rfl
      simp only [isDecCont, Bool.or_eq_false_iff, beq_eq_false_iff_ne, ne_eq] at this
      unfold decFrac
      split
      · rename_i heq; cases heq; exact absurd rfl this.2
      · rfl
  · have hd := digitsU_rt (c :: fr) rest hfr (stop_digU h)
    have hc : isDigit c = true := hfr c (by simp)
    simp only [List.cons_append] at hd ⊢
    simp [decFrac, hc, hd]

theorem decimal_body (allowExp : Bool) (sg : List UInt8) (hsg : sg = [] ∨ sg = [45]) (body : List UInt8)
    (hp : DecParts body) (rest : List UInt8) (hst : Stop isDecCont rest) (hexp : allowExp = true → NoExp rest) :
    decimal allowExp (sg ++ body ++ rest) = some (sg ++ body, rest) := by
  obtain ⟨b, ip, fp, rfl, hip, hfp⟩ := hp
  have hb : isDigit b = true := hip b (by simp)
  have hs : decSign (sg ++ (b :: ip ++ fp) ++ rest) = (sg, b :: ip ++ (fp ++ rest)) := by
    rcases hsg with rfl | rfl
    · simp only [List.nil_append, List.cons_append, List.append_assoc]
      unfold decSign
      split
      · rename_i heq; cases heq; exact absurd rfl (digit_ne_45 hb)
      · rfl
    · simp [decSign]
  have hd : digitsU (b :: ip ++ (fp ++ rest)) = (b :: ip, fp ++ rest) := by
    refine digitsU_rt (b :: ip) _ hip ?_
    rcases hfp with rfl | ⟨c, fr, rfl, _⟩
    · exact stop_digU hst
    · exact Stop_cons (by decide)
  have hex : (if !allowExp then (([] : In), rest) else decExp rest) = ([], rest) := by
    cases allowExp with
    | false => rfl
    | true => simp [decExp_none (hexp rfl)]
  rw [decimal_eq, hs]
  simp only [hd, decFrac_rt hfp hst, hex]
  simp [hb]

theorem decimal_rt (allowExp : Bool) (tb : List UInt8) (h : strictDec tb = true) (rest : List UInt8)
    (hst : Stop isDecCont rest) (hexp : allowExp = true → NoExp rest) :
    decimal allowExp (tb ++ rest) = some (tb, rest) := by
  unfold strictDec at h
  split at h
  · exact decimal_body allowExp [45] (Or.inr rfl) _ (strictBody_parts h) rest hst hexp
  · exact decimal_body allowExp [] (Or.inl rfl) _ (strictBody_parts h) rest hst hexp

theorem digitsNat_eq (bs : List UInt8) : Hs.Spec.digitsNat bs = Hs.Zinc.digitsNat bs := rfl

theorem four_some {i : In} {y : Nat} {r : In} (h : four i = some (y, r)) :
    ∃ a b c d, i = a :: b :: c :: d :: r ∧ isDigitB a = true ∧ isDigitB b = true ∧ isDigitB c = true ∧ isDigitB d = true := by
  unfold four at h
  split at h
  · rename_i a b c d r'
    split at h
    · rename_i hd
      simp only [Bool.and_eq_true] at hd
      simp only [Option.some.injEq, Prod.mk.injEq] at h
      exact ⟨a, b, c, d, by rw [h.2], hd.1.1.1, hd.1.1.2, hd.1.2, hd.2⟩
    · cases h
  · cases h

theorem two_some {i : In} {y : Nat} {r : In} (h : two i = some (y, r)) :
    ∃ a b, i = a :: b :: r ∧ isDigitB a = true ∧ isDigitB b = true := by
  unfold two at h
  split at h
  · rename_i a b r'
    split at h
    · rename_i hd
      simp only [Bool.and_eq_true] at hd
      simp only [Option.some.injEq, Prod.mk.injEq] at h
      exact ⟨a, b, by rw [h.2], hd.1, hd.2⟩
    · cases h
  · cases h

theorem after_digits {ds tl pre r : List UInt8} {x : UInt8} (hds : ∀ b ∈ ds, isDigitB b = true) (htl : AfterDec tl)
    (e : ds ++ tl = pre ++ x :: r) (hpre : ∀ b ∈ pre, isDigitB b = true) : x ≠ 45 ∧ x ≠ 58 := by
  cases hx : isDigitB x with
  | true => constructor <;> (intro e; subst e; cases hx)
  | false =>
    -- `x` ends the digit run, so the run is `ds` and `x` is the first byte of `tl`
    have := span_unique hds (fun b r' e' => (htl b r' e').1) hpre (Stop_cons hx) e
    exact ⟨(htl x r this.2).2.2, (htl x r this.2).2.1⟩

theorem dateP_none (ds tl : List UInt8) (hds : ∀ b ∈ ds, isDigitB b = true) (htl : AfterDec tl) :
    dateP (ds ++ tl) = none := by
  unfold dateP
  cases h4 : four (ds ++ tl) with
  | none => rfl
  | some p =>
    obtain ⟨y, r⟩ := p
    obtain ⟨a, b, c, d, e, ha, hb, hc, hd⟩ := four_some h4
    cases r with
    | nil => rfl
    | cons x r' =>
      have := after_digits (pre := [a, b, c, d]) hds htl e
        (by intro z hz; simp at hz; rcases hz with rfl | rfl | rfl | rfl <;> assumption)
      simp [this.1]

theorem dateP_minus (r : List UInt8) : dateP (45 :: r) = none := by
  unfold dateP
  cases h4 : four (45 :: r) with
  | none => rfl
  | some p =>
    obtain ⟨y, r'⟩ := p
    obtain ⟨a, b, c, d, e, ha, _⟩ := four_some h4
    simp only [List.cons.injEq] at e
    rw [← e.1] at ha; exact absurd ha (by decide)

theorem timeP_none (ds tl : List UInt8) (hds : ∀ b ∈ ds, isDigitB b = true) (htl : AfterDec tl) :
    timeP (ds ++ tl) = none := by
  unfold timeP
  cases h2 : two (ds ++ tl) with
  | none => rfl
  | some p =>
    obtain ⟨y, r⟩ := p
    obtain ⟨a, b, e, ha, hb⟩ := two_some h2
    cases r with
    | nil => rfl
    | cons x r' =>
      have := after_digits (pre := [a, b]) hds htl e
        (by intro z hz; simp at hz; rcases hz with rfl | rfl <;> assumption)
      simp [this.2]

theorem dateP_time_shape (h0 h1 : UInt8) (r : List UInt8) : dateP (h0 :: h1 :: 58 :: r) = none := by
  unfold dateP
  cases h4 : four (h0 :: h1 :: 58 :: r) with
  | none => rfl
  | some p =>
    obtain ⟨y, r'⟩ := p
    obtain ⟨a, b, c, d, e, _, _, hc, _⟩ := four_some h4
    simp only [List.cons.injEq] at e
    rw [← e.2.2.1] at hc; exact absurd hc (by decide)

theorem dateP_rt (y0 y1 y2 y3 m0 m1 d0 d1 : UInt8)
    (hdg : DateDigits y0 y1 y2 y3 m0 m1 d0 d1) (d : Date) (hmk : mkDate [y0, y1, y2, y3, 45, m0, m1, 45, d0, d1] = some d) (rest : List UInt8) :
    dateP (y0 :: y1 :: y2 :: y3 :: 45 :: m0 :: m1 :: 45 :: d0 :: d1 :: rest) = some (d, rest) := by
  unfold mkDate at hmk
  simp only [List.take, List.drop] at hmk
  split at hmk
  · rename_i hc
    simp only [Option.some.injEq] at hmk
    unfold dateP
    simp only [four, two, isDigit_eq, hdg.y0, hdg.y1, hdg.y2, hdg.y3, hdg.m0, hdg.m1, hdg.d0, hdg.d1, Bool.and_self, if_true, digitsNat_eq, hc]
    simp [← hmk, chars_eq]
  · cases hmk

/-- piece of `timeP`: the fraction of the seconds -/
def timeFrac (r3 : In) : Nat × In := match r3 with
  | 46 :: c :: r => if isDigit c then let (f, t) := span isDigit (c :: r); (Hs.Zinc.fracNanos f, t) else (0, r3)
  | _ => (0, r3)

/-- piece of `timeP`: the range tests and the leap second -/
def timeMk (h mi s : Nat) (fr : Nat × In) : Option (Time × In) :=
  if h < 24 && mi < 60 && s ≤ 60 then
    let (s', ns') := if s == 60 then (59, fr.1 + 1000000000) else (s, fr.1)
    some ({ h := h, mi := mi, s := s', ns := ns', txt := Hs.Zinc.timeText h mi s' ns' }, fr.2)
  else none

theorem timeP_eq (h0 h1 m0 m1 s0 s1 : UInt8)
    (htg : TimeDigits h0 h1 m0 m1 s0 s1) (r3 : List UInt8) :
    timeP (h0 :: h1 :: 58 :: m0 :: m1 :: 58 :: s0 :: s1 :: r3) =
      timeMk (Hs.Zinc.digitsNat [h0, h1]) (Hs.Zinc.digitsNat [m0, m1]) (Hs.Zinc.digitsNat [s0, s1]) (timeFrac r3) := by
  unfold timeP
  simp only [two, isDigit_eq, htg.h0, htg.h1, htg.m0, htg.m1, htg.s0, htg.s1, Bool.and_self, if_true, digitsNat_eq]
  rfl

def fracText : Option (List UInt8) → List UInt8
  | none => []
  | some f => 46 :: f
def fracNs : Option (List UInt8) → Nat
  | none => 0
  | some f => fracNanos f

theorem timeMk_rt (hms : List UInt8) (fr : Option (List UInt8)) (t : Time) (hmk : mkTime hms fr = some t)
    (rest : List UInt8) :
    timeMk (Hs.Zinc.digitsNat (hms.take 2)) (Hs.Zinc.digitsNat ((hms.drop 3).take 2))
      (Hs.Zinc.digitsNat ((hms.drop 6).take 2)) (fracNs fr, rest) = some (t, rest) := by
  unfold timeMk
  -- with or without a fraction `mkTime` makes the same tests and one more
  cases fr
  all_goals
    simp only [mkTime] at hmk
    split at hmk
    · rename_i hc
      simp only [Bool.and_eq_true] at hc
      rw [if_pos (by simp only [Bool.and_eq_true]; exact hc.1)]
      simp only [Option.some.injEq] at hmk
      subst hmk
      by_cases h60 : (Zinc.digitsNat (List.take 2 (List.drop 6 hms)) == 60) = true <;> simp [h60, fracNs]
    · cases hmk

theorem timeFrac_rt (fr : Option (List UInt8)) (hfr : ∀ f, fr = some f → f ≠ [] ∧ ∀ b ∈ f, isDigitB b = true)
    (rest : List UInt8) (hst : Stop isDigitB rest) (hdot : ∀ r, rest ≠ 46 :: r) :
    timeFrac (fracText fr ++ rest) = (fracNs fr, rest) := by
  cases fr with
  | none =>
    show timeFrac rest = (0, rest)
    unfold timeFrac
    split
    · rename_i c r; exact absurd rfl (hdot (c :: r))
    · rfl
  | some f =>
    obtain ⟨hne, hd⟩ := hfr f rfl
    cases f with
    | nil => exact absurd rfl hne
    | cons f0 f' =>
      have hsp := span_all isDigitB (f0 :: f') rest hd hst
      have hf0 : isDigit f0 = true := hd f0 (by simp)
      simp only [List.cons_append] at hsp
      simp [fracText, fracNs, timeFrac, hf0, show span isDigit = span isDigitB from rfl, hsp]

theorem timeP_rt (h0 h1 m0 m1 s0 s1 : UInt8)
    (htg : TimeDigits h0 h1 m0 m1 s0 s1)
    (fr : Option (List UInt8)) (hfr : ∀ f, fr = some f → f ≠ [] ∧ ∀ b ∈ f, isDigitB b = true)
    (t : Time) (hmk : mkTime [h0, h1, 58, m0, m1, 58, s0, s1] fr = some t) (rest : List UInt8)
    (hst : Stop isDigitB rest) (hdot : ∀ r, rest ≠ 46 :: r) :
    timeP (h0 :: h1 :: 58 :: m0 :: m1 :: 58 :: s0 :: s1 :: (fracText fr ++ rest)) = some (t, rest) := by
  rw [timeP_eq h0 h1 m0 m1 s0 s1 htg, timeFrac_rt fr hfr rest hst hdot]
  exact timeMk_rt _ fr t hmk rest

theorem span_tzname (name rest : List UInt8) (hn : tzNameOk name = true) (hst : Stop isTzB rest) :
    ∃ c r, name = c :: r ∧ isUpperB c = true ∧ span isTzChar (c :: (r ++ rest)) = (name, rest) := by
  obtain ⟨n0, n1, nr, rfl, hup, hall⟩ := tzNameOk_elim hn
  refine ⟨n0, n1 :: nr, rfl, hup, ?_⟩
  have h0 : isTzB n0 = true := by simp [isTzB, isAlnumB, hup]
  have := span_all isTzB (n0 :: n1 :: nr) rest (List.forall_mem_cons.mpr ⟨h0, hall⟩) hst
  simpa [isTzChar_eq, show isTzChar = isTzB from funext isTzChar_eq] using this

/-- `Z`, `Z Name`, `±hh:mm Name`, followed by a delimiter -/
theorem zoneP_rt (z : List UInt8) (hz : zoneOk z = true) (rest : List UInt8) (hd : Delim rest) :
    zoneP (z ++ rest) = some ((), rest) := by
  rcases zoneOk_cases hz with rfl | ⟨name, rfl, hn, _⟩ | ⟨sg, o0, o1, o2, o3, name, rfl, hsg, ho0, ho1, ho2, ho3, hn, _⟩
  ·
    rcases hd with rfl | ⟨b, r, rfl, hb⟩ | ⟨x, r, rfl, hx⟩
    · simp [zoneP]
    · have : b ≠ 32 := by rcases hb with h | h | h | h <;> rw [h] <;> decide
      simp [zoneP, this]
    · have : isUpperB x = false := range_disjoint hx (Or.inr (by decide))
      simp [zoneP, isUpper_eq, this]
  · obtain ⟨c, r, rfl, hc, hsp⟩ := span_tzname name rest hn (hd.stop (by decide))
    simp [zoneP, isUpper_eq, hc, hsp]
  · obtain ⟨c, r, rfl, hc, hsp⟩ := span_tzname name rest hn (hd.stop (by decide))
    rcases hsg with rfl | rfl <;>
      simp [zoneP, two, isDigit_eq, ho0, ho1, ho2, ho3, isUpper_eq, hc, hsp]

end Hs.Spec

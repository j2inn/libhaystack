/-
  What may follow a token.  A reader loop over the class `P` stops at `rest` when `Stop P rest`; the two readers that
  look two bytes ahead ask for `RefEnd rest` (Ref without display name) and `ZoneEnd rest` (timestamp), the look-ahead
  of `parse_number_date_time` for `AfterDec`.  The notions of "the text after a value" provide these: `DelimW` (any
  sentence of the grammar) and `Delim` (writer output, a special case: `Delim.toW`) through three lemmas each,
  `X.stop (by decide)`, `X.refEnd`, `X.zoneEnd`; the filter's `GDelim` through `GDelim.stop` and `Cont2.zoneEnd`
  (`FilterRtLit`), its `PDelim` through `PDelim.noId` (`FilterLex`).
-/
import Hs.Lemmas.ZincByteClass

namespace Hs.Zinc
open Hs Hs.Scan Hs.Spell

/-! ### where a class of bytes stops -/

def Stop (P : UInt8 → Bool) (rest : List UInt8) : Prop := ∀ b r, rest = b :: r → P b = false

theorem Stop_nil (P : UInt8 → Bool) : Stop P [] := by intro b r h; cases h

theorem Stop_cons {P : UInt8 → Bool} {b : UInt8} {r : List UInt8} (h : P b = false) : Stop P (b :: r) := by
  intro b' r' e; cases e; exact h

theorem Stop.head_ne {c : UInt8} {rest : List UInt8} (h : Stop (· == c) rest) : ∀ r, rest ≠ c :: r :=
  fun r e => absurd (h c r e) (by simp)

theorem Stop.takeWhile {P : UInt8 → Bool} {run rest : List UInt8} (hst : Stop P rest)
    (hrun : ∀ x ∈ run, P x = true) : (run ++ rest).takeWhile P = run ∧ (run ++ rest).dropWhile P = rest := by
  rw [List.takeWhile_append_of_pos hrun, List.dropWhile_append_of_pos hrun]
  cases rest with
  | nil => simp
  | cons b r => simp [hst b r rfl]

theorem Stop.dec {rest : List UInt8} (h : Stop isNumMoreB rest) : Stop isDecB rest := by
  intro b r e
  have := h b r e
  simp only [isNumMoreB, Bool.or_eq_false_iff] at this
  exact this.1.1

theorem Stop.unit {rest : List UInt8} (h : Stop isNumMoreB rest) : Stop isUnitB rest := by
  intro b r e
  have := h b r e
  simp only [isNumMoreB, Bool.or_eq_false_iff] at this
  exact this.1.2

/-! ### blanks and line endings -/

theorem Blanks.nil : Blanks [] := by intro b hb; cases hb

theorem Blanks.tail {b : UInt8} {ws : List UInt8} (h : Blanks (b :: ws)) : Blanks ws :=
  fun x hx => h x (by simp [hx])

theorem Blanks.head {b : UInt8} {ws : List UInt8} (h : Blanks (b :: ws)) : b = 32 ∨ b = 9 := h b (by simp)

theorem Blanks.append {a b : List UInt8} (ha : Blanks a) (hb : Blanks b) : Blanks (a ++ b) :=
  List.forall_mem_append.mpr ⟨ha, hb⟩

theorem blanks_one : Blanks [32] := by intro b hb; simp at hb; exact Or.inl hb

theorem nl_head {nl : List UInt8} (h : Nl nl) (rest : List UInt8) :
    ∃ b r, nl ++ rest = b :: r ∧ (b = 10 ∨ b = 13) := by
  cases h with
  | lf => exact ⟨10, rest, rfl, Or.inl rfl⟩
  | crlf => exact ⟨13, 10 :: rest, rfl, Or.inr rfl⟩
  | cr => exact ⟨13, rest, rfl, Or.inr rfl⟩

theorem White.tail {b : UInt8} {ws : List UInt8} (h : White (b :: ws)) : White ws := fun x hx => h x (by simp [hx])

theorem White.nil : White [] := by intro b hb; cases hb

theorem White.append {a b : List UInt8} (ha : White a) (hb : White b) : White (a ++ b) :=
  List.forall_mem_append.mpr ⟨ha, hb⟩

theorem Blanks.white {w : List UInt8} (h : Blanks w) : White w :=
  fun b hb => (h b hb).elim Or.inl fun e => Or.inr (Or.inl e)

theorem Nl.white {nl : List UInt8} (h : Nl nl) : White nl := by
  cases h <;> (unfold White; decide)

/-- a lone CR is a line ending only when no LF follows it -/
def NoLF (nl rest : List UInt8) : Prop := nl = [13] → rest.head? ≠ some 10

theorem stop_blanks {P : UInt8 → Bool} (hP : P 32 = false ∧ P 9 = false) {w : List UInt8} (hw : Blanks w) (hne : w ≠ [])
    (x : List UInt8) : Stop P (w ++ x) := by
  cases w with
  | nil => exact absurd rfl hne
  | cons b w' =>
    rcases Blanks.head hw with rfl | rfl
    · exact Stop_cons hP.1
    · exact Stop_cons hP.2

theorem stop_blanks_then {P : UInt8 → Bool} (w : List UInt8) (hw : Blanks w) (c : UInt8) (r : List UInt8)
    (hc : P c = false) (h32 : P 32 = false) (h9 : P 9 = false) : Stop P (w ++ c :: r) := by
  cases w with
  | nil => exact Stop_cons hc
  | cons b w' => exact stop_blanks ⟨h32, h9⟩ hw (List.cons_ne_nil _ _) _

/-! ### what the readers that look ahead ask for -/

/-- what may follow a Ref without display name: the reader peeks one byte after a space, and a space followed by
`"` starts a display name.  A space at the very end of the input also ends the Ref, with the scanner's
`is_eof` flag already up — that case does not occur in writer output and is not covered here -/
def RefEnd (rest : List UInt8) : Prop :=
  rest = [] ∨ (∃ b r, rest = b :: r ∧ isRefB b = false ∧ b ≠ 32) ∨ (∃ x r, rest = 32 :: x :: r ∧ x ≠ 34)

theorem RefEnd.stop {rest : List UInt8} (h : RefEnd rest) : Stop isRefB rest := by
  rcases h with rfl | ⟨b, r, rfl, hb, _⟩ | ⟨x, r, rfl, _⟩
  · exact Stop_nil _
  · exact Stop_cons hb
  · exact Stop_cons (by decide)

/-- what may follow the zone part of a timestamp: after a lone `Z`, the reader looks two bytes ahead for ` Name`, so a
space must be followed by a byte that is not an upper-case letter (a space at the very end of the input is not
covered: it does not occur in writer output) -/
def ZoneEnd (rest : List UInt8) : Prop :=
  Stop isTzB rest ∧
    (rest = [] ∨ (∃ b r, rest = b :: r ∧ b ≠ 32) ∨ (∃ y r, rest = 32 :: y :: r ∧ isUpperB y = false))

def AfterDec (U : List UInt8) : Prop := ∀ x r, U = x :: r → isDigitB x = false ∧ x ≠ 58 ∧ x ≠ 45

/-! ### what may follow a value in any sentence -/

/-- the lower-case byte after a blank is the first letter of a tag name -/
def DelimW (rest : List UInt8) : Prop :=
  rest = [] ∨ (∃ b r, rest = b :: r ∧ isEndB b = true) ∨
    (∃ w x r, rest = w :: x :: r ∧ (w = 32 ∨ w = 9) ∧ (x = 32 ∨ x = 9 ∨ isEndB x = true ∨ isLowerB x = true))

theorem DelimW.of_end {b : UInt8} (r : List UInt8) (hb : isEndB b = true) : DelimW (b :: r) :=
  Or.inr (Or.inl ⟨b, r, rfl, hb⟩)

theorem DelimW.stop {P : UInt8 → Bool} {rest : List UInt8} (h : DelimW rest)
    (hP : P 44 = false ∧ P 93 = false ∧ P 125 = false ∧ P 10 = false ∧ P 13 = false ∧ P 32 = false ∧ P 9 = false) :
    Stop P rest := by
  obtain ⟨h44, h93, h125, h10, h13, h32, h9⟩ := hP
  rcases h with rfl | ⟨b, r, rfl, hb⟩ | ⟨w, x, r, rfl, hw, _⟩
  · exact Stop_nil _
  · rcases isEndB_cases hb with rfl | rfl | rfl | rfl | rfl
    · exact Stop_cons h44
    · exact Stop_cons h93
    · exact Stop_cons h125
    · exact Stop_cons h10
    · exact Stop_cons h13
  · rcases hw with rfl | rfl
    · exact Stop_cons h32
    · exact Stop_cons h9

theorem DelimW.refEnd {rest : List UInt8} (h : DelimW rest) : RefEnd rest := by
  rcases h with rfl | ⟨b, r, rfl, hb⟩ | ⟨w, x, r, rfl, hw, hx⟩
  · exact Or.inl rfl
  · right; left
    refine ⟨b, r, rfl, ?_⟩
    rcases isEndB_cases hb with rfl | rfl | rfl | rfl | rfl <;> decide
  · rcases hw with rfl | rfl
    · right; right
      refine ⟨x, r, rfl, ?_⟩
      intro e; subst e
      rcases hx with hx | hx | hx | hx <;> revert hx <;> decide
    · right; left
      exact ⟨9, x :: r, rfl, by decide⟩

theorem not_upper_of_follow {x : UInt8} (hx : x = 32 ∨ x = 9 ∨ isEndB x = true ∨ isLowerB x = true) :
    isUpperB x = false := by
  rcases hx with rfl | rfl | hx | hx
  · decide
  · decide
  · rcases isEndB_cases hx with rfl | rfl | rfl | rfl | rfl <;> decide
  · exact not_upper_of_lower hx

theorem DelimW.zoneEnd {rest : List UInt8} (h : DelimW rest) : ZoneEnd rest := by
  refine ⟨h.stop (by decide), ?_⟩
  rcases h with rfl | ⟨b, r, rfl, hb⟩ | ⟨w, x, r, rfl, hw, hx⟩
  · exact Or.inl rfl
  · exact Or.inr (Or.inl ⟨b, r, rfl, by rintro rfl; exact absurd hb (by decide)⟩)
  · rcases hw with rfl | rfl
    · exact Or.inr (Or.inr ⟨x, r, rfl, not_upper_of_follow hx⟩)
    · exact Or.inr (Or.inl ⟨9, _, rfl, by decide⟩)

theorem DelimW_blanks {w : List UInt8} (hw : Blanks w) {c : UInt8}
    (hc : isEndB c = true ∨ (w ≠ [] ∧ isLowerB c = true)) (rest : List UInt8) : DelimW (w ++ c :: rest) := by
  cases w with
  | nil =>
    rcases hc with hc | ⟨hne, _⟩
    · exact Or.inr (Or.inl ⟨c, rest, rfl, hc⟩)
    · exact absurd rfl hne
  | cons b w' =>
    right; right
    cases w' with
    | nil =>
      refine ⟨b, c, rest, rfl, Blanks.head hw, Or.inr (Or.inr ?_)⟩
      rcases hc with hc | ⟨_, hc⟩
      · exact Or.inl hc
      · exact Or.inr hc
    | cons b' w'' =>
      refine ⟨b, b', w'' ++ c :: rest, rfl, Blanks.head hw, ?_⟩
      rcases Blanks.head (Blanks.tail hw) with h | h
      · exact Or.inl h
      · exact Or.inr (Or.inl h)

theorem DelimW_blanks_end {w : List UInt8} (hw : Blanks w) {c : UInt8} (hc : isEndB c = true) (rest : List UInt8) :
    DelimW (w ++ c :: rest) :=
  DelimW_blanks hw (Or.inl hc) rest

/-! ### what may follow a value in writer output -/

/-- `,` `]` `}` LF, or a space followed by the lower-case first letter of a tag name (grid / column meta) -/
def Delim (rest : List UInt8) : Prop :=
  rest = [] ∨ (∃ b r, rest = b :: r ∧ (b = 44 ∨ b = 93 ∨ b = 125 ∨ b = 10)) ∨
    (∃ x r, rest = 32 :: x :: r ∧ isLowerB x = true)

theorem Delim.of_end {b : UInt8} (r : List UInt8) (hb : b = 44 ∨ b = 93 ∨ b = 125 ∨ b = 10) : Delim (b :: r) :=
  Or.inr (Or.inl ⟨b, r, rfl, hb⟩)

theorem Delim.of_space {x : UInt8} (r : List UInt8) (hx : isLowerB x = true) : Delim (32 :: x :: r) :=
  Or.inr (Or.inr ⟨x, r, rfl, hx⟩)

theorem Delim.head {rest : List UInt8} (hd : Delim rest) :
    ∀ b r, rest = b :: r → b = 44 ∨ b = 93 ∨ b = 125 ∨ b = 10 ∨ b = 32 := by
  intro b r e
  rcases hd with rfl | ⟨b', r', rfl, hb⟩ | ⟨x, r', rfl, _⟩
  · cases e
  · cases e; rcases hb with h | h | h | h <;> simp [h]
  · cases e; simp

theorem Delim.toW {rest : List UInt8} (h : Delim rest) : DelimW rest := by
  rcases h with rfl | ⟨b, r, rfl, hb⟩ | ⟨x, r, rfl, hx⟩
  · exact Or.inl rfl
  · right; left; refine ⟨b, r, rfl, ?_⟩
    rcases hb with rfl | rfl | rfl | rfl <;> decide
  · right; right; exact ⟨32, x, r, rfl, Or.inl rfl, Or.inr (Or.inr (Or.inr hx))⟩

theorem Delim.stop {P : UInt8 → Bool} {rest : List UInt8} (h : Delim rest)
    (hP : P 44 = false ∧ P 93 = false ∧ P 125 = false ∧ P 10 = false ∧ P 32 = false) : Stop P rest := by
  obtain ⟨h44, h93, h125, h10, h32⟩ := hP
  rcases h with rfl | ⟨b, r, rfl, hb⟩ | ⟨x, r, rfl, _⟩
  · exact Stop_nil _
  · rcases hb with rfl | rfl | rfl | rfl
    · exact Stop_cons h44
    · exact Stop_cons h93
    · exact Stop_cons h125
    · exact Stop_cons h10
  · exact Stop_cons h32

theorem Delim.refEnd {rest : List UInt8} (h : Delim rest) : RefEnd rest := h.toW.refEnd

theorem Delim.zoneEnd {rest : List UInt8} (h : Delim rest) : ZoneEnd rest := h.toW.zoneEnd

/-! ### how a value begins -/

/-- `FirstW` below is the same, under the name the statements about sentences use -/
def FirstOk (bs : List UInt8) : Prop := ∃ b r, bs = b :: r ∧ b ≠ 32 ∧ b ≠ 9 ∧ b ≠ 13 ∧ b ≠ 10

def FirstW (bs : List UInt8) : Prop := ∃ b r, bs = b :: r ∧ b ≠ 32 ∧ b ≠ 9 ∧ b ≠ 13 ∧ b ≠ 10

theorem firstW_cons (b : UInt8) (r : List UInt8) (h : b ≠ 32 ∧ b ≠ 9 ∧ b ≠ 13 ∧ b ≠ 10) : FirstW (b :: r) :=
  ⟨b, r, rfl, h⟩

theorem FirstW.of_head {P : UInt8 → Bool} (hP : P 32 = false ∧ P 9 = false ∧ P 13 = false ∧ P 10 = false) {b : UInt8}
    (hb : P b = true) (r : List UInt8) : FirstW (b :: r) :=
  have ⟨h32, h9, h13, h10⟩ := hP
  ⟨b, r, rfl, ne_of_class hb h32, ne_of_class hb h9, ne_of_class hb h13, ne_of_class hb h10⟩

theorem FirstW.ok {bs : List UInt8} (h : FirstW bs) : FirstOk bs := h

theorem FirstW.head_ne {bs : List UInt8} (h : FirstW bs) : bs.head? ≠ some 10 := by
  obtain ⟨b, r, rfl, hb⟩ := h
  simp only [List.head?_cons, ne_eq, Option.some.injEq]
  exact hb.2.2.2

theorem firstW_ident {n : List Char} (hn : isIdent n = true) (x : List UInt8) : FirstW (encChars n ++ x) := by
  obtain ⟨b, r, e, hb⟩ := isIdent_head hn
  rw [e]
  exact FirstW.of_head (P := isLowerB) (by decide) hb _

theorem firstW_of_digit (b : UInt8) (r : List UInt8) (h : isDigitB b = true) : FirstW (b :: r) :=
  FirstW.of_head (P := isDigitB) (by decide) h r

end Hs.Zinc

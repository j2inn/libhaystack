/-
  C04 read direction: the token and value framing statements for an arbitrary spelling (`TokW`, `RdB`: what may
  follow is `DelimW` of `ZincFollow`), and the token statements for keywords, identifiers, Ref, Symbol, Str, Uri, XStr
  on every spelling.
-/
import Hs.Lemmas.ZincRtVal
import Hs.Lemmas.ZincRtDate
namespace Hs.Zinc
open Hs Hs.Scan Hs.Spell

/-! ### framing statements for an arbitrary text -/

def TokW (bs : List UInt8) (img : Val) : Prop :=
  ∀ (s : Scan) (rest : List UInt8) (fuel : Nat), At s (bs ++ rest) → s.stash = [] → DelimW rest →
    bs.length + 3 ≤ fuel → ∃ s', lexRead fuel s = .ok { sc := s', tok := .val img } ∧ Post s' rest

def RdB (bs : List UInt8) (img : Val) (n : Nat) : Prop :=
  ∀ (depth f1 f2 : Nat) (s : Scan) (rest : List UInt8), At s (bs ++ rest) → s.stash = [] → DelimW rest →
    4 * bs.length + 8 ≤ f1 → 4 * bs.length + 8 ≤ f2 → depth + n < 64 →
    ∃ p p', lexRead f1 s = .ok p ∧ (rest ≠ [] → p.sc.eof = false) ∧ Starts p ∧
      parseValue f2 depth p = .ok (img, p') ∧ Post p'.sc rest

/-! ### keyword literals before any legal continuation -/

theorem tokW_kw (cs : List Char) (hcs : isUpperName cs = true) (v : Val) (hk : keyword cs = some v) :
    TokW (encChars cs) v := by
  intro s rest fuel hat hs hd hf
  have := encChars_length_ge cs
  obtain ⟨s', e, h', hs'⟩ := lexRead_kw cs hcs v hk s rest fuel hat hs (hd.stop (by decide)) (hd.stop (by decide)).head_ne (by omega)
  exact ⟨s', e, Post.of_clean h' hs'⟩

theorem TokW.of_clean {bs : List UInt8} {img : Val}
    (h : ∀ (s : Scan) (rest : List UInt8) (fuel : Nat), At s (bs ++ rest) → s.stash = [] → DelimW rest →
      bs.length + 3 ≤ fuel → ∃ s', lexRead fuel s = .ok { sc := s', tok := .val img } ∧ At s' rest ∧ s'.stash = []) :
    TokW bs img := TokD.of_clean (D := DelimW) h

/-! ### Ref, Symbol -/

theorem tokW_ref (id : List Char) (hid : isRefId id = true) : TokW (64 :: encChars id) (.ref id none) := by
  have hid := isRefId_parts hid
  intro s rest fuel hat hs hd hf
  have hl := encChars_length_ge id
  simp only [List.length_cons] at hf
  exact lexRead_ref_nodis id hid.2 hid.1 s rest fuel hat hs hd.refEnd (by omega)

theorem tokW_sym (cs : List Char) (hcs : isSymBody cs = true) : TokW (94 :: encChars cs) (.sym cs) :=
  TokW.of_clean fun s rest fuel hat hs hd hf => by
    have hl := encChars_length_ge cs
    simp only [List.length_cons] at hf
    exact lexRead_sym cs hcs s rest fuel hat hs (hd.stop (by decide)) (by omega)

/-! ### Date, Str, Uri, Ref with a display name -/

theorem tokW_date (d : Date) (hok : dateOk d = true) : TokW (encChars d.txt) (.date d) :=
  TokW.of_clean fun s rest fuel h hs hd hf =>
    lexRead_date_of_stop d hok s rest fuel h hs (hd.stop (by decide)) (by omega)

theorem tokW_str (cs : List Char) (q : List UInt8) (hq : Quoted cs q) : TokW q (.str cs) :=
  TokW.of_clean fun s rest fuel hat hs _ hf => lexRead_str cs q hq s rest fuel hat hs (by omega)

theorem tokW_uri (cs : List Char) (body : List UInt8) (hb : UriBody cs body) :
    TokW (96 :: (body ++ [96])) (.uri cs) :=
  TokW.of_clean fun s rest fuel hat hs _ hf =>
    lexRead_uri cs body hb s rest fuel (by simpa using hat) hs (by simp at hf; omega)

theorem tokW_refDis (id dis : List Char) (hid : isRefId id = true) (q : List UInt8) (hq : Quoted dis q) :
    TokW (64 :: (encChars id ++ 32 :: q)) (.ref id (some dis)) := by
  have hid := isRefId_parts hid
  refine TokW.of_clean fun s rest fuel hat hs _ hf => ?_
  have hl := encChars_length_ge id
  simp only [List.cons_append, List.append_assoc, List.length_cons, List.length_append] at hat hf
  exact lexRead_ref_dis id hid.2 hid.1 dis q hq s rest fuel hat hs (by omega)

/-! ### XStr -/

theorem tokW_xstr (ty v : List Char) (hty : isXStrType ty = true) (q w1 w2 : List UInt8) (hq : Quoted v q)
    (h1 : Blanks w1) (h2 : Blanks w2) : TokW (encChars ty ++ 40 :: (w1 ++ q ++ w2 ++ [41])) (.xstr ty v) := by
  have hty := isXStrType_parts hty
  intro s rest fuel hat hs hd hf
  have hl := encChars_length_ge ty
  obtain ⟨f, rfl⟩ : ∃ f, fuel = f + 1 := ⟨fuel - 1, by omega⟩
  simp only [List.cons_append, List.append_assoc, List.nil_append, List.length_cons, List.length_append,
    List.length_nil] at hat hf
  obtain ⟨hat1, e⟩ := lexRead_upper ty hty.1 s (40 :: (w1 ++ (q ++ (w2 ++ 41 :: rest)))) f hat
    (Stop_cons (by decide)) (by omega)
  obtain ⟨s', e', h', hs'⟩ := parseXStrBody_sp ty v q w1 w2 hq h1 h2 (advN ty.length s) rest f hat1
    (advN_stash_nil _ _ hs) (by omega)
  refine ⟨s', ?_, Post.of_clean h' hs'⟩
  have hne : (ty == ['C']) = false := by simpa using hty.2
  rw [e, hat1.cur, hne, e']
  simp

/-- `` `a\:b\[c\u00e9` `` denotes the Uri `a\:b[cé` (seven characters: the `\:` escape is kept verbatim) -/
theorem uriBody_example :
    UriBody "a\\:b[cé".toList [97, 92, 58, 98, 92, 91, 99, 92, 117, 48, 48, 101, 57] :=
  (by decide +kernel : "a\\:b[cé".toList = ['a', '\\', ':', 'b', '[', 'c', 'é']) ▸
  (by decide +kernel : [97] ++ (92 :: 58 :: ([98] ++ ([92, 91] ++ ([99] ++ ([92, 117, 48, 48, 101, 57] ++ [])))))
      = ([97, 92, 58, 98, 92, 91, 99, 92, 117, 48, 48, 101, 57] : List UInt8)) ▸
  UriBody.cons 'a' _ _ _ ((by decide +kernel : encChar 'a' = [97]) ▸ UriCh.raw 'a' (by decide) (by decide) (by decide))
    (UriBody.keep ':' 58 (by decide) _ _
    (UriBody.cons 'b' _ _ _ ((by decide +kernel : encChar 'b' = [98]) ▸ UriCh.raw 'b' (by decide) (by decide) (by decide))
    (UriBody.cons '[' _ _ _ (UriCh.punct '[' 91 (by decide))
    (UriBody.cons 'c' _ _ _ ((by decide +kernel : encChar 'c' = [99]) ▸ UriCh.raw 'c' (by decide) (by decide) (by decide))
    (UriBody.cons 'é' _ _ _ (UriCh.u 'é' _ (UEsc.mk 'é' 48 48 101 57 (by decide) ⟨by decide, Or.inl (by decide)⟩
        ⟨by decide, Or.inl (by decide)⟩ ⟨by decide, Or.inl (by decide)⟩ ⟨by decide, Or.inl (by decide)⟩))
    UriBody.nil)))))

end Hs.Zinc

import Hs.Model.Scan

/-! String literals in test vectors.  To the unifier, as to the kernel, a literal `"…"` IS `String.ofList` of its
characters, and checking that identification costs next to nothing; EVALUATING `"…".toList` has the kernel encode the
literal to UTF-8 and decode it again, and `"…".toUTF8.toList` runs `ByteArray.toList`, a loop by well-founded
recursion.  So before a closed term full of literals is evaluated, `rw [String.toList_ofList]` / `rw [utf8_lit]`
put the characters, resp. their encodings, in the place of each literal (`simp only` does not: its index keeps
literals apart from applications). -/

namespace Hs.StrLit

theorem byteArray_toList (bs : ByteArray) : bs.toList = bs.data.toList := by
  suffices ∀ i r, ByteArray.toList.loop bs i r = r.reverse ++ bs.data.toList.drop i by
    simpa [ByteArray.toList] using this 0 []
  intro i r
  fun_induction ByteArray.toList.loop bs i r with
  | case1 i r h ih =>
    have hi : i < bs.data.toList.length := by simpa using h
    rw [ih, List.drop_eq_getElem_cons hi]
    simp [ByteArray.get!, getElem!_pos bs.data i (by simpa using hi)]
  | case2 i r h => simp [List.drop_eq_nil_of_le (Nat.le_of_not_lt h : bs.data.toList.length ≤ i)]

theorem utf8_lit (l : List Char) : (String.ofList l).toUTF8.toList = encChars l := by
  rw [byteArray_toList, String.toUTF8_eq_toByteArray, String.toByteArray_ofList, List.utf8Encode,
    List.toList_data_toByteArray]
  rfl

end Hs.StrLit

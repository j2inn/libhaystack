/-
  Hs.Lemmas.NsRelLazy — `has_relationship` two ways.

  Hs.Model.NsCache.hasRelationshipL follows the code: `fits` is called for a tag only when the loop gets there
  (each call is a cache access in the program version).  Hs.Model.NsAssoc.hasRelationship classifies every tag of
  every record up front and runs the abstract loop of Hs.Model.FilterLoops (the model of C09, whose termination
  proof it inherits).  On any `NsX`, with enough fuel for `fits`, they are the same function
  (`hasRelationshipL_eq_ns`): the abstraction C09 reasons about is exact.
-/
import Hs.Lemmas.NsAssoc
import Hs.Model.NsCache
namespace Hs.NsCache
open Hs Hs.Ns Hs.NsA

def fitTerm (fuel : Nat) (ns : Ns) (term : Option Name) (s : Name) : Bool :=
  match term with
  | some t => fitsB fuel ns s t
  | none => true

def classify (fuel : Nat) (ns : Ns) (term : Option Name) : RawVal → FLoops.DefVal
  | .absent => .absent
  | .other => .other
  | .sym s => .sym (fitTerm fuel ns term s)

theorem fits_term (fuel : Nat) (ns : Ns) (hfit : ∀ s tm, fits fuel ns s tm = .ok (fitsB fuel ns s tm))
    (term : Option Name) (s : Name) :
    fitsTermL fuel ns term s = .ok (fitTerm fuel ns term s) := by
  cases term with
  | none => rfl
  | some tm => exact hfit s tm

theorem defVal_classify (fuel : Nat) (x : NsX) (term : Option Name) (k n : Name) :
    defVal fuel x term k n = classify fuel x.ns term (rawVal x.xd k n) := by
  unfold defVal rawVal
  cases getX x.xd k with
  | none => rfl
  | some d =>
    dsimp only
    cases d.tag n with
    | none => rfl
    | some tv => cases tv <;> cases term <;> rfl

theorem classify_isSome (fuel : Nat) (ns : Ns) (term : Option Name) (v : RawVal) :
    (classify fuel ns term v).isSome = v.isSome := by
  cases v <;> cases term <;> rfl

def toStep (fuel : Nat) (x : NsX) (term : Option Name) (rel : Name) (recip : Option Name) : StepX → FLoops.Step
  | .ret b => .ret b
  | .done => .done
  | .next s q rt => .next (viewRec fuel x term rel recip s) q rt

theorem resolve_view (fuel : Nat) (x : NsX) (term : Option Name) (rel : Name) (recip : Option Name)
    (recs : List RecX) (sv : Name) :
    FLoops.resolveRec (recs.map (viewRec fuel x term rel recip)) sv
      = (resolveRecX recs sv).map (viewRec fuel x term rel recip) := by
  unfold FLoops.resolveRec resolveRecX
  induction recs with
  | nil => rfl
  | cons r rs ih =>
    simp only [List.map_cons, List.find?_cons]
    have : (viewRec fuel x term rel recip r).key = r.key := rfl
    rw [this]
    cases (r.key == some sv) with
    | true => rfl
    | false => exact ih

theorem view_entries_isEmpty (fuel : Nat) (x : NsX) (term : Option Name) (rel : Name) (recip : Option Name) (r : RecX) :
    (viewRec fuel x term rel recip r).entries.isEmpty = r.tags.isEmpty := by
  unfold viewRec
  cases r.tags <;> rfl

/-- The entry the abstract loop gets for a tag: the function `viewRec` maps over a record's tags, which the
model leaves anonymous (`view_entries`); the induction of `relInnerL_eq` runs over a suffix of the tags and has
to speak of it. -/
def entryOf (fuel : Nat) (x : NsX) (term : Option Name) (rel : Name) (recip : Option Name) (t : SubjTag) : FLoops.Entry :=
  { ref := t.ref,
    rel := defVal fuel x term t.key rel,
    recip := match recip with
      | some rc => defVal fuel x term t.key rc
      | none => .absent }

theorem view_entries (fuel : Nat) (x : NsX) (term : Option Name) (rel : Name) (recip : Option Name) (r : RecX) :
    (viewRec fuel x term rel recip r).entries = r.tags.map (entryOf fuel x term rel recip) := rfl

theorem entry_recip (fuel : Nat) (x : NsX) (term : Option Name) (rel : Name) (recip : Option Name) (t : SubjTag) :
    (entryOf fuel x term rel recip t).recip = classify fuel x.ns term (rawRecip x.xd t.key recip) := by
  unfold entryOf rawRecip
  cases recip with
  | none => rfl
  | some rc => exact defVal_classify fuel x term t.key rc

section
variable (fuel : Nat) (x : NsX) (recs : List RecX) (rel : Name) (recip term : Option Name) (tr : Bool)
variable (hfit : ∀ s tm, fits fuel x.ns s tm = .ok (fitsB fuel x.ns s tm))
include hfit

theorem relInnerL_eq (id : Option Name) : ∀ (ts : List SubjTag) (q : List Name) (rt : Option Name),
    ∃ st, relInnerL fuel x recs rel recip term tr id ts q rt = .ok st ∧
      toStep fuel x term rel recip st =
        FLoops.relInner (recs.map (viewRec fuel x term rel recip)) tr recip.isSome id
          (ts.map (entryOf fuel x term rel recip)) q rt := by
  intro ts
  induction ts with
  | nil => intro q rt; exact ⟨.done, rfl, rfl⟩
  | cons t rest ih =>
    intro q rt
    simp only [relInnerL, List.map_cons, FLoops.relInner]
    -- both loops choose the same `useRecip` and `rt`, since `classify` keeps `isSome` and commutes with the choice
    -- between the two raw values (`hval`); with the chosen raw value a variable, `fits` is evaluated in its `sym` case
    -- only, where `hfit` makes it the `fitTerm` of the view, and what is left are the splits of `relDecide`
    have hrel : (entryOf fuel x term rel recip t).rel = classify fuel x.ns term (rawVal x.xd t.key rel) :=
      defVal_classify fuel x term t.key rel
    have hrec := entry_recip fuel x term rel recip t
    have href : (entryOf fuel x term rel recip t).ref = t.ref := rfl
    rw [hrel, hrec, href, classify_isSome, classify_isSome]
    generalize hu : (!(rawVal x.xd t.key rel).isSome && rt == id && t.ref.isSome && recip.isSome) = useRecip
    generalize hrt : (if (useRecip && (rawRecip x.xd t.key recip).isSome) = true then t.ref else rt) = rt1
    have hval : (if useRecip = true then classify fuel x.ns term (rawRecip x.xd t.key recip)
        else classify fuel x.ns term (rawVal x.xd t.key rel))
        = classify fuel x.ns term (if useRecip = true then rawRecip x.xd t.key recip else rawVal x.xd t.key rel) := by
      cases useRecip <;> rfl
    rw [hval]
    generalize (if useRecip = true then rawRecip x.xd t.key recip else rawVal x.xd t.key rel) = rv
    cases rv with
    | absent | other => simp only [classify]; exact ih q rt1
    | sym s =>
      simp only [fits_term fuel x.ns hfit term s, classify]
      generalize fitTerm fuel x.ns term s = f
      unfold relDecide
      by_cases h1 : (f && rt1.isSome) = true
      · simp only [h1, if_true]
        by_cases h2 : (t.ref.isSome && t.ref == rt1) = true
        · simp only [h2, if_true]; exact ⟨_, rfl, rfl⟩
        · simp only [h2]
          cases tr with
          | false => simp only [Bool.false_eq_true, if_false]; exact ih q rt1
          | true =>
            simp only [if_true]
            cases hr : t.ref with
            | none => exact ih q rt1
            | some sv =>
              dsimp only
              by_cases h3 : (!q.contains sv) = true
              · simp only [h3, if_true]
                rw [resolve_view]
                cases resolveRecX recs sv with
                | none => exact ih (sv :: q) rt1
                | some new =>
                  simp only [Option.map_some, view_entries_isEmpty]
                  by_cases h4 : (!new.tags.isEmpty) = true
                  · simp only [h4, if_true]; exact ⟨_, rfl, rfl⟩
                  · simp only [h4]; exact ih (sv :: q) rt1
              · simp only [h3]; exact ih q rt1
      · simp only [h1]
        by_cases h5 : f = true
        · simp only [h5, if_true]; exact ⟨_, rfl, rfl⟩
        · simp only [h5]; exact ih q rt1

theorem relLoopL_eq : ∀ (lf : Nat) (s : RecX) (q : List Name) (rt : Option Name),
    relLoopL fuel x recs rel recip term tr lf s q rt =
      FLoops.relLoop (recs.map (viewRec fuel x term rel recip)) tr recip.isSome lf
        (viewRec fuel x term rel recip s) q rt := by
  intro lf
  induction lf with
  | zero => intro s q rt; rfl
  | succ n ih =>
    intro s q rt
    obtain ⟨st, h1, h2⟩ := relInnerL_eq fuel x recs rel recip term tr hfit s.id s.tags q rt
    simp only [relLoopL, FLoops.relLoop, h1]
    have hid : (viewRec fuel x term rel recip s).id = s.id := rfl
    rw [hid, view_entries, ← h2]
    cases st with
    | ret b => rfl
    | done => rfl
    | next s' q' rt' => exact ih s' q' rt'
end

theorem hasRelationshipL_eq_ns (x : NsX) (fuel : Nat) (hf : fuelFor x.ns.defs ≤ fuel)
    (lf : Nat) (recs : List RecX) (rel : Name) (term target : Option Name) (s : RecX) :
    hasRelationshipL fuel lf x recs rel term target s = NsA.hasRelationship fuel lf x recs rel term target s := by
  unfold hasRelationshipL NsA.hasRelationship
  cases getX x.xd rel with
  | none => rfl
  | some rd =>
    dsimp only
    cases inheritance fuel x.ns rel with
    | ok inh =>
      dsimp only
      unfold FLoops.hasRelationship
      by_cases hc : (!inh.contains nRelationship) = true
      · simp only [hc, if_true]
      · simp only [hc]
        exact relLoopL_eq fuel x recs rel _ term _ (fitsB_spec x.ns fuel hf) lf s [] target
    | _ => rfl

theorem hasRelationshipL_eq (rows : List RowX) (fuel : Nat) (hf : fuelFor (makeX rows).ns.defs ≤ fuel)
    (lf : Nat) (recs : List RecX) (rel : Name) (term target : Option Name) (s : RecX) :
    hasRelationshipL fuel lf (makeX rows) recs rel term target s
      = NsA.hasRelationship fuel lf (makeX rows) recs rel term target s :=
  hasRelationshipL_eq_ns (makeX rows) fuel hf lf recs rel term target s

end Hs.NsCache

/-
  Hs.Lemmas.HaysonBase — what the Hayson specification and both reader ladders stand on, over the model alone: the
  Boolean check "strictly ascending names" that `Spec.Hayson.TagKeys` and C02's `wfj` ask of dict keys (its bridge
  to core's order is in Lemmas/HaysonOrd), the JSON containers as lists, names as strings.
-/
import Hs.Model.Hayson
namespace Hs.Hayson
open Hs

def ltChars (a b : List Char) : Bool := leChars a b && a != b

def sortedFrom : List Char → List (List Char) → Bool
  | _, [] => true
  | a, b :: r => ltChars a b && sortedFrom b r

def strictSorted : List (List Char) → Bool
  | [] => true
  | a :: r => sortedFrom a r

/-! ### the JSON containers as lists -/

@[simp] theorem Members.toList_nil : Members.nil.toList = [] := rfl
@[simp] theorem Members.toList_cons (k : List Char) (j : Json) (ms : Members) :
    (Members.cons k j ms).toList = (k, j) :: ms.toList := rfl
@[simp] theorem Jsons.toList_nil : Jsons.nil.toList = [] := rfl
@[simp] theorem Jsons.toList_cons (j : Json) (js : Jsons) : (Jsons.cons j js).toList = j :: js.toList := rfl

/-- an object with at most one member has one member order -/
theorem perm_eq_of_length_le_one {α : Type} {l1 l2 : List α} (hp : l1.Perm l2) (h : l1.length ≤ 1) : l1 = l2 := by
  match l1, h with
  | [], _ => exact (List.perm_nil.mp hp.symm).symm
  | [a], _ => exact (List.perm_singleton.mp hp.symm).symm

/-! ### names as strings -/

theorem s_inj {a b : String} : s a = s b ↔ a = b := String.toList_inj

/-- names are compared as the strings they are written as (which `simp` evaluates on literals) -/
theorem s_beq (a b : String) : (s a == s b) = (a == b) := by
  rw [Bool.eq_iff_iff, beq_iff_eq, beq_iff_eq, s_inj]

end Hs.Hayson

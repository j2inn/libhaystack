/-
  Hs.Lemmas.HaysonGrid — strings, arrays, and `finish` kind by kind (the `parse_*` functions of decode.rs on the
  collected entries).
-/
import Hs.Lemmas.Views
import Hs.Lemmas.HaysonBase
namespace Hs.Hayson
open Hs

/-! ### strings, arrays -/

theorem fromJson_str (x : List Char) : fromJson (.str x) = .ok (.str x) := rfl

theorem fromJson_arr (xs : Jsons) (vs : List Val) (h : seq xs = .ok vs) :
    fromJson (.arr xs) = .ok (.list (Vals.ofList vs)) := by
  simp [fromJson, h]

theorem seq_cons (j : Json) (js : Jsons) (v : Val) (vs : List Val)
    (h1 : fromJson j = .ok v) (h2 : seq js = .ok vs) : seq (.cons j js) = .ok (v :: vs) := by
  simp [seq, h1, h2]

/-! ### columns and rows as `parse_grid` sees them -/

/-- the dict a column object decodes to: `{meta?, name}` (key order) -/
def colVal (p : List Char × OTags) : Val :=
  match p.2 with
  | .some m => .dict (.cons (s "meta") (.dict m) (.cons (s "name") (.str p.1) .nil))
  | .none => .dict (.cons (s "name") (.str p.1) .nil)

theorem colOf_colVal (p : List Char × OTags) : colOf (colVal p) = some p := by
  obtain ⟨n, md⟩ := p
  cases md <;> simp [colVal, colOf, Tags.toList, getStr, getTag, s_inj]

theorem mapM_colOf : ∀ cs : List (List Char × OTags), (cs.map colVal).mapM colOf = some cs
  | [] => rfl
  | c :: cs => by
    simp [List.mapM_cons, colOf_colVal, mapM_colOf cs]

theorem valsOfDicts_map : ∀ rs : List Tags, valsOfDicts (rs.map Val.dict) = some rs
  | [] => rfl
  | r :: rs => by
    have ih := valsOfDicts_map rs
    simp only [valsOfDicts] at ih ⊢
    simp [List.mapM_cons, ih]

/-! ### `finish`, kind by kind

The dispatch of `finish` compares the remembered kind with ten literals in turn; each equation below
settles those comparisons once. -/

def numEntry : Val → Option Num
  | .str t =>
    if t == s "INF" then some { v := mkFlt 0x7FF0000000000000 "inf", unit := none }
    else if t == s "-INF" then some { v := mkFlt 0xFFF0000000000000 "-inf", unit := none }
    else if t == s "NaN" then some { v := mkFlt 0x7FF8000000000000 "NaN", unit := none }
    else none
  | .num n => some n
  | _ => none

theorem finish_number (d : List (List Char × Val)) : finish (s "number") d =
    match (getTag d "val").bind numEntry with
    | some n =>
      match getStr d "unit" with
      | some u => match Hs.Zinc.unitSymbol u with
        | some sym => .ok (.num { v := n.v, unit := some sym })
        | none => .err
      | none => .ok (.num n)
    | none => .err := by
  unfold finish
  simp only [s_beq, String.reduceBEq, ↓reduceIte, getStr, getNum]
  cases getTag d "val" with
  | none => rfl
  | some w =>
    cases w <;> try rfl
    -- a string: whatever the three comparisons give is handed on as it is
    simp only [Option.bind_some, numEntry]
    rename_i t
    generalize (if (t == s "INF") = true then _ else _ : Option Num) = r
    cases r <;> rfl

theorem finish_ref (d : List (List Char × Val)) : finish (s "ref") d =
    match getStr d "val" with
    | some v => .ok (.ref v (getStr d "dis"))
    | none => .err := by
  unfold finish
  simp only [beq_iff_eq, s_inj, String.reduceEq, ↓reduceIte]
  rfl

theorem finish_symbol (d : List (List Char × Val)) : finish (s "symbol") d =
    match getStr d "val" with
    | some v => .ok (.sym v)
    | none => .err := by
  unfold finish
  simp only [beq_iff_eq, s_inj, String.reduceEq, ↓reduceIte]
  rfl

theorem finish_uri (d : List (List Char × Val)) : finish (s "uri") d =
    match getStr d "val" with
    | some v => .ok (.uri v)
    | none => .err := by
  unfold finish
  simp only [beq_iff_eq, s_inj, String.reduceEq, ↓reduceIte]
  rfl

theorem finish_date (d : List (List Char × Val)) : finish (s "date") d =
    match getStr d "val" with
    | some v => .ok (lexDate v)
    | none => .err := by
  unfold finish
  simp only [beq_iff_eq, s_inj, String.reduceEq, ↓reduceIte]
  rfl

theorem finish_time (d : List (List Char × Val)) : finish (s "time") d =
    match getStr d "val" with
    | some v => .ok (lexTime v)
    | none => .err := by
  unfold finish
  simp only [beq_iff_eq, s_inj, String.reduceEq, ↓reduceIte]
  rfl

theorem finish_dateTime (d : List (List Char × Val)) : finish (s "dateTime") d =
    match getStr d "val" with
    | some v => .ok (lexDateTime v (getStr d "tz"))
    | none => .err := by
  unfold finish
  simp only [beq_iff_eq, s_inj, String.reduceEq, ↓reduceIte]
  rfl

theorem finish_coord (d : List (List Char × Val)) : finish (s "coord") d =
    match getNum d "lat", getNum d "lng" with
    | some a, some b => .ok (.coord a.v b.v)
    | _, _ => .err := by
  unfold finish
  simp only [beq_iff_eq, s_inj, String.reduceEq, ↓reduceIte]
  rfl

theorem finish_xstr (d : List (List Char × Val)) : finish (s "xstr") d =
    match getStr d "type", getStr d "val" with
    | some t, some v => .ok (.xstr t v)
    | _, _ => .err := by
  unfold finish
  simp only [beq_iff_eq, s_inj, String.reduceEq, ↓reduceIte]
  rfl

theorem finish_gridKind (d : List (List Char × Val)) : finish (s "grid") d =
    match getTag d "rows", getTag d "cols" with
    | some (.list rows), some (.list cols) =>
      let (md, ver) : OTags × List Char := match getTag d "meta" with
        | some (.dict m) =>
          let l := m.toList
          let ver := (getStr l "ver").getD (s "3.0")
          (.some (Tags.ofList (removeTag l "ver")), ver)
        | _ => (.none, s "3.0")
      match cols.toList.mapM colOf with
      | some cs =>
        match valsOfDicts rows.toList with
        | some rs => .ok (.grid md (Cols.ofList cs) (Rows.ofList rs) ver)
        | none => .err
      | none => .err
    | _, _ => .err := by
  unfold finish
  simp only [beq_iff_eq, s_inj, String.reduceEq, ↓reduceIte]
  rfl

theorem finish_dict (d : List (List Char × Val)) : finish (s "dict") d = .ok (.dict (Tags.ofList d)) := by
  unfold finish
  simp only [beq_iff_eq, s_inj, String.reduceEq, ↓reduceIte]

/-- no `_kind` member was met -/
theorem finish_nil (d : List (List Char × Val)) : finish [] d = .ok (.dict (Tags.ofList d)) := by
  have e : ([] : List Char) = s "" := rfl
  rw [e]
  unfold finish
  simp only [beq_iff_eq, s_inj, String.reduceEq, ↓reduceIte]

theorem finish_congr {kind : String} (hk : kind ∈ knownKinds) (hnd : kind ≠ "dict")
    {d d' : List (List Char × Val)} (h : ∀ k, getTag d k = getTag d' k) :
    finish (s kind) d = finish (s kind) d' := by
  simp only [knownKinds, List.mem_cons, List.not_mem_nil, or_false] at hk
  rcases hk with rfl | rfl | rfl | rfl | rfl | rfl | rfl | rfl | rfl | rfl | rfl
  · simp only [finish_number, getStr, h]
  · simp only [finish_ref, getStr, h]
  · simp only [finish_symbol, getStr, h]
  · simp only [finish_uri, getStr, h]
  · simp only [finish_date, getStr, h]
  · simp only [finish_time, getStr, h]
  · simp only [finish_dateTime, getStr, h]
  · simp only [finish_coord, getNum, h]
  · simp only [finish_xstr, getStr, h]
  · simp only [finish_gridKind, h]
  · exact absurd rfl hnd

theorem finish_grid_meta {d : List (List Char × Val)} {m : Tags} {cs : List (List Char × OTags)} {rs : List Tags}
    (hm : getTag d "meta" = some (.dict m)) (hc : getTag d "cols" = some (.list (Vals.ofList (cs.map colVal))))
    (hr : getTag d "rows" = some (.list (Vals.ofList (rs.map Val.dict)))) :
    finish (s "grid") d
      = .ok (.grid (.some (Tags.ofList (removeTag m.toList "ver"))) (Cols.ofList cs) (Rows.ofList rs)
          ((getStr m.toList "ver").getD (s "3.0"))) := by
  simp only [finish_gridKind, hm, hc, hr, Vals.toList_ofList, mapM_colOf, valsOfDicts_map]

theorem finish_grid_nometa {d : List (List Char × Val)} {cs : List (List Char × OTags)} {rs : List Tags}
    (hm : getTag d "meta" = none) (hc : getTag d "cols" = some (.list (Vals.ofList (cs.map colVal))))
    (hr : getTag d "rows" = some (.list (Vals.ofList (rs.map Val.dict)))) :
    finish (s "grid") d = .ok (.grid .none (Cols.ofList cs) (Rows.ofList rs) (s "3.0")) := by
  simp only [finish_gridKind, hm, hc, hr, Vals.toList_ofList, mapM_colOf, valsOfDicts_map]

end Hs.Hayson

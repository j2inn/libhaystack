/-
  Hs.Lemmas.HaysonWf — the vocabulary of the Hayson round trip (C02, the write direction of C05): the image of a value
  under encode-then-decode (`jImage`), the well-formedness the round trip needs (`wfj`) and the values that are their
  own image (`plain`, `jImage_plain`).
-/
import Hs.Lemmas.HaysonBase
namespace Hs.C02
open Hs Hs.Hayson

/-- what comes back for a number: canonical NaN / infinities (spelled as strings), `0.0` for `-0.0`
when it travels as the integer `0`, everything else bit for bit -/
def numImage (n : Num) : Num :=
  if isNaN n.v then { v := mkFlt 0x7FF8000000000000 "NaN", unit := n.unit }
  else if isInf n.v then
    { v := (if isNeg n.v then mkFlt 0xFFF0000000000000 "-inf" else mkFlt 0x7FF0000000000000 "inf"), unit := n.unit }
  else if n.unit.isNone && exactInt n.v == some 0 then { v := { bits := 0, txt := ['0'] }, unit := none }
  else n

mutual
/-- the image of a value under encode-then-decode (dates, times and timestamps as the texts chrono re-reads) -/
def jImage : Val → Val
  | .num n => .num (numImage n)
  | .date d => lexDate d.txt
  | .time t => lexTime t.txt
  | .dateTime t => lexDateTime t.txt (if t.tzid == s "UTC" then none else some t.zone)
  | .list xs => .list (jImages xs)
  | .dict d => .dict (jImageTags d)
  | .grid md cols rows _ =>
    .grid (.some (match md with | .some t => jImageTags t | .none => .nil)) (jImageCols cols) (jImageRows rows) (s "3.0")
  | v => v
def jImages : Vals → Vals
  | .nil => .nil
  | .cons v vs => .cons (jImage v) (jImages vs)
def jImageTags : Tags → Tags
  | .nil => .nil
  | .cons k v t => .cons k (jImage v) (jImageTags t)
def jImageCols : Cols → Cols
  | .nil => .nil
  | .cons n md c => .cons n (match md with | .some t => .some (jImageTags t) | .none => .none) (jImageCols c)
def jImageRows : Rows → Rows
  | .nil => .nil
  | .cons r rs => .cons (jImageTags r) (jImageRows rs)
end

/-! ## Well-formedness: exactly what the round trip needs

Each condition with the line of the Rust code that forces it (`e` = src/haystack/encoding/json/encode.rs,
`d` = …/json/decode.rs, line numbers at the pinned commit 4b31ef5 (MANIFEST `source_commits`; the later fixes in
/repo shift `d` by one line); witnesses on the model in Thm/C02.lean):

* **dict / grid meta / column meta / row keys strictly ascending in code point order** — `d`:299
  `dict.insert(key, value)` in `visit_map` collects the members into a `BTreeMap`: the entries come back
  in key order, and a repeated key keeps only its last value.  (`Dict` *is* a `BTreeMap`, so every real
  `Dict` satisfies this; the hand-rolled `Tags` of the model need it stated.)
* **no key `_kind`** — `d`:268 `if key == "_kind"` treats the member as the type tag (returns at once for
  `marker`/`remove`/`na`, `Err` for an unknown or non-string kind) and never inserts it.
* **no key `ver` in a grid meta** — `d`:485 `meta.get_str("ver")` becomes the grid's version and `d`:488
  `meta.remove("ver")` drops the tag whatever its type.  (Column meta and rows may have a `ver`.)
* **units are database symbols** (`unitSymbol u = some u`) — `d`:369 `get_unit(unit.as_str())` in
  `parse_number` fails on an unknown id and resolves an alias to its unit, whose symbol is what the
  decoded `Number` carries.
* **coordinates finite** — `e`:154/155 `impl Serialize for Coord` writes `lat`/`lng` as plain `f64`, which
  serde_json prints as `null` for NaN/±inf; `d`:458/459 `dict.get_num("lat")` / `get_num("lng")` in
  `parse_coord` then finds no number and fails (`coord_nonfinite_err`).  A `Number` is safe: `e`:83
  `impl Serialize for Number` spells the three as strings.
* the grid's `ver` is **not** needed for `C02_full`: `e`:180 `impl Serialize for Grid` never writes it and
  `d` `parse_grid` assumes `GRID_FORMAT_VERSION`; `jImage` says `"3.0"`.  It is needed for the identity
  (`plain` below, `C02_identity` in Thm/C02.lean), as is a present grid meta (`e`:184–188 writes `{}` for an absent one).
* nothing is asked of strings, ref ids, uris, symbols, xstr types, column names (a column named like no
  row tag, repeated column names), list lengths or nesting depth.
-/

def finiteF (f : Flt) : Bool := !(isNaN f || isInf f)

mutual
def wfj : Val → Bool
  | .num n => match n.unit with
    | some u => Hs.Zinc.unitSymbol u == some u
    | none => true
  | .coord a b => finiteF a && finiteF b
  | .list xs => wfjs xs
  | .dict d => wfTags d && strictSorted d.keys
  | .grid md cols rows _ =>
    (match md with
      | .some t => wfTags t && strictSorted t.keys && !(t.keys.contains (s "ver"))
      | .none => true) && wfCols cols && wfRows rows
  | _ => true
def wfjs : Vals → Bool
  | .nil => true
  | .cons v vs => wfj v && wfjs vs
/-- every value well formed, no key `_kind` -/
def wfTags : Tags → Bool
  | .nil => true
  | .cons k v t => k != s "_kind" && wfj v && wfTags t
def wfCols : Cols → Bool
  | .nil => true
  | .cons _ md c =>
    (match md with
      | .some t => wfTags t && strictSorted t.keys
      | .none => true) && wfCols c
def wfRows : Rows → Bool
  | .nil => true
  | .cons r rs => wfTags r && strictSorted r.keys && wfRows rs
end

/-- the well-formedness the Hayson round trip needs (decidable: `wfj` is a Boolean function) -/
def WFj (v : Val) : Prop := wfj v = true

instance (v : Val) : Decidable (WFj v) := inferInstanceAs (Decidable (wfj v = true))

/-! ### what `wfj` asks, part by part -/

theorem wfj_num {n : Num} (h : wfj (.num n) = true) : ∀ u, n.unit = some u → Hs.Zinc.unitSymbol u = some u := by
  intro u hu
  simpa [wfj, hu] using h

theorem wfj_coord {a b : Flt} : wfj (.coord a b) = true ↔ finiteF a = true ∧ finiteF b = true := by
  rw [wfj, Bool.and_eq_true]

theorem wfj_list {xs : Vals} (h : wfj (.list xs) = true) : wfjs xs = true := by rwa [wfj] at h

theorem wfj_dict {d : Tags} (h : wfj (.dict d) = true) : wfTags d = true ∧ strictSorted d.keys = true := by
  rwa [wfj, Bool.and_eq_true] at h

theorem wfj_grid {md : OTags} {cols : Cols} {rows : Rows} {ver : List Char}
    (h : wfj (.grid md cols rows ver) = true) : wfCols cols = true ∧ wfRows rows = true := by
  cases md with
  | none => simpa [wfj] using h
  | some t =>
    simp [wfj] at h
    exact ⟨h.1.2, h.2⟩

/-- the meta of a grid: well-formed sorted tags, none named `ver` -/
theorem wfj_grid_meta {t : Tags} {cols : Cols} {rows : Rows} {ver : List Char}
    (h : wfj (.grid (.some t) cols rows ver) = true) :
    wfTags t = true ∧ strictSorted t.keys = true ∧ s "ver" ∉ t.keys := by
  simp only [wfj, Bool.and_eq_true, Bool.not_eq_true', List.contains_eq_mem, decide_eq_false_iff_not] at h
  exact ⟨h.1.1.1.1, h.1.1.1.2, h.1.1.2⟩

theorem wfjs_cons {v : Val} {vs : Vals} (h : wfjs (.cons v vs) = true) : wfj v = true ∧ wfjs vs = true := by
  rwa [wfjs, Bool.and_eq_true] at h

theorem wfTags_cons {k : List Char} {v : Val} {t : Tags} (h : wfTags (.cons k v t) = true) :
    k ≠ s "_kind" ∧ wfj v = true ∧ wfTags t = true := by
  simp [wfTags] at h
  exact ⟨h.1.1, h.1.2, h.2⟩

theorem wfCols_cons {n : List Char} {md : OTags} {c : Cols} (h : wfCols (.cons n md c) = true) : wfCols c = true := by
  cases md with
  | none => simpa [wfCols] using h
  | some t =>
    simp [wfCols] at h
    exact h.2

/-- the meta of a column: well-formed sorted tags -/
theorem wfCols_cons_meta {n : List Char} {t : Tags} {c : Cols} (h : wfCols (.cons n (.some t) c) = true) :
    wfTags t = true ∧ strictSorted t.keys = true := by
  simp [wfCols] at h
  exact h.1

theorem wfRows_cons {r : Tags} {rs : Rows} (h : wfRows (.cons r rs) = true) :
    (wfTags r = true ∧ strictSorted r.keys = true) ∧ wfRows rs = true := by
  rwa [wfRows, Bool.and_eq_true, Bool.and_eq_true] at h

theorem jImageTags_keys : ∀ t : Tags, (jImageTags t).keys = t.keys
  | .nil => rfl
  | .cons k v t => by rw [jImageTags, Tags.keys, Tags.keys, jImageTags_keys t]

theorem wfTags_noKind : ∀ t : Tags, wfTags t = true → ∀ k ∈ t.keys, k ≠ s "_kind"
  | .nil, _, _, hq => nomatch hq
  | .cons k v t, h, q, hq => by
    obtain ⟨hk, _, ht⟩ := wfTags_cons h
    rcases List.mem_cons.mp hq with rfl | hq
    · exact hk
    · exact wfTags_noKind t ht q hq

/-! ## The identity: values that are their own image -/

mutual
/-- nothing in the value is re-spelled by the round trip: no date/time/timestamp (those come back as
chrono re-reads their text), numbers that are their own `numImage` (finite and not `-0.0` unit-less — see
`rt_num_exact`; or already canonical), grids with a meta and version `"3.0"` -/
def plain : Val → Bool
  | .num n => numImage n == n
  | .date _ => false
  | .time _ => false
  | .dateTime _ => false
  | .list xs => plains xs
  | .dict d => plainTags d
  | .grid md cols rows ver =>
    (match md with
      | .some t => plainTags t
      | .none => false) && plainCols cols && plainRows rows && ver == s "3.0"
  | _ => true
def plains : Vals → Bool
  | .nil => true
  | .cons v vs => plain v && plains vs
def plainTags : Tags → Bool
  | .nil => true
  | .cons _ v t => plain v && plainTags t
def plainCols : Cols → Bool
  | .nil => true
  | .cons _ md c =>
    (match md with
      | .some t => plainTags t
      | .none => true) && plainCols c
def plainRows : Rows → Bool
  | .nil => true
  | .cons r rs => plainTags r && plainRows rs
end

mutual
theorem jImage_plain : (v : Val) → plain v = true → jImage v = v
  | .null, _ => by simp [jImage]
  | .remove, _ => by simp [jImage]
  | .marker, _ => by simp [jImage]
  | .na, _ => by simp [jImage]
  | .bool _, _ => by simp [jImage]
  | .num n, h => by
    simp [plain] at h
    simp [jImage, h]
  | .str _, _ => by simp [jImage]
  | .uri _, _ => by simp [jImage]
  | .ref _ _, _ => by simp [jImage]
  | .sym _, _ => by simp [jImage]
  | .date _, h => by simp [plain] at h
  | .time _, h => by simp [plain] at h
  | .dateTime _, h => by simp [plain] at h
  | .coord _ _, _ => by simp [jImage]
  | .xstr _ _, _ => by simp [jImage]
  | .list xs, h => by
    simp [plain] at h
    simp [jImage, jImages_plain xs h]
  | .dict d, h => by
    simp [plain] at h
    simp [jImage, jImageTags_plain d h]
  | .grid (.some t) cols rows ver, h => by
    simp [plain] at h
    simp [jImage, jImageTags_plain t h.1.1.1, jImageCols_plain cols h.1.1.2, jImageRows_plain rows h.1.2, h.2]
  | .grid .none cols rows ver, h => by simp [plain] at h
theorem jImages_plain : (vs : Vals) → plains vs = true → jImages vs = vs
  | .nil, _ => by simp [jImages]
  | .cons v vs, h => by
    simp [plains] at h
    simp [jImages, jImage_plain v h.1, jImages_plain vs h.2]
theorem jImageTags_plain : (t : Tags) → plainTags t = true → jImageTags t = t
  | .nil, _ => by simp [jImageTags]
  | .cons k v t, h => by
    simp [plainTags] at h
    simp [jImageTags, jImage_plain v h.1, jImageTags_plain t h.2]
theorem jImageCols_plain : (c : Cols) → plainCols c = true → jImageCols c = c
  | .nil, _ => by simp [jImageCols]
  | .cons n (.some t) c, h => by
    simp [plainCols] at h
    simp [jImageCols, jImageTags_plain t h.1, jImageCols_plain c h.2]
  | .cons n .none c, h => by
    simp [plainCols] at h
    simp [jImageCols, jImageCols_plain c h]
theorem jImageRows_plain : (r : Rows) → plainRows r = true → jImageRows r = r
  | .nil, _ => by simp [jImageRows]
  | .cons r rs, h => by
    simp [plainRows] at h
    simp [jImageRows, jImageTags_plain r h.1, jImageRows_plain rs h.2]
end

end Hs.C02

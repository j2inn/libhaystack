/-
  Hs.Lemmas.NsProtos — what `protos` returns (Hs.Model.NsProtos): dicts as association lists read through `pget`,
  the loops as the code writes them against the specified `flattened` / `mergeInto`, the members of `protos`.
-/
import Hs.Model.NsProtos
namespace Hs.NsA
open Hs Hs.Ns

theorem pget_cons (kv : Name × Nat) (r : PDict) (k : Name) :
    pget (kv :: r) k = if kv.1 = k then some kv.2 else pget r k := by
  by_cases h : kv.1 = k <;> simp [pget, h]

theorem pget_pinsert (k : Name) (v : Nat) (d : PDict) (k' : Name) :
    pget (pinsert k v d) k' = if k = k' then some v else pget d k' := by
  induction d with
  | nil => exact pget_cons (k, v) [] k'
  | cons kv r ih =>
    unfold pinsert
    by_cases hk : kv.1 = k
    · by_cases h : k = k' <;> simp [hk, pget_cons, h]
    · by_cases h : kv.1 = k'
      · subst h
        have hk' : ¬ k = kv.1 := fun e => hk e.symm
        simp [hk, hk', pget_cons]
      · simp [hk, pget_cons, h, ih]

theorem pget_mergeInto (f c : PDict) (k : Name) :
    pget (mergeInto f c) k = (pget f k).or (pget c k) := by
  induction f with
  | nil => rfl
  | cons kv r ih =>
    show pget (pinsert kv.1 kv.2 (mergeInto r c)) k = _
    rw [pget_pinsert, ih, pget_cons]
    split <;> rfl

theorem pget_none_of_not_key (d : PDict) (k : Name) (h : k ∉ d.map Prod.fst) : pget d k = none := by
  induction d with
  | nil => rfl
  | cons kv r ih =>
    simp only [List.map_cons, List.mem_cons, not_or] at h
    rw [pget_cons, if_neg (fun e => h.1 e.symm), ih h.2]

theorem pget_mergeLoop (f : PDict) (hn : (f.map Prod.fst).Nodup) (c : PDict) (k : Name) :
    pget (mergeLoop f c) k = (pget f k).or (pget c k) := by
  induction f generalizing c with
  | nil => rfl
  | cons kv r ih =>
    simp only [List.map_cons, List.nodup_cons] at hn
    show pget (mergeLoop r (pinsert kv.1 kv.2 c)) k = _
    rw [ih hn.2, pget_pinsert, pget_cons]
    split
    · rename_i h
      rw [← h, pget_none_of_not_key r _ hn.1]
      rfl
    · rfl

theorem pget_foldl_insert (c : Name × Nat → Bool) (l : PDict) (hn : (l.map Prod.fst).Nodup) (acc : PDict) (k : Name) :
    pget (l.foldl (fun acc kv => if c kv then pinsert kv.1 kv.2 acc else acc) acc) k =
      match pget l k with
      | some v => if c (k, v) then some v else pget acc k
      | none => pget acc k := by
  induction l generalizing acc with
  | nil => rfl
  | cons kv r ih =>
    simp only [List.map_cons, List.nodup_cons] at hn
    rw [List.foldl_cons, ih hn.2, pget_cons]
    have hacc : pget (if c kv = true then pinsert kv.1 kv.2 acc else acc) k =
        if kv.1 = k ∧ c kv = true then some kv.2 else pget acc k := by
      by_cases hc : c kv = true <;> simp [hc, pget_pinsert]
    rw [hacc]
    by_cases h : kv.1 = k
    · subst h
      simp [pget_none_of_not_key r _ hn.1]
    · simp [h]

theorem pget_filter (p : Name × Nat → Bool) (l : PDict) (hn : (l.map Prod.fst).Nodup) (k : Name) :
    pget (l.filter p) k =
      match pget l k with
      | some v => if p (k, v) then some v else none
      | none => none := by
  induction l with
  | nil => rfl
  | cons kv r ih =>
    simp only [List.map_cons, List.nodup_cons] at hn
    rw [pget_cons, List.filter_cons]
    by_cases h : kv.1 = k
    · subst h
      by_cases hp : p kv = true <;> simp [hp, pget_cons, ih hn.2, pget_none_of_not_key r _ hn.1]
    · by_cases hp : p kv = true <;> simp [hp, pget_cons, h, ih hn.2]

theorem ite_bool_aux (a b c : Bool) (x y : Option Nat) :
    (if (a && c) = true then x else if (b && a) = true then x else y) = if (a && (b || c)) = true then x else y := by
  cases a <;> cases b <;> cases c <;> simp

theorem pget_flattenedLoop_aux (fuel : Nat) (ns : Ns) (parent : PDict) (hn : (parent.map Prod.fst).Nodup) (k : Name) :
    ∀ (fl : List Name) (acc : PDict),
      pget (fl.foldl (fun acc sym => flatInner fuel ns sym parent acc) acc) k =
        match pget parent k with
        | some v => if (v != 0 && fl.any (fun s => fitsB fuel ns k s)) = true then some v else pget acc k
        | none => pget acc k := by
  intro fl
  induction fl with
  | nil => intro acc; cases pget parent k <;> simp
  | cons s r ih =>
    intro acc
    simp only [List.foldl_cons]
    rw [ih]
    have hin := pget_foldl_insert (fun kv => fitsB fuel ns kv.1 s && kv.2 != 0) parent hn acc k
    have : pget (flatInner fuel ns s parent acc) k =
        match pget parent k with
        | some v => if (fitsB fuel ns k s && v != 0) = true then some v else pget acc k
        | none => pget acc k := hin
    rw [this]
    cases pget parent k with
    | none => rfl
    | some v =>
      simp only [List.any_cons]
      exact ite_bool_aux _ _ _ _ _

theorem pget_flattenedLoop (fuel : Nat) (ns : Ns) (fl : List Name) (parent : PDict) (hn : (parent.map Prod.fst).Nodup)
    (k : Name) : pget (flattenedLoop fuel ns fl parent) k = pget (flattened fuel ns fl parent) k := by
  unfold flattenedLoop flattened
  rw [pget_flattenedLoop_aux fuel ns parent hn k fl [], pget_filter _ parent hn k]
  cases pget parent k with
  | none => rfl
  | some v => simp [pget]

theorem mem_keys_pinsert (k : Name) (v : Nat) (d : PDict) (x : Name) :
    x ∈ (pinsert k v d).map Prod.fst ↔ x = k ∨ x ∈ d.map Prod.fst := by
  induction d with
  | nil => simp [pinsert]
  | cons kv r ih =>
    unfold pinsert
    by_cases h : kv.1 = k
    · simp [h]
    · simp only [h, if_false, List.map_cons, List.mem_cons, ih]
      exact or_left_comm

theorem nodup_keys_pinsert (k : Name) (v : Nat) (d : PDict) (hn : (d.map Prod.fst).Nodup) :
    ((pinsert k v d).map Prod.fst).Nodup := by
  induction d with
  | nil => simp [pinsert]
  | cons kv r ih =>
    simp only [List.map_cons, List.nodup_cons] at hn
    unfold pinsert
    by_cases h : kv.1 = k
    · simp only [h, if_true, List.map_cons, List.nodup_cons]
      exact ⟨h ▸ hn.1, hn.2⟩
    · simp only [h, if_false, List.map_cons, List.nodup_cons]
      refine ⟨?_, ih hn.2⟩
      rw [mem_keys_pinsert]
      rintro (h1 | h1)
      · exact h h1
      · exact hn.1 h1

theorem nodup_keys_foldl_insert (c : Name × Nat → Bool) (l : PDict) (acc : PDict) (hn : (acc.map Prod.fst).Nodup) :
    ((l.foldl (fun acc kv => if c kv then pinsert kv.1 kv.2 acc else acc) acc).map Prod.fst).Nodup := by
  induction l generalizing acc with
  | nil => exact hn
  | cons kv r ih =>
    simp only [List.foldl_cons]
    apply ih
    by_cases hc : c kv = true
    · simp only [hc, if_true]; exact nodup_keys_pinsert _ _ _ hn
    · simp only [hc]; exact hn

theorem nodup_keys_flattenedLoop (fuel : Nat) (ns : Ns) (fl : List Name) (parent : PDict) :
    ((flattenedLoop fuel ns fl parent).map Prod.fst).Nodup := by
  unfold flattenedLoop
  suffices h : ∀ (acc : PDict), (acc.map Prod.fst).Nodup →
      ((fl.foldl (fun acc sym => flatInner fuel ns sym parent acc) acc).map Prod.fst).Nodup from h [] (by simp)
  induction fl with
  | nil => intro acc h; exact h
  | cons s r ih =>
    intro acc h
    simp only [List.foldl_cons]
    exact ih _ (nodup_keys_foldl_insert (fun kv => fitsB fuel ns kv.1 s && kv.2 != 0) parent acc h)

theorem protosFromDefLoop_eq (fuel : Nat) (ns : Ns) (pd : ProtoDefs) (parent : PDict)
    (hn : (parent.map Prod.fst).Nodup) (name : Name) :
    (protosFromDefLoop fuel ns pd parent name).map pget = (protosFromDef fuel ns pd parent name).map pget := by
  unfold protosFromDefLoop protosFromDef
  cases plookup pd name with
  | none => rfl
  | some spec =>
    dsimp only
    cases spec.children with
    | none => rfl
    | some cs =>
      dsimp only
      rw [List.map_map, List.map_map]
      apply List.map_congr_left
      intro c _
      funext k
      simp only [Function.comp_apply]
      rw [pget_mergeLoop _ (nodup_keys_flattenedLoop fuel ns spec.flatten parent), pget_mergeInto,
        pget_flattenedLoop fuel ns spec.flatten parent hn]

theorem mem_protosFromDef (fuel : Nat) (ns : Ns) (pd : ProtoDefs) (parent : PDict) (name : Name) (p : PDict) :
    p ∈ protosFromDef fuel ns pd parent name ↔
      ∃ spec cs, plookup pd name = some spec ∧ spec.children = some cs ∧
        ∃ c, c ∈ cs ∧ p = mergeInto (flattened fuel ns spec.flatten parent) c := by
  unfold protosFromDef
  cases hl : plookup pd name with
  | none => simp
  | some spec =>
    dsimp only
    cases hc : spec.children with
    | none => simp [hc]
    | some cs =>
      simp only [List.mem_map, Option.some.injEq, exists_and_left, exists_eq_left', hc, eq_comm]

theorem mem_protos (fuel : Nat) (ns : Ns) (pd : ProtoDefs) (parent : PDict) (p : PDict) :
    p ∈ protos fuel ns pd parent ↔
      ∃ name v, (name, v) ∈ parent ∧ p ∈ protosFromDef fuel ns pd parent name := by
  unfold protos
  simp only [List.mem_flatMap, Prod.exists]

end Hs.NsA

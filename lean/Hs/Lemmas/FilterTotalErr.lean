/-
  Hs.Lemmas.FilterTotalErr — C09: the scanner state of a failed scalar reader.  The filter parser goes on
  after a swallowed lexer error with the scanner where the failed reader left it (`Hs.Model.FilterLexErr`);
  for every `…Err` function the scanner measure `Scan.mu` is not larger than it was when the reader started.
  Statements have the form `s.mu ≤ m → (f s).mu ≤ m`, so that the steps of a walk through an `…Err` function
  compose by modus ponens.
-/
import Hs.Model.FilterLexErr
import Hs.Lemmas.ZincTotalLex
namespace Hs.FText
open Hs Hs.Scan Hs.Zinc

theorem advance_le {s : Scan} {m : Nat} (h : s.mu ≤ m) : s.advance.mu ≤ m := Nat.le_trans (advance_mu s) h
theorem peek_snd_le {s : Scan} {m : Nat} (h : s.mu ≤ m) : s.peek.2.mu ≤ m :=
  Nat.le_trans (peek_mu (o := s.peek.1) (s' := s.peek.2) rfl) h

theorem ite_le {c : Prop} [Decidable c] {a b : Scan} {m : Nat} (ha : c → a.mu ≤ m) (hb : ¬c → b.mu ≤ m) :
    (if c then a else b).mu ≤ m := by
  split
  · exact ha ‹_›
  · exact hb ‹_›

@[elab_as_elim]
theorem read_cases {s : Scan} {m : Nat} {P : Option UInt8 × Scan → Prop} (L : s.mu ≤ m)
    (none : ∀ s', s'.mu ≤ m → P (none, s')) (some : ∀ a s', s'.mu ≤ m → P (some a, s')) : P s.read :=
  match h : s.read with
  | (.none, s') => none s' (Nat.le_trans (read_mu h).1 L)
  | (.some a, s') => some a s' (Nat.le_trans (read_mu h).1 L)

/- Below, `h`, `L… : sₖ.mu ≤ m` is the bound on the scanner a step starts from; a reader that succeeded hands it on
through its spec (`Res.Sat.step`), and where it failed the `…Err` function of that reader takes over. -/

theorem seqErr_le (cs : List UInt8) : ∀ {s : Scan} {m : Nat}, s.mu ≤ m → (seqErr cs s).mu ≤ m := by
  induction cs with
  | nil => intro s m h; exact h
  | cons c rest ih =>
    intro s m h
    rw [seqErr]
    refine ite_le (fun _ => h) (fun _ => ?_)
    exact read_cases h (fun _ L => L) (fun _ _ L => ih L)

theorem unicodeErr_le {s : Scan} {m : Nat} (h : s.mu ≤ m) : (unicodeErr s).mu ≤ m := by
  unfold unicodeErr
  refine ite_le (fun _ => h) (fun _ => ?_)
  refine read_cases h (fun _ L => L) (fun _ s1 L1 => ?_)
  refine ite_le (fun _ => L1) (fun _ => ?_)
  refine read_cases L1 (fun _ L => L) (fun _ s2 L2 => ?_)
  refine ite_le (fun _ => L2) (fun _ => ?_)
  refine read_cases L2 (fun _ L => L) (fun _ s3 L3 => ?_)
  refine ite_le (fun _ => L3) (fun _ => ?_)
  exact read_cases L3 (fun _ L => L) (fun _ _ L => L)

theorem strEscapeErr_le {s : Scan} {m : Nat} (h : s.mu ≤ m) : (strEscapeErr s).mu ≤ m := by
  unfold strEscapeErr
  exact read_cases h (fun _ L => L) (fun _ _ L1 => ite_le (fun _ => unicodeErr_le L1) (fun _ => L1))

theorem strLoopErr_le (fuel : Nat) : ∀ {s : Scan} {m : Nat}, s.mu ≤ m → (strLoopErr fuel s).mu ≤ m := by
  induction fuel with
  | zero => intro s m h; exact h
  | succ n ih =>
    intro s m h
    rw [strLoopErr]
    refine ite_le (fun _ => h) (fun _ => ?_)
    refine ite_le (fun _ => h) (fun _ => ?_)
    refine ite_le (fun _ => ?_) (fun _ => ih (advance_le h))
    exact (parseStrEscape_spec s).elim0
      (fun ⟨_, _⟩ hs => ih (advance_le (Nat.le_trans (Nat.le_of_lt hs) h))) (strEscapeErr_le h)

theorem strErr_le (fuel : Nat) {s : Scan} {m : Nat} (h : s.mu ≤ m) : (strErr fuel s).mu ≤ m := by
  unfold strErr
  exact ite_le (fun _ => h) (fun _ => strLoopErr_le fuel (advance_le h))

theorem takeDigitsErr_le (n : Nat) : ∀ {s : Scan} {m : Nat}, s.mu ≤ m → (takeDigitsErr n s).mu ≤ m := by
  induction n with
  | zero => intro s m h; exact h
  | succ n ih =>
    intro s m h
    rw [takeDigitsErr]
    exact ite_le (fun _ => ih (advance_le h)) (fun _ => h)

theorem uriLoopErr_le (fuel : Nat) : ∀ {s : Scan} {m : Nat}, s.mu ≤ m → (uriLoopErr fuel s).mu ≤ m := by
  induction fuel with
  | zero => intro s m h; exact h
  | succ n ih =>
    intro s m h
    rw [uriLoopErr]
    refine ite_le (fun _ => h) (fun _ => ?_)
    refine ite_le (fun _ => h) (fun _ => ?_)
    refine ite_le (fun _ => ?_) (fun _ => ih (advance_le h))
    refine peek_cases h (fun _ L => L) (fun nx s1 L1 => ?_)
    refine ite_le (fun _ => read_cases L1 (fun _ L => L) (fun _ _ L2 => ih (advance_le L2))) (fun _ => ?_)
    refine read_cases L1 (fun _ L => L) (fun _ s2 L2 => ?_)
    dsimp only
    exact (parseUnicodeEscape_spec s2).elim0 (fun ⟨_, _⟩ h3 => ih (advance_le (Nat.le_trans h3 L2)))
      (unicodeErr_le L2)

theorem uriErr_le (fuel : Nat) {s : Scan} {m : Nat} (h : s.mu ≤ m) : (uriErr fuel s).mu ≤ m := by
  unfold uriErr
  exact ite_le (fun _ => h) (fun _ => uriLoopErr_le fuel (advance_le h))

theorem refErr_le (fuel : Nat) {s : Scan} {m : Nat} (h : s.mu ≤ m) : (refErr fuel s).mu ≤ m := by
  unfold refErr
  refine ite_le (fun _ => h) (fun _ => ?_)
  refine (refLoop_spec fuel s.advance []).step (advance_le h) (fun ⟨acc, s1⟩ L1 => ?_) h (fun _ => h)
  dsimp only at L1 ⊢
  refine ite_le (fun _ => L1) (fun _ => ?_)
  refine ite_le (fun _ => ?_) (fun _ => L1)
  refine peek_cases L1 (fun _ L => L) (fun nx s2 L2 => ?_)
  refine ite_le (fun _ => ?_) (fun _ => L2)
  exact read_cases L2 (fun _ L => L) (fun _ _ L3 => strErr_le fuel L3)

theorem symErr_le (fuel : Nat) {s : Scan} {m : Nat} (h : s.mu ≤ m) : (symErr fuel s).mu ≤ m := by
  unfold symErr
  have L0 := advance_le h
  refine ite_le (fun _ => h) (fun _ => ?_)
  refine ite_le (fun _ => L0) (fun _ => ?_)
  exact (refLoop_spec fuel s.advance []).step L0 (fun ⟨_, _⟩ L1 => L1) L0 (fun _ => L0)

theorem decimalEnd_le (fuel : Nat) {s : Scan} {m : Nat} (h : s.mu ≤ m) : (decimalEnd fuel s).2.mu ≤ m := by
  unfold decimalEnd
  exact (decimalLoop_spec fuel s []).step h (fun ⟨_, _⟩ L => L) h (fun _ => h)

theorem exponentErr_le (fuel : Nat) {s : Scan} {m : Nat} (h : s.mu ≤ m) : (exponentErr fuel s).mu ≤ m := by
  unfold exponentErr
  have L1 := advance_le h
  refine ite_le (fun _ => h) (fun _ => ?_)
  exact ite_le (fun _ => read_cases L1 (fun _ L => L) (fun _ _ L2 => decimalEnd_le fuel L2))
    (fun _ => decimalEnd_le fuel L1)

theorem numberTailErr_le (fuel : Nat) {s : Scan} {m : Nat} (h : s.mu ≤ m) : (numberTailErr fuel s).mu ≤ m := by
  unfold numberTailErr
  exact ite_le (fun _ => (unitLoop_spec fuel s []).step h (fun ⟨_, _⟩ L => L) h (fun _ => h)) (fun _ => h)

theorem numberErr_le (fuel : Nat) {s : Scan} {m : Nat} (h : s.mu ≤ m) : (numberErr fuel s).mu ≤ m := by
  unfold numberErr
  split
  next dec s1 hd =>
  have h1 : s1.mu ≤ m := by have := decimalEnd_le fuel h; rw [hd] at this; exact this
  refine ite_le (fun _ => h1) (fun _ => ?_)
  refine ite_le (fun _ => ?_) (fun _ => numberTailErr_le fuel h1)
  refine peek_cases h1 (fun _ L => L) (fun nx s2 L2 => ?_)
  refine ite_le (fun _ => ?_) (fun _ => numberTailErr_le fuel L2)
  have e := exponentErr_le fuel L2
  exact (parseExponent_spec fuel s2).step L2 (fun ⟨_, _⟩ L3 => numberTailErr_le fuel L3) e (fun _ => e)

theorem negInfErr_le {s : Scan} {m : Nat} (h : s.mu ≤ m) : (negInfErr s).mu ≤ m := by
  unfold negInfErr
  exact ite_le (fun _ => h) (fun _ => seqErr_le _ (advance_le h))

/-- `cur` has been checked to be the separator: past it, two digits, and then `k`; or the digits fail -/
theorem digits2_le {s : Scan} {m : Nat} (L : s.mu ≤ m) {k : List UInt8 → Scan → Scan}
    (hk : ∀ ds s', s'.mu ≤ m → (k ds s').mu ≤ m) :
    (match takeDigits 2 s.advance [] with
      | .ok (ds, s') => k ds s'
      | _ => takeDigitsErr 2 s.advance).mu ≤ m :=
  (takeDigits_spec 2 s.advance []).le.step0 (advance_le L) (fun ⟨ds, s'⟩ L' => hk ds s' L')
    (takeDigitsErr_le 2 (advance_le L))

theorem dateRawErr_le {s : Scan} {m : Nat} (h : s.mu ≤ m) : (dateRawErr s).mu ≤ m := by
  unfold dateRawErr
  refine (takeDigits_spec 4 s []).le.step0 h (fun ⟨_, s1⟩ L1 => ?_) (takeDigitsErr_le 4 h)
  dsimp only at L1 ⊢
  refine ite_le (fun _ => L1) (fun _ => ?_)
  refine digits2_le L1 (fun _ s2 L2 => ?_)
  refine ite_le (fun _ => L2) (fun _ => ?_)
  exact digits2_le L2 (fun _ _ L3 => L3)

theorem timeRawErr_le (fuel : Nat) {s : Scan} {m : Nat} (h : s.mu ≤ m) : (timeRawErr fuel s).mu ≤ m := by
  unfold timeRawErr
  refine (takeDigits_spec 2 s []).le.step0 h (fun ⟨_, s1⟩ L1 => ?_) (takeDigitsErr_le 2 h)
  dsimp only at L1 ⊢
  refine ite_le (fun _ => L1) (fun _ => ?_)
  refine digits2_le L1 (fun _ s2 L2 => ?_)
  refine ite_le (fun _ => L2) (fun _ => ?_)
  refine digits2_le L2 (fun _ s3 L3 => ?_)
  refine ite_le (fun _ => ?_) (fun _ => L3)
  refine read_cases L3 (fun _ L => L) (fun _ s4 L4 => ?_)
  dsimp only
  exact (fracLoop_spec fuel s4 []).step L4 (fun ⟨_, _⟩ L5 => L5) L4 (fun _ => L4)

theorem tzNameErr_le (fuel : Nat) {s : Scan} {m : Nat} (h : s.mu ≤ m) : (tzNameErr fuel s).mu ≤ m := by
  unfold tzNameErr
  refine ite_le (fun _ => h) (fun _ => ?_)
  exact (tzNameLoop_spec fuel s.advance _).step (advance_le h) (fun ⟨_, _⟩ L => L) h (fun _ => h)

theorem advanceByErr_le (n : Nat) : ∀ {s : Scan} {m : Nat}, s.mu ≤ m → (advanceByErr n s).mu ≤ m := by
  induction n with
  | zero => intro s m h; exact h
  | succ n ih =>
    intro s m h
    rw [advanceByErr]
    exact read_cases h (fun _ L => L) (fun _ _ L => ih L)

theorem timeZoneErr_le (fuel : Nat) {s : Scan} {m : Nat} (h : s.mu ≤ m) : (timeZoneErr fuel s).mu ≤ m := by
  unfold timeZoneErr
  split
  · split
    next p1 s1 hp1 =>
    have h1 : s1.mu ≤ m := Nat.le_trans (peek_mu hp1) h
    split
    next both s2 heq2 =>
    have h2 : s2.mu ≤ m := by
      split at heq2
      · split at heq2
        · next hp => cases heq2; exact Nat.le_trans (peek_mu hp) h1
        · next hp => cases heq2; exact Nat.le_trans (peek_mu hp) h1
      · cases heq2; exact h1
    refine ite_le (fun _ => ?_) (fun _ => ite_le (fun _ => advance_le h2) (fun _ => h2))
    exact (advanceBy_spec 2 s2).step0 h2 (fun _ L3 => tzNameErr_le fuel L3) (advanceByErr_le 2 h2)
  · refine ite_le (fun _ => h) (fun _ => ?_)
    refine digits2_le h (fun _ s1 L1 => ?_)
    refine ite_le (fun _ => L1) (fun _ => ?_)
    exact digits2_le L1 (fun _ _ L2 => ite_le (fun _ => L2) (fun _ => tzNameErr_le fuel (advance_le L2)))

theorem dateTimeErr_le (fuel : Nat) {s : Scan} {m : Nat} (h : s.mu ≤ m) : (dateTimeErr fuel s).mu ≤ m := by
  unfold dateTimeErr
  refine (parseDateRaw_adv s).le.le_of_adv.step0 h (fun ⟨draw, s1⟩ L1 => ?_) (dateRawErr_le h)
  dsimp only at L1 ⊢
  split
  · exact L1
  refine ite_le (fun _ => L1) (fun _ => ?_)
  have A1 := advance_le L1
  have e1 := timeRawErr_le fuel A1
  refine (parseTimeRaw_spec fuel s1.advance).step A1 (fun ⟨⟨hms, fr⟩, s2⟩ L2 => ?_) e1 (fun _ => e1)
  dsimp only at L2 ⊢
  split
  · exact L2
  have e2 := timeZoneErr_le fuel L2
  exact (parseTimeZone_spec fuel s2).step L2 (fun ⟨_, _⟩ L3 => L3) e2 (fun _ => e2)

theorem isPartialDateErr_le {s : Scan} {m : Nat} (h : s.mu ≤ m) : (isPartialDateErr s).mu ≤ m := by
  unfold isPartialDateErr
  refine peek_cases h (fun _ L => L) (fun _ s1 L1 => ?_)
  dsimp only
  refine peek_cases L1 (fun _ L => L) (fun _ s2 L2 => ?_)
  dsimp only
  refine peek_cases L2 (fun _ L => L) (fun _ s3 L3 => ?_)
  dsimp only
  exact peek_cases L3 (fun _ L => L) (fun _ _ L4 => peek_snd_le L4)

/-- `parse_number_date_time` failed (called, as by the lexer, on a scanner that is not at the end of the
input: the `eof := false` reset after the look-ahead then only restores the measure) -/
theorem ndtErr_le (fuel : Nat) {s : Scan} (he : s.eof = false) : (ndtErr fuel s).mu ≤ s.mu := by
  unfold ndtErr
  have h : s.mu ≤ s.mu := Nat.le_refl _
  refine ite_le (fun _ => ?_) (fun _ => ?_)
  · exact peek_cases h (fun _ L => L)
      (fun nx s1 L1 => ite_le (fun _ => negInfErr_le L1) (fun _ => numberErr_le fuel L1))
  · split
    next count s1 hp =>
    have h1 := ndtPeeks_spec _ _ _ _ _ _ hp
    have h0 := mu_not_eof he
    have h2 := mu_reset s1
    have h3 : ({ s1 with eof := false } : Scan).mu ≤ s.mu := by omega
    have h4 : s1.mu ≤ s.mu := h1.2
    refine ite_le (fun _ => numberErr_le fuel h3) (fun _ => ?_)
    refine ite_le (fun _ => timeRawErr_le fuel h4) (fun _ => ?_)
    refine ite_le (fun _ => ?_) (fun _ => numberErr_le fuel h4)
    refine (isPartialDate_keep s1).elim0 (fun ⟨isDate, s2⟩ k => ?_) (isPartialDateErr_le h4)
    have L2 : s2.mu ≤ s.mu := Nat.le_trans (Nat.le_of_eq k.mu) h4
    cases isDate with
    | false => exact numberErr_le fuel L2
    | true =>
      dsimp only
      exact peek_cases L2 (fun _ L3 => dateRawErr_le L3)
        (fun p s3 L3 => ite_le (fun _ => dateRawErr_le L3) (fun _ => dateTimeErr_le fuel L3))

end Hs.FText

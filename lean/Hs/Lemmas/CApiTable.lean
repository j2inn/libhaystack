/-
  Lemmas for C17 / C18: the model's ops against the translated inventory `Hs.Gen.CApi`
  (function identity, failure sentinel, number of pointer parameters, coverage of the inventory).
  Functions are identified by the generated enumeration `FnId` (no string comparison in the kernel).
-/
import Hs.Gen.CApi
import Hs.Lemmas.CApiStep
namespace Hs.CApi
open Hs

def K0.fnId : K0 → Gen.CApi.FnId
  | .init => .haystack_value_init | .marker => .haystack_value_make_marker | .na => .haystack_value_make_na
  | .remove => .haystack_value_make_remove | .list => .haystack_value_make_list
  | .dict => .haystack_value_make_dict | .grid => .haystack_value_make_grid

def K1.fnId : K1 → Gen.CApi.FnId
  | .str => .haystack_value_make_str | .ref => .haystack_value_make_ref
  | .uri => .haystack_value_make_uri | .symbol => .haystack_value_make_symbol

def Kind.fnId : Kind → Gen.CApi.FnId
  | .null => .haystack_value_is_null | .marker => .haystack_value_is_marker | .na => .haystack_value_is_na
  | .remove => .haystack_value_is_remove | .bool => .haystack_value_is_bool | .number => .haystack_value_is_number
  | .coord => .haystack_value_is_coord | .str => .haystack_value_is_str | .ref => .haystack_value_is_ref
  | .uri => .haystack_value_is_uri | .symbol => .haystack_value_is_symbol | .xstr => .haystack_value_is_xstr
  | .time => .haystack_value_is_time | .date => .haystack_value_is_date | .datetime => .haystack_value_is_datetime
  | .list => .haystack_value_is_list | .dict => .haystack_value_is_dict | .grid => .haystack_value_is_grid

def Getter.fnId : Getter → Gen.CApi.FnId
  | .numberValue => .haystack_value_get_number_value | .numberHasUnit => .haystack_value_number_has_unit
  | .numberUnit => .haystack_value_get_number_unit | .strLen => .haystack_value_get_str_len
  | .strValue => .haystack_value_get_str_value | .refValueLen => .haystack_value_get_ref_value_len
  | .refValue => .haystack_value_get_ref_value | .refDis => .haystack_value_get_ref_dis
  | .symbolValueLen => .haystack_value_get_symbol_value_len | .symbolValue => .haystack_value_get_symbol_value
  | .uriValueLen => .haystack_value_get_uri_value_len | .uriValue => .haystack_value_get_uri_value
  | .xstrType => .haystack_value_get_xstr_type | .xstrValue => .haystack_value_get_xstr_value
  | .coordLat => .haystack_value_get_coord_lat | .coordLong => .haystack_value_get_coord_long
  | .dateYear => .haystack_value_get_date_year | .dateMonth => .haystack_value_get_date_month
  | .dateDay => .haystack_value_get_date_day | .timeHour => .haystack_value_get_time_hour
  | .timeMinutes => .haystack_value_get_time_minutes | .timeSeconds => .haystack_value_get_time_seconds
  | .timeMillis => .haystack_value_get_time_millis | .datetimeTimezone => .haystack_value_get_datetime_timezone
  | .listLen => .haystack_value_get_list_len | .dictLen => .haystack_value_get_dict_len
  | .gridLen => .haystack_value_get_grid_len

def COp.fnId : COp → Gen.CApi.FnId
  | .mk0 k => k.fnId
  | .mkBool _ => .haystack_value_make_bool
  | .mkNum _ => .haystack_value_make_number
  | .mkNumUnit _ _ _ => .haystack_value_make_number_with_unit
  | .mkCoord _ _ => .haystack_value_make_coord
  | .mk1 k _ => k.fnId
  | .mkRefDis _ _ => .haystack_value_make_ref_with_dis
  | .mkXStr _ _ => .haystack_value_make_xstr
  | .mkTime _ _ _ => .haystack_value_make_time
  | .mkTimeMs _ _ _ _ => .haystack_value_make_time_millis
  | .mkDate _ _ _ => .haystack_value_make_date
  | .mkUtc _ _ _ => .haystack_value_make_utc_datetime
  | .mkTz _ _ _ _ => .haystack_value_make_tz_datetime
  | .isKind k _ => k.fnId
  | .get g _ => g.fnId
  | .lpush _ _ => .haystack_value_push_list_entry
  | .lget _ _ _ => .haystack_value_get_list_entry_at
  | .lset _ _ _ => .haystack_value_set_list_entry_at
  | .lrem _ _ => .haystack_value_remove_list_entry_at
  | .dins _ _ _ => .haystack_value_insert_dict_entry
  | .dget _ _ _ => .haystack_value_get_dict_entry
  | .drem _ _ => .haystack_value_remove_dict_entry
  | .dkeys _ _ => .haystack_value_get_dict_keys
  | .gfrom _ => .haystack_value_make_grid_from_rows
  | .gfromMeta _ _ => .haystack_value_make_grid_from_rows_with_meta
  | .grow _ _ _ => .haystack_value_get_grid_row_at
  | .dtDate _ _ _ _ => .haystack_value_get_datetime_date
  | .dtTime _ _ _ _ => .haystack_value_get_datetime_time
  | .toZinc _ _ => .haystack_value_to_zinc_string
  | .fromZinc _ _ => .haystack_value_from_zinc_string
  | .toJson _ _ => .haystack_value_to_json_string
  | .fromJson _ _ => .haystack_value_from_json_string
  | .fparse _ _ => .haystack_filter_parse
  | .fmatch _ _ _ => .haystack_filter_match_dict
  | .ffirst _ _ _ _ => .haystack_filter_first_match_in_grid
  | .fall _ _ _ _ => .haystack_filter_match_all_grid
  | .fdestroy _ => .haystack_filter_destroy
  | .takeErr => .last_error_message
  | .destroy _ => .haystack_value_destroy
  | .sdestroy _ => .haystack_string_destroy

def toGen : Sentinel → Gen.CApi.Sentinel
  | .none => .none | .null => .null | .false => .false | .usizeMax => .usizeMax
  | .u32Max => .u32Max | .nan => .nan | .err => .err

def COp.row (op : COp) : Gen.CApi.Fn := Gen.CApi.fnTable op.fnId

/-- the inventory's row of an op carries the op's name, its sentinel and as many pointer parameters as it has null flags -/
theorem row_spec (op : COp) :
    op.row.name = op.fnName ∧ op.row.sentinel = toGen op.sentinel ∧
      op.row.ptrParams.length = op.nullFlags.length := by
  cases op with
  | mk0 k => cases k <;> exact ⟨rfl, rfl, rfl⟩
  | mk1 k _ => cases k <;> exact ⟨rfl, rfl, rfl⟩
  | isKind k _ => cases k <;> exact ⟨rfl, rfl, rfl⟩
  | get g _ => cases g <;> exact ⟨rfl, rfl, rfl⟩
  | _ => exact ⟨rfl, rfl, rfl⟩

theorem name_table (op : COp) : op.row.name = op.fnName := (row_spec op).1

theorem sentinel_table (op : COp) : op.row.sentinel = toGen op.sentinel := (row_spec op).2.1

theorem ptr_table (op : COp) : op.row.ptrParams.length = op.nullFlags.length := (row_spec op).2.2

theorem never_fails_table (s : CState) (op : COp) (h : op.row.setsError = false) :
    ∃ s' r, cexec s op = .ok (s', r) := by
  cases op with
  | mk0 k => exact ⟨_, _, rfl⟩
  | mkBool _ => exact ⟨_, _, rfl⟩
  | mkNum _ => exact ⟨_, _, rfl⟩
  | mkCoord _ _ => exact ⟨_, _, rfl⟩
  | takeErr => cases hl : s.lastErr <;> simp [cexec, hl]
  | destroy p => cases p <;> exact ⟨_, _, rfl⟩
  | sdestroy _ => exact ⟨_, _, rfl⟩
  | mk1 k _ => cases k <;> cases h
  | isKind k _ => cases k <;> cases h
  | get g _ => cases g <;> cases h
  | _ => cases h

/-- one op per function of the model -/
def sampleOps : List COp :=
  [K0.init, .marker, .na, .remove, .list, .dict, .grid].map .mk0
  ++ [K1.str, .ref, .uri, .symbol].map (fun k => .mk1 k .null)
  ++ Kind.all.map (fun k => .isKind k none)
  ++ Getter.all.map (fun g => .get g none)
  ++ [.mkBool true, .mkNum default, .mkNumUnit default .null none, .mkCoord default default, .mkRefDis .null .null,
      .mkXStr .null .null, .mkTime 0 0 0, .mkTimeMs 0 0 0 0, .mkDate 0 0 0, .mkUtc none none .null,
      .mkTz none none .null none, .lpush none none, .lget none 0 false, .lset none 0 none, .lrem none 0,
      .dins none .null none, .dget none .null false, .drem none .null, .dkeys none none, .gfrom none,
      .gfromMeta none none, .grow none 0 none, .dtDate none false none .null, .dtTime none false none .null,
      .toZinc none none, .fromZinc .null none, .toJson none none, .fromJson .null none, .fparse .null false,
      .fmatch none none false, .ffirst none none none none, .fall none none none .null, .fdestroy none,
      .takeErr, .destroy none, .sdestroy none]

/-- an op for every function of the translated inventory (a function the model lacks makes this match incomplete) -/
def opOf : Gen.CApi.FnId → COp
  | .haystack_filter_destroy => .fdestroy none
  | .haystack_filter_first_match_in_grid => .ffirst none none none none
  | .haystack_filter_match_all_grid => .fall none none none .null
  | .haystack_filter_match_dict => .fmatch none none false
  | .haystack_filter_parse => .fparse .null false
  | .haystack_string_destroy => .sdestroy none
  | .haystack_value_destroy => .destroy none
  | .haystack_value_from_json_string => .fromJson .null none
  | .haystack_value_from_zinc_string => .fromZinc .null none
  | .haystack_value_get_coord_lat => .get .coordLat none
  | .haystack_value_get_coord_long => .get .coordLong none
  | .haystack_value_get_date_day => .get .dateDay none
  | .haystack_value_get_date_month => .get .dateMonth none
  | .haystack_value_get_date_year => .get .dateYear none
  | .haystack_value_get_datetime_date => .dtDate none false none .null
  | .haystack_value_get_datetime_time => .dtTime none false none .null
  | .haystack_value_get_datetime_timezone => .get .datetimeTimezone none
  | .haystack_value_get_dict_entry => .dget none .null false
  | .haystack_value_get_dict_keys => .dkeys none none
  | .haystack_value_get_dict_len => .get .dictLen none
  | .haystack_value_get_grid_len => .get .gridLen none
  | .haystack_value_get_grid_row_at => .grow none 0 none
  | .haystack_value_get_list_entry_at => .lget none 0 false
  | .haystack_value_get_list_len => .get .listLen none
  | .haystack_value_get_number_unit => .get .numberUnit none
  | .haystack_value_get_number_value => .get .numberValue none
  | .haystack_value_get_ref_dis => .get .refDis none
  | .haystack_value_get_ref_value => .get .refValue none
  | .haystack_value_get_ref_value_len => .get .refValueLen none
  | .haystack_value_get_str_len => .get .strLen none
  | .haystack_value_get_str_value => .get .strValue none
  | .haystack_value_get_symbol_value => .get .symbolValue none
  | .haystack_value_get_symbol_value_len => .get .symbolValueLen none
  | .haystack_value_get_time_hour => .get .timeHour none
  | .haystack_value_get_time_millis => .get .timeMillis none
  | .haystack_value_get_time_minutes => .get .timeMinutes none
  | .haystack_value_get_time_seconds => .get .timeSeconds none
  | .haystack_value_get_uri_value => .get .uriValue none
  | .haystack_value_get_uri_value_len => .get .uriValueLen none
  | .haystack_value_get_xstr_type => .get .xstrType none
  | .haystack_value_get_xstr_value => .get .xstrValue none
  | .haystack_value_init => .mk0 .init
  | .haystack_value_insert_dict_entry => .dins none .null none
  | .haystack_value_is_bool => .isKind .bool none
  | .haystack_value_is_coord => .isKind .coord none
  | .haystack_value_is_date => .isKind .date none
  | .haystack_value_is_datetime => .isKind .datetime none
  | .haystack_value_is_dict => .isKind .dict none
  | .haystack_value_is_grid => .isKind .grid none
  | .haystack_value_is_list => .isKind .list none
  | .haystack_value_is_marker => .isKind .marker none
  | .haystack_value_is_na => .isKind .na none
  | .haystack_value_is_null => .isKind .null none
  | .haystack_value_is_number => .isKind .number none
  | .haystack_value_is_ref => .isKind .ref none
  | .haystack_value_is_remove => .isKind .remove none
  | .haystack_value_is_str => .isKind .str none
  | .haystack_value_is_symbol => .isKind .symbol none
  | .haystack_value_is_time => .isKind .time none
  | .haystack_value_is_uri => .isKind .uri none
  | .haystack_value_is_xstr => .isKind .xstr none
  | .haystack_value_make_bool => .mkBool true
  | .haystack_value_make_coord => .mkCoord default default
  | .haystack_value_make_date => .mkDate 0 0 0
  | .haystack_value_make_dict => .mk0 .dict
  | .haystack_value_make_grid => .mk0 .grid
  | .haystack_value_make_grid_from_rows => .gfrom none
  | .haystack_value_make_grid_from_rows_with_meta => .gfromMeta none none
  | .haystack_value_make_list => .mk0 .list
  | .haystack_value_make_marker => .mk0 .marker
  | .haystack_value_make_na => .mk0 .na
  | .haystack_value_make_number => .mkNum default
  | .haystack_value_make_number_with_unit => .mkNumUnit default .null none
  | .haystack_value_make_ref => .mk1 .ref .null
  | .haystack_value_make_ref_with_dis => .mkRefDis .null .null
  | .haystack_value_make_remove => .mk0 .remove
  | .haystack_value_make_str => .mk1 .str .null
  | .haystack_value_make_symbol => .mk1 .symbol .null
  | .haystack_value_make_time => .mkTime 0 0 0
  | .haystack_value_make_time_millis => .mkTimeMs 0 0 0 0
  | .haystack_value_make_tz_datetime => .mkTz none none .null none
  | .haystack_value_make_uri => .mk1 .uri .null
  | .haystack_value_make_utc_datetime => .mkUtc none none .null
  | .haystack_value_make_xstr => .mkXStr .null .null
  | .haystack_value_number_has_unit => .get .numberHasUnit none
  | .haystack_value_push_list_entry => .lpush none none
  | .haystack_value_remove_dict_entry => .drem none .null
  | .haystack_value_remove_list_entry_at => .lrem none 0
  | .haystack_value_set_list_entry_at => .lset none 0 none
  | .haystack_value_to_json_string => .toJson none none
  | .haystack_value_to_zinc_string => .toZinc none none
  | .last_error_message => .takeErr

theorem inventory_covered (id : Gen.CApi.FnId) : (opOf id).fnId = id := by cases id <;> rfl

end Hs.CApi

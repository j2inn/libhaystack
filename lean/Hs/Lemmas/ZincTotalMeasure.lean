/-
  Hs.Lemmas.ZincTotalMeasure — C03: the parser-level measures.  `PS.M p` = bytes the scanner has not
  consumed (`Scan.mu`) + one unit for a pending token (`tok ≠ none`).  A `read` never increases it:
  the token it returns is paid for by the bytes it consumed, and is one the lexer makes (`PS.read_spec`, from
  `lexRead_sat`).  `RowState.K r` = `M` + one unit while the
  input has not ended: the measure of the row iterator.
-/
import Hs.Lemmas.ZincTotalLexStrict
namespace Hs
open Scan
namespace Zinc

def PS.M (p : PS) : Nat := p.sc.mu + (if p.tokNone then 0 else 1)

theorem PS.M_def (p : PS) : p.M = p.sc.mu + (if p.tokNone then 0 else 1) := rfl

theorem PS.mu_le_M (p : PS) : p.sc.mu ≤ p.M := Nat.le_add_right _ _

theorem PS.M_le (p : PS) : p.M ≤ p.sc.mu + 1 := by
  unfold PS.M; split <;> omega

theorem PS.tokNone_of_isChar {p : PS} {c : UInt8} (h : p.isChar c = true) : p.tokNone = false := by
  unfold PS.isChar at h; unfold PS.tokNone
  split at h <;> simp_all

theorem PS.isChar_unique {p : PS} {a b : UInt8} (ha : p.isChar a = true) (hb : p.isChar b = true) : a = b := by
  unfold PS.isChar at ha hb
  split at ha
  · simp_all
  · cases ha

/-- `ht` is closed by `nofun` for every constructor of `Tok` but `none` -/
theorem PS.tokNone_of_tok {p : PS} {t : Tok} (h : p.tok = t) (ht : t ≠ .none := by nofun) : p.tokNone = false := by
  unfold PS.tokNone
  split
  · next e => exact absurd (h.symm.trans e) ht
  · rfl

theorem PS.tokNone_of_none {p : PS} (h : p.tok = Tok.none) : p.tokNone = true := by
  simp [PS.tokNone, h]

theorem PS.tok_of_tokNone {p : PS} (h : p.tokNone = true) : p.tok = Tok.none := by
  unfold PS.tokNone at h
  split at h
  · assumption
  · cases h

theorem PS.M_of_tok {p : PS} (h : p.tokNone = false) : p.M = p.sc.mu + 1 := by
  rw [PS.M_def, h]; rfl

theorem PS.M_of_isChar {p : PS} {c : UInt8} (h : p.isChar c = true) : p.M = p.sc.mu + 1 :=
  PS.M_of_tok (PS.tokNone_of_isChar h)

theorem PS.read_spec (fuel : Nat) (p : PS) :
    (PS.read fuel p).Sat fuel (p.sc.mu + 1)
      (fun p1 => p1.M ≤ p.sc.mu ∧ (p1.tokNone = true → p1.isEof = true) ∧ tokInv p1.tok) := by
  unfold PS.read
  cases he : p.sc.eof with
  | true =>
    cases fuel with
    | zero => exact Nat.zero_le _
    | succ n =>
      rw [lexRead_at_eof n p.sc he]
      exact Res.Sat.ok_intro ⟨by simp [PS.M, PS.tokNone], fun _ => he, trivial⟩
  | false =>
    refine (lexRead_sat fuel p.sc).mono id (fun l h => ⟨?_, fun ht => h.1.2.2 (PS.tok_of_tokNone ht), h.2⟩)
    have := h.1.2.1 he
    have := PS.M_le l
    omega

theorem PS.S_of_tok {p : PS} {j b : Nat} (ht : p.tokNone = false) (H : p.M + j ≤ b) : p.sc.mu + (j + 1) ≤ b := by
  have := PS.M_of_tok ht; omega

theorem PS.le_mu_of_tok {p : PS} {x j : Nat} (ht : p.tokNone = false) (h : x + (j + 1) ≤ p.M) : x ≤ p.sc.mu := by
  have := PS.M_of_tok ht; omega

/-! ### `tokNone` and `isEof` of a state put together from a scanner and a token -/

theorem PS.tokNone_mk (sc : Scan) (p : PS) : PS.tokNone { sc := sc, tok := p.tok } = p.tokNone := rfl
theorem PS.isEof_mk (sc : Scan) (t : Tok) : PS.isEof { sc := sc, tok := t } = sc.eof := rfl

/-! ### the iterator measure -/

def RowState.K (r : RowState) : Nat := r.p.M + (if r.p.isEof then 0 else 1)

theorem RowState.K_def (r : RowState) : r.K = r.p.M + (if r.p.isEof then 0 else 1) := rfl

theorem RowState.M_le_K (r : RowState) : r.p.M ≤ r.K := Nat.le_add_right _ _
theorem RowState.K_le (r : RowState) : r.K ≤ r.p.M + 1 := by
  unfold RowState.K; split <;> omega
theorem RowState.K_of_eof {r : RowState} (h : r.p.isEof = true) : r.K = r.p.M := by
  rw [RowState.K_def, h]; rfl
theorem RowState.K_of_not_eof {r : RowState} (h : r.p.isEof = false) : r.K = r.p.M + 1 := by
  rw [RowState.K_def, h]; rfl

end Zinc
end Hs

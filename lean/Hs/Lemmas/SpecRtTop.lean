/-
  C04 (write direction): the mutual induction over `Val` (from `wfV` and `strictV` to the framing statement
  `Rd`), and the whole document through `Hs.Spec.read`.
-/
import Hs.Lemmas.SpecRtGrid
namespace Hs.Spec
open Hs Hs.Zinc Hs.Scan

mutual
theorem rd_of_wf : ∀ v : Val, wfV v = true → strictV v = true → Rd v
  | .null, _, _ => rd_null
  | .remove, _, _ => rd_remove
  | .marker, _, _ => rd_marker
  | .bool b, _, _ => rd_bool b
  | .na, _, _ => rd_na
  | .num n, h, hs => rd_num n (by simpa [wfV] using h) (by simpa [strictV] using hs)
  | .str s, _, _ => rd_str s
  | .uri s, _, _ => rd_uri s
  | .ref id dis, h, _ => rd_ref id dis (by simpa [wfV] using h)
  | .sym s, h, _ => rd_sym s (by simpa [wfV] using h)
  | .date d, h, _ => rd_date d (by simpa [wfV] using h)
  | .time t, h, _ => rd_time t (by simpa [wfV] using h)
  | .dateTime t, h, _ => rd_datetime t (by simpa [wfV] using h)
  | .coord a b, h, hs => rd_coord a b (and_true_left h) (and_true_right h) (and_true_left hs) (and_true_right hs)
  | .xstr ty v, h, _ => rd_xstr ty v (by simpa [wfV] using h)
  | .list xs, h, hs => rd_list xs (rdVs_of_wf xs (by simpa [wfV] using h) (by simpa [strictV] using hs))
  | .dict d, h, hs => by
    simp only [wfV, Bool.and_eq_true] at h
    exact rd_dict d h.1.1 h.1.2 (rdT_of_wf d h.2 (by simpa [strictV] using hs))
  | .grid md cols rws ver, h, hs => by
    obtain ⟨n, cm, c, rfl, hok⟩ := gridOkS_of_wf h hs (rdO_of_wf md) (rdC_of_wf cols) (rdR_of_wf rws)
    exact rd_grid md n cm c rws ver hok
theorem rdVs_of_wf : ∀ xs : Vals, wfVs xs = true → strictVs xs = true → RdVs xs
  | .nil, _, _ => trivial
  | .cons v vs, h, hs =>
    ⟨rd_of_wf v (and_true_left h) (and_true_left hs), rdVs_of_wf vs (and_true_right h) (and_true_right hs)⟩
theorem rdT_of_wf : ∀ t : Tags, wfT t = true → strictT t = true → RdT t
  | .nil, _, _ => trivial
  | .cons _ v t, h, hs =>
    ⟨rd_of_wf v (and_true_left h) (and_true_left hs), rdT_of_wf t (and_true_right h) (and_true_right hs)⟩
theorem rdO_of_wf : ∀ o : OTags, wfO o = true → strictO o = true → RdO o
  | .none, _, _ => trivial
  | .some t, h, hs => rdT_of_wf t h hs
theorem rdC_of_wf : ∀ c : Cols, wfC c = true → strictC c = true → RdC c
  | .nil, _, _ => trivial
  | .cons _ md c, h, hs =>
    ⟨rdO_of_wf md (and_true_left h) (and_true_left hs), rdC_of_wf c (and_true_right h) (and_true_right hs)⟩
theorem rdR_of_wf : ∀ r : Rows, wfR r = true → strictR r = true → RdR r
  | .nil, _, _ => trivial
  | .cons r rs, h, hs =>
    ⟨rdT_of_wf r (and_true_left h) (and_true_left hs), rdR_of_wf rs (and_true_right h) (and_true_right hs)⟩
end

/-- `he` holds of everything except a grid -/
theorem read_of_rd {v : Val} (h : Rd v) (he : enc v false = enc v true) : read (encode v) = some (specImg v) := by
  unfold encode read
  rw [he]
  obtain ⟨b, r, e, hb⟩ := h.start
  have hv := h.reads (4 * (enc v true).length + 16) [] (Or.inl rfl) (by omega)
  simp only [List.append_nil] at hv
  have hl : isLower b = false := start_not_lower hb
  rw [e] at hv ⊢
  simp only [hl, Bool.false_eq_true, if_false, hv]
  simp

theorem read_grid (md : OTags) (n : List Char) (cm : OTags) (c : Cols) (rws : Rows) (ver : List Char)
    (hok : GridOkS md (.cons n cm c) rws ver) :
    read (encode (.grid md (.cons n cm c) rws ver)) = some (specImg (.grid md (.cons n cm c) rws ver)) := by
  unfold encode read
  rw [enc_grid_top]
  have hlen : (gridBody md (.cons n cm c) rws false []).length =
      11 + (metaPart md).length + colsLen (.cons n cm c)
        + (encRows rws (Cols.names (.cons n cm c)) (Cols.length (.cons n cm c) == 1)).length := by
    have := encCols_length n cm c
    simp only [gridBody, verBytes, tailR, List.length_cons, List.length_append, List.length_nil,
      Bool.false_eq_true, if_false]
    omega
  have hg := grid_rt md n cm c rws ver hok false [] (4 * (gridBody md (.cons n cm c) rws false []).length + 16)
    (by rw [hlen]; omega)
  have hfirst : ∃ t, gridBody md (.cons n cm c) rws false [] = 118 :: t := by
    simp only [gridBody, verBytes, List.cons_append]; exact ⟨_, rfl⟩
  obtain ⟨t, e⟩ := hfirst
  rw [e] at hg ⊢
  simp only [show isLower 118 = true by decide, if_true, hg, afterRows]
  simp

theorem read_of_wf (v : Val) (h : wfV v = true) (hs : strictV v = true) : read (encode v) = some (specImg v) := by
  cases v
  case grid md cols rws ver =>
    obtain ⟨n, cm, c, rfl, hok⟩ := gridOkS_of_wf h hs (rdO_of_wf md) (rdC_of_wf cols) (rdR_of_wf rws)
    exact read_grid md n cm c rws ver hok
  -- every other kind is written at top level as it is written inside a list
  all_goals exact read_of_rd (rd_of_wf _ h hs) (by simp [enc])

end Hs.Spec

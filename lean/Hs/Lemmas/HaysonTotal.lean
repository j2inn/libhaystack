/-
  Hs.Lemmas.HaysonTotal — the tree-level decoder answers `ok` or `err`, never panic/diverge/depth.
-/
import Hs.Lemmas.HaysonVisit
namespace Hs.Hayson
open Hs

theorem finish_okOrErr (kind : List Char) (d : List (List Char × Val)) : OkOrErr (finish kind d) := by
  unfold finish
  refine .ite ?_ <| .ite ?_ <| .ite ?_ <| .ite ?_ <| .ite ?_ <| .ite ?_ <| .ite ?_ <| .ite ?_ <| .ite ?_ <|
    .ite ?_ (.ok _)
  -- `parse_number` … `parse_grid`: nested `match`es on look-ups, every arm of which is `.ok _` or `.err`
  all_goals try dsimp only
  all_goals repeat' split
  all_goals first | exact .ok _ | exact .err

theorem kindStep_okOrErr (v : Val) (last : Bool) {cont : List Char → Res Val} (h : ∀ kd, OkOrErr (cont kd)) :
    OkOrErr (kindStep v last cont) := by
  have early (w : Val) : OkOrErr (earlyR last w) := .ite (.ok _) .err
  unfold kindStep
  split
  · exact .ite (early _) <| .ite (early _) <| .ite (early _) <| .ite (h _) .err
  · exact .err

theorem runR_okOrErr : ∀ (l : List (List Char × Res Val)) (kind : List Char) (d : List (List Char × Val)),
    (∀ p ∈ l, OkOrErr p.2) → OkOrErr (runR l kind d)
  | [], kind, d, _ => finish_okOrErr kind d
  | (k, r) :: l, kind, d, h => by
    have ih := fun kind d => runR_okOrErr l kind d (fun p hp => h p (List.mem_cons_of_mem _ hp))
    have hr : OkOrErr r := h (k, r) List.mem_cons_self
    cases r, hr using OkOrErr.cases with
    | ok v => exact .ite (kindStep_okOrErr v _ (fun kd => ih kd d)) (ih _ _)
    | err => exact .err

mutual
theorem fromJson_okOrErr : (j : Json) → OkOrErr (fromJson j)
  | .null => .ok _
  | .bool _ => .ok _
  | .int _ _ => .ok _
  | .flt _ => .ok _
  | .str _ => .ok _
  | .arr xs => by
    rw [fromJson]
    rcases seq_okOrErr xs with ⟨vs, h⟩ | h <;> rw [h]
    · exact .ok _
    · exact .err
  | .obj ms => by
    rw [fromJson_obj]
    exact runR_okOrErr _ _ _ (view_okOrErr ms)
theorem seq_okOrErr : (js : Jsons) → (∃ vs, seq js = .ok vs) ∨ seq js = .err
  | .nil => .inl ⟨[], rfl⟩
  | .cons j js => by
    rw [seq]
    rcases fromJson_okOrErr j with ⟨v, h⟩ | h
    · rcases seq_okOrErr js with ⟨vs, h2⟩ | h2 <;> simp [h, h2]
    · simp [h]
theorem view_okOrErr : (ms : Members) → ∀ p ∈ view ms, OkOrErr p.2
  | .nil, _, hp => nomatch hp
  | .cons _ j ms, p, hp => by
    rcases List.mem_cons.mp hp with rfl | hp
    · exact fromJson_okOrErr j
    · exact view_okOrErr ms p hp
end

theorem visitMap_okOrErr : (ms : Members) → ∀ kind d, OkOrErr (visitMap ms kind d)
  | ms, kind, d => visitMap_eq_runR ms kind d ▸ runR_okOrErr _ kind d (view_okOrErr ms)

end Hs.Hayson

/-
  Hs.Lemmas.HaysonRefObj — the reference reader on ONE Hayson object whose members stand in any order.
  `read` on an object is cut at its dispatch on `_kind` (`read_obj`): what follows the dispatch is `readKind`,
  with one equation per kind (`readKind_<kind>`).  Every kind but `dict` reaches the members through `lookup`
  only, so an object `{"_kind": kind, …}` is read from its listed members (`read_kindObj`).

  `readNumVal`, `readNumber`, `readStrOpt`, `readGrid`, `readKind` restate the branches of `read` (one fuelled mutual
  definition of the specification, Spec/HaysonRead.lean, whose object arm has no name of its own to state lemmas
  about); `read_obj`, proved by unfolding `read` once and `rfl`, is the check that the copy is faithful.
-/
import Hs.Lemmas.HaysonRefLookup
import Hs.Lemmas.HaysonMembers
namespace Hs.Spec.Hayson
open Hs Hs.Hayson

/-! ### `read` on an object, kind by kind -/

def readNumVal : Option Json → Option Flt
  | some (.str t) =>
    if t == s "INF" then some (mkFlt 0x7FF0000000000000 "inf")
    else if t == s "-INF" then some (mkFlt 0xFFF0000000000000 "-inf")
    else if t == s "NaN" then some (mkFlt 0x7FF8000000000000 "NaN")
    else none
  | j => numOf j

def readNumber (val unit : Option Json) : Option Val :=
  match readNumVal val with
  | none => none
  | some f =>
    match unit with
    | none => some (.num { v := f, unit := none })
    | some (.str u) => (Hs.Zinc.unitSymbol u).map fun sym => .num { v := f, unit := some sym }
    | some _ => none

/-- a string `val` and an optional second string member (`dis` of a ref, `tz` of a dateTime) -/
def readStrOpt (mk : List Char → Option (List Char) → Val) (val opt : Option Json) : Option Val :=
  match strOf val with
  | some v => match opt with
    | none => some (mk v none)
    | some (.str d) => some (mk v (some d))
    | some _ => none
  | none => none

def readGrid (fuel : Nat) (mta cols rows : Option Json) : Option Val :=
  let metaR : Option (List (List Char × Val) × List Char) := match mta with
    | none => some ([], s "3.0")
    | some (.obj mm) =>
      let ml := mm.toList
      let ver := (strOf (lookup ml "ver")).getD (s "3.0")
      (readTags fuel (ml.filter (fun p => p.1 != s "ver" && p.1 != s "_kind"))).map fun kvs => (kvs, ver)
    | some _ => none
  match metaR, cols, rows with
  | some (mkvs, ver), some (.arr cs), some (.arr rs) =>
    match readCols fuel cs.toList, readRows fuel rs.toList with
    | some cols, some rows =>
      let md : OTags := if mkvs.isEmpty then .none else .some (dictOf mkvs)
      some (.grid md (Cols.ofList cols) (Rows.ofList rows) ver)
    | _, _ => none
  | _, _, _ => none

def readKind (fuel : Nat) (l : Mems) (kind : List Char) : Option Val :=
  if kind == s "dict" then (readTags fuel (l.filter (·.1 != s "_kind"))).map fun kvs => .dict (dictOf kvs)
  else if kind == s "marker" then some .marker
  else if kind == s "remove" then some .remove
  else if kind == s "na" then some .na
  else if kind == s "number" then readNumber (lookup l "val") (lookup l "unit")
  else if kind == s "ref" then readStrOpt .ref (lookup l "val") (lookup l "dis")
  else if kind == s "symbol" then (strOf (lookup l "val")).map .sym
  else if kind == s "uri" then (strOf (lookup l "val")).map .uri
  else if kind == s "date" then (strOf (lookup l "val")).map lexDate
  else if kind == s "time" then (strOf (lookup l "val")).map lexTime
  else if kind == s "dateTime" then readStrOpt lexDateTime (lookup l "val") (lookup l "tz")
  else if kind == s "coord" then
    match numOf (lookup l "lat"), numOf (lookup l "lng") with
    | some a, some b => some (.coord a b)
    | _, _ => none
  else if kind == s "xstr" then
    match strOf (lookup l "type"), strOf (lookup l "val") with
    | some t, some v => some (.xstr t v)
    | _, _ => none
  else if kind == s "grid" then readGrid fuel (lookup l "meta") (lookup l "cols") (lookup l "rows")
  else none

theorem read_obj (f : Nat) (ms : Members) : read (f + 1) (.obj ms) =
    match lookup ms.toList "_kind" with
    | none => (readTags f ms.toList).map fun kvs => .dict (dictOf kvs)
    | some (.str kind) => readKind f ms.toList kind
    | some _ => none := by
  rw [read]; rfl

theorem lookup_kind {kind : String} {rest : Mems} (h : ∀ p ∈ rest, p.1 ≠ s "_kind") :
    lookup (kindMem kind :: rest) "_kind" = some (.str (s kind)) := by
  rw [lookup_cons, lookup_none_of_not_mem rest "_kind" h]
  simp

theorem read_kindObj {ms : Members} {kind : String} {rest : Mems}
    (hp : ms.toList.Perm (kindMem kind :: rest)) (nd : ((kindMem kind :: rest).map (·.1)).Nodup)
    {n : Nat} (hn : 2 * size (.obj ms) ≤ n) :
    read n (.obj ms) = readKind (n - 1) ms.toList (s kind) ∧
      ∀ k, lookup ms.toList k = lookup (kindMem kind :: rest) k := by
  obtain ⟨f, rfl⟩ := succ_of_size_le hn
  have hk : lookup ms.toList "_kind" = some (.str (s kind)) := by
    rw [lookup_of_perm hp nd]
    exact lookup_kind (noKind_of_names nd)
  refine ⟨?_, lookup_of_perm hp nd⟩
  rw [read_obj, hk]
  rfl

theorem readKind_dict (f : Nat) (l : Mems) : readKind f l (s "dict") =
    (readTags f (l.filter (·.1 != s "_kind"))).map fun kvs => .dict (dictOf kvs) := by
  simp only [readKind, beq_iff_eq, ↓reduceIte]

theorem readKind_marker (f : Nat) (l : Mems) : readKind f l (s "marker") = some .marker := by
  simp only [readKind, beq_iff_eq, s_inj, String.reduceEq, ↓reduceIte]

theorem readKind_remove (f : Nat) (l : Mems) : readKind f l (s "remove") = some .remove := by
  simp only [readKind, beq_iff_eq, s_inj, String.reduceEq, ↓reduceIte]

theorem readKind_na (f : Nat) (l : Mems) : readKind f l (s "na") = some .na := by
  simp only [readKind, beq_iff_eq, s_inj, String.reduceEq, ↓reduceIte]

theorem readKind_number (f : Nat) (l : Mems) :
    readKind f l (s "number") = readNumber (lookup l "val") (lookup l "unit") := by
  simp only [readKind, beq_iff_eq, s_inj, String.reduceEq, ↓reduceIte]

theorem readKind_ref (f : Nat) (l : Mems) :
    readKind f l (s "ref") = readStrOpt .ref (lookup l "val") (lookup l "dis") := by
  simp only [readKind, beq_iff_eq, s_inj, String.reduceEq, ↓reduceIte]

theorem readKind_symbol (f : Nat) (l : Mems) : readKind f l (s "symbol") = (strOf (lookup l "val")).map .sym := by
  simp only [readKind, beq_iff_eq, s_inj, String.reduceEq, ↓reduceIte]

theorem readKind_uri (f : Nat) (l : Mems) : readKind f l (s "uri") = (strOf (lookup l "val")).map .uri := by
  simp only [readKind, beq_iff_eq, s_inj, String.reduceEq, ↓reduceIte]

theorem readKind_date (f : Nat) (l : Mems) : readKind f l (s "date") = (strOf (lookup l "val")).map lexDate := by
  simp only [readKind, beq_iff_eq, s_inj, String.reduceEq, ↓reduceIte]

theorem readKind_time (f : Nat) (l : Mems) : readKind f l (s "time") = (strOf (lookup l "val")).map lexTime := by
  simp only [readKind, beq_iff_eq, s_inj, String.reduceEq, ↓reduceIte]

theorem readKind_dateTime (f : Nat) (l : Mems) :
    readKind f l (s "dateTime") = readStrOpt lexDateTime (lookup l "val") (lookup l "tz") := by
  simp only [readKind, beq_iff_eq, s_inj, String.reduceEq, ↓reduceIte]

theorem readKind_coord (f : Nat) (l : Mems) :
    readKind f l (s "coord") = match numOf (lookup l "lat"), numOf (lookup l "lng") with
      | some a, some b => some (.coord a b)
      | _, _ => none := by
  simp only [readKind, beq_iff_eq, s_inj, String.reduceEq, ↓reduceIte]

theorem readKind_xstr (f : Nat) (l : Mems) :
    readKind f l (s "xstr") = match strOf (lookup l "type"), strOf (lookup l "val") with
      | some t, some v => some (.xstr t v)
      | _, _ => none := by
  simp only [readKind, beq_iff_eq, s_inj, String.reduceEq, ↓reduceIte]

theorem readKind_grid (f : Nat) (l : Mems) :
    readKind f l (s "grid") = readGrid f (lookup l "meta") (lookup l "cols") (lookup l "rows") := by
  simp only [readKind, beq_iff_eq, s_inj, String.reduceEq, ↓reduceIte]

/-! ### scalar kinds -/

theorem rdr_numTok {f : Flt} {j : Json} (h : NumTok f j) (n : Nat) (hn : 2 * size j ≤ n) :
    read n j = some (.num { v := f, unit := none }) := by
  obtain ⟨n', rfl⟩ := succ_of_size_le hn
  cases h <;> rfl

/-- `marker`, `remove`, `na`: the object with the one member `_kind` -/
theorem rdr_single {kind : String} {v : Val} (hv : ∀ f l, readKind f l (s kind) = some v) {ms : Members}
    (hp : ms.toList.Perm [kindMem kind]) {n : Nat} (hn : 2 * size (.obj ms) ≤ n) : read n (.obj ms) = some v := by
  rw [(read_kindObj hp (by simp) hn).1, hv]

theorem rdr_val {kind : String} {C : List Char → Val}
    (hC : ∀ f l, readKind f l (s kind) = (strOf (lookup l "val")).map C)
    {x : List Char} {ms : Members} (hp : ms.toList.Perm [kindMem kind, (s "val", .str x)])
    {n : Nat} (hn : 2 * size (.obj ms) ≤ n) : read n (.obj ms) = some (C x) := by
  obtain ⟨e, hl⟩ := read_kindObj hp names_val hn
  rw [e, hC, hl]
  simp [lookup_cons, lookup_nil, s_inj, strOf]

theorem rdr_valOpt {kind name : String} {mk : List Char → Option (List Char) → Val}
    (hC : ∀ f l, readKind f l (s kind) = readStrOpt mk (lookup l "val") (lookup l name))
    (h1 : name ≠ "_kind") (h2 : name ≠ "val")
    {x : List Char} {o : Option (List Char)} {om : Mems} {ms : Members} (ho : OptStr name o om)
    (hp : ms.toList.Perm (kindMem kind :: (s "val", .str x) :: om))
    {n : Nat} (hn : 2 * size (.obj ms) ≤ n) : read n (.obj ms) = some (mk x o) := by
  obtain ⟨e, hl⟩ := read_kindObj hp (names_valOpt h1 h2 ho) hn
  rw [e, hC, hl, hl]
  cases ho <;> simp [lookup_cons, lookup_nil, s_inj, strOf, readStrOpt, h1.symm, h2.symm, h2]

theorem readNumVal_of {f : Flt} {jv : Json} (hv : NumVal f jv) : readNumVal (some jv) = some f := by
  cases hv with
  | tok h => cases h <;> rfl
  | inf => simp [readNumVal]
  | negInf => simp [readNumVal, s_inj]
  | nan => simp [readNumVal, s_inj]

theorem rdr_number {f : Flt} {jv : Json} {u : Option (List Char)} {um : Mems} {ms : Members}
    (hv : NumVal f jv) (hu : OptUnit u um) (hp : ms.toList.Perm (kindMem "number" :: (s "val", jv) :: um))
    {n : Nat} (hn : 2 * size (.obj ms) ≤ n) : read n (.obj ms) = some (.num { v := f, unit := u }) := by
  obtain ⟨e, hl⟩ := read_kindObj hp (names_number hu) hn
  rw [e, readKind_number, hl, hl]
  cases hu with
  | absent => simp [lookup_cons, lookup_nil, s_inj, readNumber, readNumVal_of hv]
  | present id sym hsym => simp [lookup_cons, lookup_nil, s_inj, readNumber, readNumVal_of hv, hsym]

theorem numOf_of {f : Flt} {j : Json} (h : NumTok f j) : numOf (some j) = some f := by
  cases h <;> rfl

theorem rdr_coord {a b : Flt} {ja jb : Json} {ms : Members} (ha : NumTok a ja) (hb : NumTok b jb)
    (hp : ms.toList.Perm [kindMem "coord", (s "lat", ja), (s "lng", jb)])
    {n : Nat} (hn : 2 * size (.obj ms) ≤ n) : read n (.obj ms) = some (.coord a b) := by
  obtain ⟨e, hl⟩ := read_kindObj hp names_coord hn
  rw [e, readKind_coord, hl, hl]
  simp [lookup_cons, lookup_nil, s_inj, numOf_of ha, numOf_of hb]

theorem rdr_xstr {ty x : List Char} {ms : Members}
    (hp : ms.toList.Perm [kindMem "xstr", (s "type", .str ty), (s "val", .str x)])
    {n : Nat} (hn : 2 * size (.obj ms) ≤ n) : read n (.obj ms) = some (.xstr ty x) := by
  obtain ⟨e, hl⟩ := read_kindObj hp names_xstr hn
  rw [e, readKind_xstr, hl, hl]
  simp [lookup_cons, lookup_nil, s_inj, strOf]

/-! ### dict objects -/

/-- what the induction knows about a dict object of the tags `t'`: its members are a reordering of an
optional `"_kind":"dict"` and readable members `tm`, one per tag of `t'` -/
def DictRead (t' : Tags) (ms : Members) : Prop :=
  ∃ tm km : Mems, OptKindDict km ∧ ms.toList.Perm (km ++ tm) ∧ tm.map rd = t'.toList ∧
    (∀ p ∈ tm, Readable p) ∧ TagKeys t'

theorem keys_of_vals {tm : Mems} {t' : Tags} (hv : tm.map rd = t'.toList) : tm.map (·.1) = t'.keys := by
  rw [Tags.keys_eq, ← hv, List.map_map]; rfl

theorem noKind_of_vals {tm : Mems} {t' : Tags} (hv : tm.map rd = t'.toList) (hk : TagKeys t') :
    ∀ p ∈ tm, p.1 ≠ s "_kind" := by
  intro p hp
  exact hk.2 p.1 (by rw [← keys_of_vals hv]; exact List.mem_map_of_mem hp)

theorem DictRead.tagKeys {t' : Tags} {ms : Members} (h : DictRead t' ms) : TagKeys t' :=
  let ⟨_, _, _, _, _, _, hk⟩ := h; hk

theorem DictRead.tagsRead {t' : Tags} {ms : Members} (h : DictRead t' ms) :
    TagsRead t' (ms.toList.filter (fun p => p.1 != s "_kind")) := by
  obtain ⟨tm, km, hkm, hp, hv, hr, hk⟩ := h
  refine ⟨tm, ?_, hv, hr⟩
  have h1 := hp.filter (fun p => p.1 != s "_kind")
  have h2 : tm.filter (fun p => p.1 != s "_kind") = tm :=
    List.filter_eq_self.mpr fun p hp => by simpa using noKind_of_vals hv hk p hp
  cases hkm with
  | absent => simpa [h2] using h1
  | present =>
    have : ([kindMem "dict"] ++ tm).filter (fun p => p.1 != s "_kind") = tm := by
      simp [h2]
    rwa [this] at h1

theorem rdr_dictObj {t' : Tags} {ms : Members} (h : DictRead t' ms) (n : Nat) (hn : 2 * size (.obj ms) ≤ n) :
    read n (.obj ms) = some (.dict t') := by
  have htr := h.tagsRead
  obtain ⟨tm, km, hkm, hp, hv, hr, hk⟩ := h
  obtain ⟨n', rfl⟩ := succ_of_size_le hn
  have hnk := noKind_of_vals hv hk
  cases hkm with
  | absent =>
    have hsz : 2 * sizeL ms.toList + 1 ≤ n' := by
      simp only [size, sizem_eq] at hn; omega
    have hlk : lookup ms.toList "_kind" = none :=
      lookup_none_of_not_mem _ _ (fun p hp' => hnk p ((by simpa using hp : ms.toList.Perm tm).mem_iff.mp hp'))
    have htr' : TagsRead t' ms.toList := ⟨tm, by simpa using hp, hv, hr⟩
    obtain ⟨kvs, h1, h2, _⟩ := htr'.readTags hk.1 n' hsz
    rw [read_obj]
    simp only [hlk, h1, Option.map_some, h2]
  | present =>
    have hlk : lookup ms.toList "_kind" = some (.str (s "dict")) := by
      rw [lookup_of_filter hp (a := [kindMem "dict"]) (by simpa using hnk) (Nat.le_refl 1)]
      exact lookup_kind nofun
    obtain ⟨kvs, h1, h2, _⟩ := htr.readTags hk.1 n' (fuel_members _ hn)
    rw [read_obj, hlk]
    simp only [readKind_dict, h1, Option.map_some, h2]

/-! ### a grid meta -/

theorem rdr_meta {t' : Tags} {ver : List Char} {tm km vm : Mems} {mm : Members}
    (hv : tm.map rd = t'.toList) (hr : ∀ p ∈ tm, Readable p) (hk : TagKeys t')
    (hnv : ∀ k ∈ t'.keys, k ≠ s "ver") (hkm : OptKindDict km) (hvm : OptVer ver vm)
    (hp : mm.toList.Perm (km ++ vm ++ tm)) :
    (strOf (lookup mm.toList "ver")).getD (s "3.0") = ver ∧
      TagsRead t' (mm.toList.filter (fun p => p.1 != s "ver" && p.1 != s "_kind")) := by
  have hnv' : ∀ p ∈ tm, p.1 ≠ s "ver" := by
    intro p hp'
    exact hnv p.1 (by rw [← keys_of_vals hv]; exact List.mem_map_of_mem hp')
  have hnk := noKind_of_vals hv hk
  constructor
  · have hf : (km ++ vm ++ tm).filter (fun p => p.1 == s "ver") = vm := by
      have h3 : tm.filter (fun p => p.1 == s "ver") = [] :=
        List.filter_eq_nil_iff.mpr (fun p hp' => by simpa using hnv' p hp')
      rw [List.filter_append, List.filter_append, h3]
      cases hkm <;> cases hvm <;> simp [s_inj]
    rw [lookup_of_filter hp hf (by cases hvm <;> simp)]
    cases hvm <;> simp [lookup_cons, lookup_nil, strOf]
  · refine ⟨tm, ?_, hv, hr⟩
    have h1 := hp.filter (fun p => p.1 != s "ver" && p.1 != s "_kind")
    have h3 : tm.filter (fun p => p.1 != s "ver" && p.1 != s "_kind") = tm :=
      List.filter_eq_self.mpr (fun p hp' => by simp [hnv' p hp', hnk p hp'])
    rw [List.filter_append, List.filter_append, h3] at h1
    cases hkm <;> cases hvm <;> simpa using h1

end Hs.Spec.Hayson

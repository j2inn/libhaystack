/-
  Hs.Lemmas.NsSpec — the namespace queries of Hs.Model.Ns against the specification graph, for EVERY defs grid
  (no acyclicity hypothesis: the traversals expand a def once, `fuelFor g = |defs| + 1` iterations suffice).
  What reads the `defs` map only (`*_ns`) holds of any namespace; the subtype side and `reflect` read the indexes
  and are about `make rows`.
-/
import Hs.Lemmas.NsGraph
namespace Hs.Ns
open Relation

theorem fuelFor_ge (g : Defs) : (Names g).length + 1 ≤ fuelFor g := by
  simp [fuelFor, Names]

theorem transGen_congr {α : Type} {r p : α → α → Prop} (h : ∀ a b, r a b ↔ p a b) (a b : α) :
    TransGen r a b ↔ TransGen p a b :=
  ⟨TransGen.mono (fun a b => (h a b).1) a b, TransGen.mono (fun a b => (h a b).2) a b⟩

theorem transGen_source_defined {g : Defs} {a b : Name} (h : TransGen (RawEdge g) a b) : defined g a = true := by
  obtain ⟨_, ⟨d, hd, _⟩, _⟩ := TransGen.head'_iff.1 h
  exact defined_iff.2 ⟨d, hd⟩

/-- undefined symbols have no outgoing edge -/
theorem raw_transGen_defined {g : Defs} {a b : Name} (h : TransGen (RawEdge g) a b) (hb : defined g b = true) :
    TransGen (Edge g) a b := by
  induction h using TransGen.head_induction_on with
  | single h =>
    obtain ⟨d, h1, h2⟩ := h
    exact TransGen.single ⟨d, h1, h2, hb⟩
  | head h hcb ih =>
    rename_i a' c
    obtain ⟨d, h1, h2⟩ := h
    exact TransGen.head ⟨d, h1, h2, transGen_source_defined hcb⟩ ih

/-! ### `inheritance` and `fits` in terms of the traversal -/

theorem inheritance_undefined (fuel : Nat) (ns : Ns) (s : Name) (hs : defined ns.defs s = false) :
    inheritance fuel ns s = .ok [] := by
  simp [inheritance, hs]

theorem inheritance_eq (fuel : Nat) (ns : Ns) (s : Name) (all : List Name)
    (hs : defined ns.defs s = true) (h : allSupertypesOf fuel ns s = .ok all) :
    inheritance fuel ns s = .ok (extendSet [s] all) := by
  simp [inheritance, hs, h]

theorem fits_of_inheritance (fuel : Nat) (ns : Ns) (a b : Name) {l : List Name}
    (hi : inheritance fuel ns a = .ok l) : fits fuel ns a b = .ok (defined ns.defs b && l.contains b) := by
  cases hb : defined ns.defs b <;> simp [fits, hb, hi]

/-! ### the queries that read the `defs` map only: any namespace -/
section
variable (ns : Ns) (fuel : Nat) (hf : fuelFor ns.defs ≤ fuel)
include hf

theorem allSupertypesOf_spec_ns (s : Name) :
    ∃ res, allSupertypesOf fuel ns s = .ok res ∧ res.Nodup ∧ ∀ x, x ∈ res ↔ TransGen (Edge ns.defs) s x := by
  obtain ⟨res, h1, h2, h3⟩ := wl_spec (supertypesOf ns.defs) false (Names ns.defs)
    (supertypesOf_in_names _) fuel (Nat.le_trans (fuelFor_ge _) hf) s
  refine ⟨res, h1, h2, fun x => ?_⟩
  rw [h3 x]
  exact transGen_congr (fun a b => mem_supertypesOf) s x

theorem inheritance_spec_ns (s : Name) :
    ∃ res, inheritance fuel ns s = .ok res ∧
      ∀ x, x ∈ res ↔ (defined ns.defs s = true ∧ ReflTransGen (Edge ns.defs) s x) := by
  obtain ⟨all, h1, _, h3⟩ := allSupertypesOf_spec_ns ns fuel hf s
  cases hs : defined ns.defs s with
  | true =>
    refine ⟨_, inheritance_eq fuel ns s all hs h1, fun x => ?_⟩
    rw [mem_extendSet, List.mem_singleton, h3 x, reflTransGen_iff_eq_or_transGen]
    simp
  | false => exact ⟨[], inheritance_undefined fuel ns s hs, fun x => by simp⟩

theorem fits_spec_ns (a b : Name) :
    ∃ v, fits fuel ns a b = .ok v ∧
      (v = true ↔ (defined ns.defs a = true ∧ defined ns.defs b = true ∧ ReflTransGen (Edge ns.defs) a b)) := by
  obtain ⟨inh, h1, h2⟩ := inheritance_spec_ns ns fuel hf a
  refine ⟨_, fits_of_inheritance fuel ns a b h1, ?_⟩
  rw [Bool.and_eq_true, List.contains_iff_mem, h2 b]
  exact ⟨fun ⟨hb, ha, r⟩ => ⟨ha, hb, r⟩, fun ⟨ha, hb, r⟩ => ⟨hb, ha, r⟩⟩

theorem findSupertypesFromDefs_spec :
    ∀ (ds acc : List Name), ∃ res, findSupertypesFromDefs fuel ns ds acc = .ok res ∧
      ∀ x, x ∈ res ↔ (x ∈ acc ∨ ∃ d ∈ ds, ReflTransGen (Edge ns.defs) d x) := by
  intro ds
  induction ds with
  | nil => intro acc; exact ⟨acc, rfl, fun x => by simp⟩
  | cons d ds ih =>
    intro acc
    obtain ⟨all, h1, _, h3⟩ := allSupertypesOf_spec_ns ns fuel hf d
    obtain ⟨res, h4, h5⟩ := ih (extendSet (insertSet d acc) all)
    refine ⟨res, by simp only [findSupertypesFromDefs, h1]; exact h4, fun x => ?_⟩
    rw [h5 x, mem_extendSet, mem_insertSet, h3 x]
    simp only [List.mem_cons, exists_eq_or_imp, reflTransGen_iff_eq_or_transGen (a := d), or_assoc, or_left_comm]

theorem anyFits_spec (base : Name) :
    ∀ ds : List Name, ∃ v, anyFits fuel ns base ds = .ok v ∧
      (v = true ↔ ∃ d ∈ ds, defined ns.defs d = true ∧ defined ns.defs base = true ∧
        ReflTransGen (Edge ns.defs) d base) := by
  intro ds
  induction ds with
  | nil => exact ⟨false, rfl, by simp⟩
  | cons d ds ih =>
    obtain ⟨v, h1, h2⟩ := fits_spec_ns ns fuel hf d base
    obtain ⟨w, h3, h4⟩ := ih
    cases v with
    | true =>
      refine ⟨true, by simp only [anyFits, h1], ?_⟩
      simp only [true_iff]
      exact ⟨d, List.mem_cons_self, h2.1 rfl⟩
    | false =>
      refine ⟨w, by simp only [anyFits, h1]; exact h3, ?_⟩
      simp only [h4, List.mem_cons, exists_eq_or_imp, ← h2, Bool.false_eq_true, false_or]

end

theorem edge_target_defined {g : Defs} {a b : Name} (h : ReflTransGen (Edge g) a b) (ha : defined g a = true) :
    defined g b = true := by
  induction h with
  | refl => exact ha
  | tail _ hbc _ => obtain ⟨_, _, _, hb⟩ := hbc; exact hb

section
variable (rows : List Row)

/-- `s` need not be defined: a symbol that is only mentioned in `is` lists has subtypes -/
theorem allSubtypesOf_spec (fuel : Nat) (hf : fuelFor (make rows).defs ≤ fuel) (s : Name) :
    ∃ res, allSubtypesOf fuel (make rows) s = .ok res ∧ res.Nodup ∧
      ∀ x, x ∈ res ↔ TransGen (RawEdge (make rows).defs) x s := by
  obtain ⟨res, h1, h2, h3⟩ := wl_spec (subtypesOf (make rows)) true (Names (make rows).defs)
    (subtypesOf_in_names rows) fuel (Nat.le_trans (fuelFor_ge _) hf) s
  refine ⟨res, h1, h2, fun x => ?_⟩
  rw [h3 x, ← transGen_swap]
  exact transGen_congr (fun a b => mem_subtypesOf rows b a) x s

theorem inheritance_spec (fuel : Nat) (hf : fuelFor (make rows).defs ≤ fuel) (s : Name) :
    ∃ res, inheritance fuel (make rows) s = .ok res ∧
      ∀ x, x ∈ res ↔ (defined (make rows).defs s = true ∧ ReflTransGen (Edge (make rows).defs) s x) :=
  inheritance_spec_ns _ fuel hf s

theorem fits_spec (fuel : Nat) (hf : fuelFor (make rows).defs ≤ fuel) (a b : Name) :
    ∃ v, fits fuel (make rows) a b = .ok v ∧
      (v = true ↔ (defined (make rows).defs a = true ∧ defined (make rows).defs b = true ∧
        ReflTransGen (Edge (make rows).defs) a b)) := fits_spec_ns _ fuel hf a b

/-! ### reflection -/

/-- The defs a record names directly - the statement's "defs of its tags" and "every conjunct whose parts are all
marker tags of the record".  A tag's own name counts whatever the tag's value; whether a part of a conjunct has a
def of its own plays no role. -/
def Seed (g : Defs) (r : Rec) (t : Name) : Prop :=
  defined g t = true ∧
    ((∃ m, (t, m) ∈ r) ∨ (isConjunct t = true ∧ ∀ p ∈ splitDash t, (p, true) ∈ r))

theorem not_seed_of_part {g : Defs} {r : Rec} {c p : Name} (hp : p ∈ splitDash c) (hnot : (p, true) ∉ r)
    (hnotag : ∀ v, (c, v) ∉ r) : ¬ Seed g r c := by
  rintro ⟨_, ⟨v, hv⟩ | ⟨_, h⟩⟩
  · exact hnotag v hv
  · exact hnot (h p hp)

theorem mem_tagDefs (ns : Ns) (r : Rec) (t : Name) :
    t ∈ tagDefs ns r ↔ (defined ns.defs t = true ∧ ∃ m, (t, m) ∈ r) := by
  simp only [tagDefs, List.mem_filterMap, Option.ite_none_right_eq_some, Option.some.injEq]
  exact ⟨fun ⟨⟨_, m⟩, hm, hd, e⟩ => e ▸ ⟨hd, m, hm⟩, fun ⟨hd, m, hm⟩ => ⟨(t, m), hm, hd, rfl⟩⟩

theorem mem_markerTags (r : Rec) (t : Name) : t ∈ markerTags r ↔ (t, true) ∈ r := by
  simp [markerTags, mem_extendSet, List.mem_filterMap]

theorem reflect_spec (fuel : Nat) (hf : fuelFor (make rows).defs ≤ fuel) (r : Rec) :
    ∃ res, reflect fuel (make rows) r = .ok res ∧
      ∀ x, x ∈ res ↔ ∃ t, Seed (make rows).defs r t ∧ ReflTransGen (Edge (make rows).defs) t x := by
  obtain ⟨res, h1, h2⟩ := findSupertypesFromDefs_spec (make rows) fuel hf
    (tagDefs (make rows) r ++ findConjuncts (make rows) (markerTags r)) []
  refine ⟨res, h1, fun x => ?_⟩
  simp only [h2 x, List.not_mem_nil, false_or, List.mem_append, mem_tagDefs, mem_findConjuncts, Seed, mem_markerTags,
    and_or_left]

end
end Hs.Ns

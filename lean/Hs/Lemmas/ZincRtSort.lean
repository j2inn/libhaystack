/-
  The key order of `dictOf` (the model of collecting into a `BTreeMap`): `leChars` is core's `≤` on names, strict
  `ltKey` its `<`, `insertSorted` is `Key.insert` and `dictOf` the `Key.collect` of `Hs.Lemmas.KeyMap`, where the lemmas
  are.  So `dictOf` sorts: collecting entries that all belong to a list with strictly ascending keys, and that cover
  its keys, rebuilds that list; an entry given twice is inserted twice, to no effect (grid rows are read in column
  order, and two columns may have the same name).
-/
import Hs.Model.ZincParse
import Hs.Lemmas.Views
namespace Hs.Zinc
open Hs

def ltKey (a b : List Char) : Bool := leChars a b && a != b

def keysSorted : List (List Char) → Bool
  | [] => true
  | k :: ks => ks.all (ltKey k) && keysSorted ks

/-! ### the bridges -/

theorem leChars_iff : ∀ a b : List Char, leChars a b = true ↔ a ≤ b :=
  Key.le_iff (fun _ => by rw [leChars]) (fun _ _ => by rw [leChars]) (fun _ _ _ _ => by rw [leChars])

theorem ltKey_iff (a b : List Char) : ltKey a b = true ↔ a < b := by
  rw [ltKey, Bool.and_eq_true, leChars_iff, bne_iff_ne]; exact Key.le_and_ne

theorem insertSorted_eq : insertSorted = Key.insert :=
  Key.insert_of_eqns leChars_iff (fun _ _ => rfl) (fun _ _ _ _ _ => rfl)

theorem foldl_insertSorted_eq (l d : List (List Char × Val)) :
    l.foldl (fun acc p => insertSorted p.1 p.2 acc) d = Key.collect l d := by
  rw [insertSorted_eq]; rfl

theorem dictOf_eq_collect (kvs : List (List Char × Val)) : dictOf kvs = Tags.ofList (Key.collect kvs []) := by
  rw [dictOf, foldl_insertSorted_eq]

theorem keysSorted_iff : ∀ ks : List (List Char), keysSorted ks = true ↔ Key.Asc ks
  | [] => by simp [keysSorted]
  | k :: ks => by simp [keysSorted, keysSorted_iff ks, ltKey_iff, Key.Asc]

/-! ### `dictOf` -/

theorem foldl_insertSorted_gen : ∀ (l acc : List (List Char × Val)), Key.Sorted acc →
    Key.Sorted (l.foldl (fun acc p => insertSorted p.1 p.2 acc) acc) ∧
      (∀ p ∈ l.foldl (fun acc p => insertSorted p.1 p.2 acc) acc, p ∈ acc ∨ p ∈ l) ∧
      ((acc ≠ [] ∨ l ≠ []) → l.foldl (fun acc p => insertSorted p.1 p.2 acc) acc ≠ []) := by
  intro l acc hs
  rw [foldl_insertSorted_eq]
  exact ⟨Key.collect_sorted l hs, fun p => Key.mem_collect p l acc, Key.collect_ne_nil l acc⟩

theorem sorted_toList (t : Tags) (h : keysSorted t.keys = true) : Key.Sorted t.toList :=
  Tags.sorted_toList.mpr ((keysSorted_iff _).mp h)

theorem dictOf_toList (t : Tags) (h : keysSorted t.keys = true) : dictOf t.toList = t := by
  rw [dictOf_eq_collect, Key.collect_of_perm (sorted_toList t h) (List.Perm.refl _), Tags.ofList_toList]

/-! ### a cell found by name -/

/-- a value found by name is one of the values of the tags: what a predicate `Q`, defined by recursion on the tags,
says of every value (`P`) holds of it -/
theorem get?_all {P : Val → Prop} {Q : Tags → Prop} (step : ∀ k v t, Q (.cons k v t) → P v ∧ Q t) :
    ∀ (t : Tags), Q t → ∀ (n : List Char) (v : Val), t.get? n = some v → P v
  | .nil, _, n, v, hg => by simp [Tags.get?] at hg
  | .cons k w t, h, n, v, hg => by
    by_cases hk : k = n
    · simp only [Tags.get?, hk, if_true, Option.some.injEq] at hg
      subst hg; exact (step k w t h).1
    · simp only [Tags.get?, hk, if_false] at hg
      exact get?_all step t (step k w t h).2 n v hg

end Hs.Zinc

/-
  Lemmas for C17 / C18 about single calls: failing paths, sentinels, aborts, null arguments.
-/
import Hs.Model.CApi
namespace Hs.CApi
open Hs

abbrev CState.failed (s : CState) (e : CErr) (sen : Sentinel) : CState × CRes :=
  ({ s with lastErr := some e }, .fail sen)

theorem cstep_of_ok {s : CState} {op : COp} {s' : CState} {r : COk} (h : cexec s op = .ok (s', r)) :
    cstep s op = (s', .ok r) := by simp [cstep, h]

theorem cstep_of_err {s : CState} {op : COp} {e : CErr} {sen : Sentinel} (h : cexec s op = .error (.err e sen)) :
    cstep s op = s.failed e sen := by simp [cstep, h]

def COp.sentinel : COp → Sentinel
  | .mk0 _ | .mkBool _ | .mkNum _ | .mkCoord _ _ => .none
  | .mkNumUnit _ _ _ | .mk1 _ _ | .mkRefDis _ _ | .mkXStr _ _ | .mkTime _ _ _ | .mkTimeMs _ _ _ _ | .mkDate _ _ _
  | .mkUtc _ _ _ | .mkTz _ _ _ _ => .null
  | .isKind _ _ => .false
  | .get g _ => g.sentinel
  | .lpush _ _ | .lget _ _ _ | .lset _ _ _ | .lrem _ _ | .dins _ _ _ | .dget _ _ _ | .drem _ _ | .dkeys _ _ => .err
  | .gfrom _ | .gfromMeta _ _ => .null
  | .grow _ _ _ | .dtDate _ _ _ _ | .dtTime _ _ _ _ => .err
  | .toZinc _ _ | .fromZinc _ _ | .toJson _ _ | .fromJson _ _ | .fparse _ _ => .null
  | .fmatch _ _ _ | .ffirst _ _ _ _ | .fall _ _ _ _ => .err
  | .fdestroy _ => .none
  | .takeErr => .null
  | .destroy _ | .sdestroy _ => .none

theorem text_err {c : CStr} {sen : Sentinel} {st : Stop} (h : c.text sen = .error st) :
    ∃ e, st = .err e sen := by
  cases c <;> simp [CStr.text] at h
  · exact ⟨_, h.symm⟩
  · exact ⟨_, h.symm⟩

theorem utcArgs_err {s : CState} {d t : Ptr} {st : Stop} (h : utcArgs s d t = .error st) :
    ∃ e, st = .err e .null := by
  unfold utcArgs at h
  split at h
  · split at h
    · split at h
      · rename_i hab
        simp only [Bool.and_eq_true] at hab
        simp [hab.1, hab.2] at h
      · exact ⟨_, (Except.error.inj h).symm⟩
    · exact ⟨_, (Except.error.inj h).symm⟩
  · exact ⟨_, (Except.error.inj h).symm⟩

theorem gridFromRows_err {s : CState} {rows : Ptr} {st : Stop} (h : gridFromRows s rows = .error st) :
    ∃ e, st = .err e .null := by
  unfold gridFromRows at h
  repeat' (split at h)
  all_goals first
    | (cases h; done)
    | exact ⟨_, (Except.error.inj h).symm⟩

theorem cexec_shape (s : CState) (op : COp) :
    (∃ e, cexec s op = .error (.err e op.sentinel)) ∨
    (∃ s' r, cexec s op = .ok (s', r) ∧ (op = .takeErr ∨ s'.lastErr = s.lastErr)) := by
  cases op <;> simp only [cexec, COp.sentinel]
  all_goals (repeat' split)
  all_goals first
    | exact .inl ⟨_, rfl⟩
    | exact .inr ⟨_, _, rfl, .inr rfl⟩
    | exact .inr ⟨_, _, rfl, .inl trivial⟩
    | (obtain ⟨e, rfl⟩ := text_err ‹_›; exact .inl ⟨_, rfl⟩)
    | (obtain ⟨e, rfl⟩ := utcArgs_err ‹_›; exact .inl ⟨_, rfl⟩)
    | (obtain ⟨e, rfl⟩ := gridFromRows_err ‹_›; exact .inl ⟨_, rfl⟩)

theorem cexec_err {s : CState} {op : COp} {st : Stop} (h : cexec s op = .error st) :
    ∃ e, st = .err e op.sentinel := by
  rcases cexec_shape s op with ⟨e, he⟩ | ⟨_, _, hok, _⟩
  · exact ⟨e, Except.error.inj (h.symm.trans he)⟩
  · rw [hok] at h; cases h

theorem cexec_no_abort (s : CState) (op : COp) : cexec s op ≠ .error .abort := by
  intro h
  obtain ⟨e, he⟩ := cexec_err h
  cases he

theorem cstep_cases (s : CState) (op : COp) :
    (∃ s' r, cexec s op = .ok (s', r) ∧ cstep s op = (s', .ok r)) ∨
    (∃ e, cexec s op = .error (.err e op.sentinel) ∧ cstep s op = s.failed e op.sentinel) := by
  cases h : cexec s op with
  | ok p => exact .inl ⟨p.1, p.2, rfl, cstep_of_ok h⟩
  | error st =>
    obtain ⟨e, he⟩ := cexec_err h
    subst he
    exact .inr ⟨e, rfl, cstep_of_err h⟩

theorem isNull_iff {c : CStr} : c.isNull = true ↔ c = .null := by cases c <;> simp [CStr.isNull]

theorem cexec_null {s : CState} {op : COp} (hd : op.isExemptDestroy = false)
    (hn : op.nullFlags.any id = true) : ∃ e, cexec s op = .error (.err e op.sentinel) := by
  cases hx : cexec s op with
  | error st =>
    obtain ⟨e, he⟩ := cexec_err hx
    exact ⟨e, by rw [he]⟩
  | ok p =>
    exfalso
    -- `hn` says which argument is null; with `none` / `.null` put in for it the body is a failing path: at once
    -- where that argument is looked at first, else in every branch on the arguments looked at before it
    cases op <;> simp only [COp.nullFlags, COp.isExemptDestroy, List.any, Bool.or_false, id, Bool.or_eq_true,
      Option.isNone_iff_eq_none, Bool.not_eq_true', reduceCtorEq, isNull_iff] at hn hd
    all_goals rcases hn with rfl | rfl | rfl
    all_goals simp [cexec, CState.val?, utcArgs, gridFromRows, CStr.text, CStr.isNull] at hx
    all_goals (repeat' split at hx)
    all_goals first | (cases hx; done) | simp_all

end Hs.CApi

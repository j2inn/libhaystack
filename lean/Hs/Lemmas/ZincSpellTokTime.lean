/-
  C04 read direction: every legal spelling of a Time (`TimeSp`) has the shape `dd:dd:dd[.d+]` and `mkTime` maps
  it to the time (`TimeInv`); the token statement (`TokW`) for it before any legal continuation (`DelimW`); the
  same for timestamps.
-/
import Hs.Lemmas.ZincSpellTok
import Hs.Lemmas.ZincRtDateTime
namespace Hs.Zinc
open Hs Hs.Scan Hs.Spell

/-! ### the fraction only matters through its first nine digits -/

theorem digitsNat_snoc (fr : List UInt8) (b : UInt8) : digitsNat (fr ++ [b]) = digitsNat fr * 10 + (b.toNat - 48) := by
  simp [digitsNat, List.foldl_append]

theorem fracNanos_snoc_zero (fr : List UInt8) : fracNanos (fr ++ [48]) = fracNanos fr := by
  unfold fracNanos
  by_cases hl : 9 ≤ fr.length
  · rw [List.take_append_of_le_length hl]
  · have hl' : fr.length < 9 := by omega
    have e1 : (fr ++ [48]).take 9 = fr ++ [48] := List.take_of_length_le (by simp; omega)
    have e2 : fr.take 9 = fr := List.take_of_length_le (by omega)
    simp only [e1, e2, digitsNat_snoc, List.length_append, List.length_cons, List.length_nil]
    -- one digit more is one power of ten less, and the digit `0` adds nothing
    have e3 : 9 - fr.length = (9 - (fr.length + 1)) + 1 := by omega
    rw [e3, Nat.pow_succ]
    simp only [UInt8.reduceToNat, Nat.sub_self, Nat.add_zero]
    rw [Nat.mul_assoc, Nat.mul_comm 10]

theorem mkTime_frac_congr (hms f g : List UInt8) (hf : f ≠ []) (hg : g ≠ []) (e : fracNanos f = fracNanos g) :
    mkTime hms (some f) = mkTime hms (some g) := by
  cases f with
  | nil => exact absurd rfl hf
  | cons a f =>
    cases g with
    | nil => exact absurd rfl hg
    | cons b g =>
      unfold mkTime
      simp only [List.isEmpty_cons, e]

theorem mkTime_frac_zero (hms f : List UInt8) (hf : f ≠ []) (e : fracNanos f = 0) :
    mkTime hms (some f) = mkTime hms none := by
  cases f with
  | nil => exact absurd rfl hf
  | cons a f =>
    unfold mkTime
    simp only [List.isEmpty_cons, e, Bool.not_false]

/-! ### every spelling keeps the invariant -/

theorem timeInv_of_sp (t : Time) (hok : timeOk t = true) (bs : List UInt8) (hsp : TimeSp t bs) : TimeInv t bs := by
  induction hsp with
  | canon => exact timeInv_canon t hok
  | dot0 bs _ hl ih =>
    obtain ⟨h0, h1, m0, m1, s0, s1, tl, rfl, htg, htl⟩ := ih
    have htl0 : tl = [] := by
      simp only [List.length_cons] at hl
      exact List.eq_nil_of_length_eq_zero (by omega)
    subst htl0
    refine ⟨h0, h1, m0, m1, s0, s1, [46, 48], rfl, htg, Or.inr ⟨48, [], rfl, ?_, ?_⟩⟩
    · intro b hb; simp only [List.mem_cons, List.not_mem_nil, or_false] at hb; subst hb; decide
    · rcases htl with ⟨_, hmk⟩ | ⟨f0, fr, e, _⟩
      · rw [mkTime_frac_zero _ [48] (by simp) (by decide)]; exact hmk
      · cases e
  | pad bs _ h1 h2 ih =>
    obtain ⟨h0, h1', m0, m1, s0, s1, tl, rfl, htg, htl⟩ := ih
    rcases htl with ⟨rfl, _⟩ | ⟨f0, fr, rfl, hdig, hmk⟩
    · simp at h1
    · refine ⟨h0, h1', m0, m1, s0, s1, 46 :: f0 :: (fr ++ [48]), by simp, htg,
        Or.inr ⟨f0, fr ++ [48], rfl, ?_, ?_⟩⟩
      · intro b hb
        simp only [List.mem_cons, List.mem_append, List.not_mem_nil, or_false] at hb
        rcases hb with rfl | hb | rfl
        · exact hdig _ (by simp)
        · exact hdig _ (by simp [hb])
        · decide
      · rw [← hmk]
        exact mkTime_frac_congr _ _ _ (by simp) (by simp) (fracNanos_snoc_zero (f0 :: fr))
  | unpad bs _ h1 ih =>
    -- `bs ++ [48]` has the shape, so its fraction is `f0 :: fr' ++ [48]`; dropping that zero keeps `fracNanos`
    obtain ⟨h0, h1', m0, m1, s0, s1, tl, e, htg, htl⟩ := ih
    have hlen := congrArg List.length e
    simp only [List.length_append, List.length_cons, List.length_nil] at hlen
    rcases htl with ⟨rfl, _⟩ | ⟨f0, fr, rfl, hdig, hmk⟩
    · simp at hlen; omega
    · simp only [List.length_cons] at hlen
      rcases List.eq_nil_or_concat fr with rfl | ⟨fr', x, hfr⟩
      · simp at hlen; omega
      · rw [List.concat_eq_append] at hfr
        subst hfr
        have e' : bs ++ [48] = (h0 :: h1' :: 58 :: m0 :: m1 :: 58 :: s0 :: s1 :: 46 :: f0 :: fr') ++ [x] := by
          rw [e]; simp
        have hbs := List.append_inj_left' e' rfl
        have hx := List.append_inj_right' e' rfl
        simp only [List.cons.injEq, and_true] at hx
        subst hx
        refine ⟨h0, h1', m0, m1, s0, s1, 46 :: f0 :: fr', hbs, htg,
          Or.inr ⟨f0, fr', rfl, ?_, ?_⟩⟩
        · intro b hb
          apply hdig
          simp only [List.mem_cons, List.mem_append] at hb ⊢
          rcases hb with rfl | hb
          · exact Or.inl rfl
          · exact Or.inr (Or.inl hb)
        · rw [← hmk]
          exact mkTime_frac_congr _ _ _ (by simp) (by simp) (fracNanos_snoc_zero (f0 :: fr')).symm

/-! ### the token -/

theorem tokW_time (t : Time) (h : timeOk t = true) (bs : List UInt8) (hsp : TimeSp t bs) : TokW bs (.time t) :=
  TokW.of_clean fun s rest fuel hat hs hd hf =>
    lexRead_time_of_stop t bs (timeInv_of_sp t h bs hsp) s rest fuel hat hs (hd.stop (by decide)) (by omega)

theorem tokW_time_canon (t : Time) (h : timeOk t = true) : TokW (encChars t.txt) (.time t) :=
  tokW_time t h _ (.canon t)

theorem firstW_time (t : Time) (h : timeOk t = true) (bs : List UInt8) (hsp : TimeSp t bs) : FirstW bs := by
  obtain ⟨h0, h1, m0, m1, s0, s1, tl, rfl, htg, _⟩ := timeInv_of_sp t h bs hsp
  exact firstW_of_digit _ _ htg.h0

theorem tokW_datetime (t : DateTime) (h : dtOk t = true) : TokW (encDateTime t) (lexImg (.dateTime t)) := by
  obtain ⟨henc, htxt, hok⟩ := dtOk_elim h
  intro s rest fuel hat hs hd hf
  rw [henc] at hat hf
  obtain ⟨s', e, hp⟩ := lexRead_datetime_of_zoneEnd _ hok s rest fuel hat hs hd.zoneEnd (by omega)
  refine ⟨s', ?_, hp⟩
  rw [e, htxt]
  rfl

end Hs.Zinc

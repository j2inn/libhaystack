/-
  Hs.Lemmas.NsCacheGood — rely/guarantee reasoning for the cache programs of Hs.Model.NsCache.

  `Inv cs`     every cached value is the value of the cache-free function for its key.
  `Le cs cs'`  `cs'` has every binding of `cs` (caches only grow).
  `Good post cs p`  whatever the other threads do to the caches - as long as they keep `Inv` and only add
               bindings - program `p`, started when the caches are `cs`, only inserts correct values and
               returns a value satisfying `post`.
  `Returns p a`  `p` is `Good` for "the result is `a`" from any caches.
  `cachedW`    the code of a cached function, once for `supertypes_of` and `inheritance`, library-internal and public.

  Names: a program ends in `P`; `supG` / `inhG` are the cached functions as the library calls them (the answer read
  through the guard, the guard dropped), `supK` / `inhK` as the public functions (the guard returned, the caller keeps
  it); a cache-free function with `fits` called where the code calls it ends in `L` (lazy); `…X` is the namespace with
  the full def dicts (Hs.Model.NsAssoc).  `AInv` is the invariant about answers, `SInv` the one about guards (`Safe`),
  `GInv` both.  In Hs.Thm.C14 `k…` is the keeping callers' counterexample, `x…` the miniature library over `NsX`.
-/
import Hs.Model.NsCache
namespace Hs.NsCache
open Hs Hs.Ns

def Correct (cfg : Cfg) : CacheId → Name → V → Prop
  | .sup, k, v => v = supertypesOf cfg.ns.defs k
  | .inh, k, v => inheritance cfg.fuel cfg.ns k = .ok v

theorem correct_unique {cfg : Cfg} {c : CacheId} {k : Name} {v v' : V}
    (h : Correct cfg c k v) (h' : Correct cfg c k v') : v = v' := by
  cases c with
  | sup => simp only [Correct] at h h'; rw [h, h']
  | inh => simp only [Correct] at h h'; rw [h] at h'; exact Res.ok.inj h'

def Inv (cfg : Cfg) (cs : Caches) : Prop := ∀ c k v, look c k cs = some v → Correct cfg c k v

def Le (a b : Caches) : Prop := ∀ c k v, look c k a = some v → look c k b = some v

theorem le_refl (a : Caches) : Le a a := fun _ _ _ h => h
theorem le_trans {a b c : Caches} (h1 : Le a b) (h2 : Le b c) : Le a c := fun x k v h => h2 x k v (h1 x k v h)

theorem look_put_same (c : CacheId) (k : Name) (v : V) (cs : Caches) : look c k (put c k v cs) = some v := by
  cases c <;> simp [look, put, alook]

theorem look_put_other {c c' : CacheId} {k k' : Name} (v : V) (cs : Caches) (h : ¬ (c' = c ∧ k' = k)) :
    look c' k' (put c k v cs) = look c' k' cs := by
  cases c <;> cases c' <;> simp only [look, put, alook]
  · by_cases hk : k = k'
    · exact absurd ⟨rfl, hk.symm⟩ h
    · simp [hk]
  · by_cases hk : k = k'
    · exact absurd ⟨rfl, hk.symm⟩ h
    · simp [hk]

theorem le_put {cfg : Cfg} {cs : Caches} (hinv : Inv cfg cs) {c : CacheId} {k : Name} {v : V}
    (hc : Correct cfg c k v) : Le cs (put c k v cs) := by
  intro c' k' v' h
  by_cases hck : c' = c ∧ k' = k
  · obtain ⟨rfl, rfl⟩ := hck
    rw [look_put_same, correct_unique hc (hinv _ _ _ h)]
  · rw [look_put_other v cs hck]; exact h

theorem inv_put {cfg : Cfg} {cs : Caches} (hinv : Inv cfg cs) {c : CacheId} {k : Name} {v : V}
    (hc : Correct cfg c k v) : Inv cfg (put c k v cs) := by
  intro c' k' v' h
  by_cases hck : c' = c ∧ k' = k
  · obtain ⟨rfl, rfl⟩ := hck
    rw [look_put_same] at h
    cases h; exact hc
  · rw [look_put_other v cs hck] at h; exact hinv _ _ _ h

theorem le_put_mono {a b : Caches} (h : Le a b) (c : CacheId) (k : Name) (v : V) :
    Le (put c k v a) (put c k v b) := by
  intro c' k' v' h'
  by_cases hck : c' = c ∧ k' = k
  · obtain ⟨rfl, rfl⟩ := hck
    rw [look_put_same] at h' ⊢; exact h'
  · rw [look_put_other v a hck] at h'
    rw [look_put_other v b hck]; exact h _ _ _ h'

inductive Good (cfg : Cfg) {α : Type} (post : α → Prop) : Caches → Prog α → Prop
  | ret {cs : Caches} {a : α} : post a → Good cfg post cs (.ret a)
  | get {cs : Caches} {c : CacheId} {k : Name} {cont : Option V → Prog α} :
      (∀ cs', Le cs cs' → Inv cfg cs' → Good cfg post cs' (cont (look c k cs'))) →
      Good cfg post cs (.get c k cont)
  | has {cs : Caches} {c : CacheId} {k : Name} {cont : Bool → Prog α} :
      (∀ cs', Le cs cs' → Inv cfg cs' → Good cfg post cs' (cont (look c k cs').isSome)) →
      Good cfg post cs (.has c k cont)
  | ins {cs : Caches} {c : CacheId} {k : Name} {v : V} {cont : Prog α} :
      Correct cfg c k v →
      (∀ cs', Le (put c k v cs) cs' → Inv cfg cs' → Good cfg post cs' cont) →
      Good cfg post cs (.ins c k v cont)
  | drop {cs : Caches} {cont : Prog α} : Good cfg post cs cont → Good cfg post cs (.drop cont)

variable {cfg : Cfg}

theorem good_mono {α : Type} {post : α → Prop} {cs : Caches} {p : Prog α} (h : Good cfg post cs p) :
    ∀ cs', Le cs cs' → Good cfg post cs' p := by
  induction h with
  | ret hp => intro cs' _; exact .ret hp
  | get hk _ => intro cs' hle; exact .get (fun cs'' hle' hinv => hk cs'' (le_trans hle hle') hinv)
  | has hk _ => intro cs' hle; exact .has (fun cs'' hle' hinv => hk cs'' (le_trans hle hle') hinv)
  | ins hc hk _ =>
    intro cs' hle
    exact .ins hc (fun cs'' hle' hinv => hk cs'' (le_trans (le_put_mono hle _ _ _) hle') hinv)
  | drop _ ih => intro cs' hle; exact .drop (ih cs' hle)

theorem good_bind {α β : Type} {post' : α → Prop} {post : β → Prop} {cs : Caches} {p : Prog α} {f : α → Prog β}
    (h : Good cfg post' cs p) (hf : ∀ a, post' a → ∀ cs', Good cfg post cs' (f a)) :
    Good cfg post cs (p.bind f) := by
  induction h with
  | ret hp => exact hf _ hp _
  | get _ ih => exact .get ih
  | has _ ih => exact .has ih
  | ins hc _ ih => exact .ins hc ih
  | drop _ ih => exact .drop ih

def Returns (cfg : Cfg) {α : Type} (p : Prog α) (a : α) : Prop := ∀ cs, Good cfg (fun r => r = a) cs p

theorem Returns.ret {α : Type} (a : α) : Returns cfg (.ret a) a := fun _ => .ret rfl

theorem Returns.bind {α β : Type} {p : Prog α} {a : α} {f : α → Prog β} {b : β}
    (hp : Returns cfg p a) (hf : Returns cfg (f a) b) : Returns cfg (p.bind f) b := by
  intro cs
  refine good_bind (hp cs) ?_
  rintro _ rfl cs'
  exact hf cs'

theorem good_get {α : Type} {post : α → Prop} {c : CacheId} {k : Name} {cont : Option V → Prog α}
    (hit : ∀ v cs, Correct cfg c k v → Good cfg post cs (cont (some v)))
    (miss : ∀ cs, Good cfg post cs (cont none)) (cs : Caches) : Good cfg post cs (.get c k cont) := by
  refine .get (fun cs' _ hinv => ?_)
  cases h : look c k cs' with
  | some v => exact hit v cs' (hinv _ _ _ h)
  | none => exact miss cs'

theorem good_store {α : Type} {post : α → Prop} {c : CacheId} {k : Name} {val : V} {read : Prog α}
    (hc : Correct cfg c k val) (hread : ∀ cs v0, look c k cs = some v0 → Good cfg post cs read) (cs : Caches) :
    Good cfg post cs (.has c k fun present => if present then read else .ins c k val read) := by
  refine .has (fun cs' _ _ => ?_)
  cases h : look c k cs' with
  | none => exact .ins hc (fun cs'' hle' _ => hread cs'' val (hle' _ _ _ (look_put_same c k val cs')))
  | some v => exact hread cs' v h

/-- The code of a cached function (`supertypes_of`, `inheritance`): `get`; on a miss `compute` with no guard held,
`contains_key`, `insert` if absent, `get(..).expect(..)`; then `fin`, what is done with the guard. -/
def cachedW (fin : V → Prog (Res V)) (c : CacheId) (k : Name) (compute : Prog (Res V)) : Prog (Res V) :=
  .get c k fun r =>
    match r with
    | some v => fin v
    | none =>
      compute.bind fun rv =>
        match rv with
        | .ok val =>
          .has c k fun present =>
            if present then (.get c k fun r => match r with | some v => fin v | none => .ret .panic)
            else .ins c k val (.get c k fun r => match r with | some v => fin v | none => .ret .panic)
        | e => .ret e

theorem supG_eq_cachedW (g : Defs) (k : Name) :
    supG g k = cachedW (fun v => .drop (.ret (.ok v))) .sup k (.ret (.ok (supertypesOf g k))) := rfl

theorem inhG_eq_cachedW (fuel : Nat) (ns : Ns) (k : Name) :
    inhG fuel ns k = cachedW (fun v => .drop (.ret (.ok v))) .inh k (computeInhP fuel ns k) := rfl

/-- `r` is what the cache-free function answers for `k`: a value met in the cache is that answer (`hr`, by `Inv`), a
value computed on a miss may be inserted, and what the final `get` finds is again that answer -/
theorem returns_cachedW {fin : V → Prog (Res V)} {c : CacheId} {k : Name} {compute : Prog (Res V)} {r : Res V}
    (hfin : ∀ v, Returns cfg (fin v) (.ok v)) (hcomp : Returns cfg compute r)
    (hr : ∀ v, Correct cfg c k v ↔ r = .ok v) : Returns cfg (cachedW fin c k compute) r := by
  have hit : ∀ v cs, Correct cfg c k v → Good cfg (fun x => x = r) cs (fin v) :=
    fun v cs hv => (hr v).1 hv ▸ hfin v cs
  refine good_get hit fun cs => good_bind (hcomp cs) ?_
  intro x hx cs'
  subst hx
  cases x with
  | ok val =>
    refine good_store ((hr val).2 rfl) (fun cs v0 h => .get fun cs' hle hinv => ?_) cs'
    rw [hle _ _ _ h]
    exact hit v0 cs' (hinv _ _ _ (hle _ _ _ h))
  | _ => exact .ret rfl

theorem returns_supW {fin : V → Prog (Res V)} (hfin : ∀ v, Returns cfg (fin v) (.ok v)) (k : Name) :
    Returns cfg (cachedW fin .sup k (.ret (.ok (supertypesOf cfg.ns.defs k)))) (.ok (supertypesOf cfg.ns.defs k)) :=
  returns_cachedW hfin (.ret _) fun _ => ⟨fun h => congrArg Res.ok h.symm, fun h => (Res.ok.inj h).symm⟩

@[simp] theorem Cfg.x_ns (cfg : Cfg) : cfg.x.ns = cfg.ns := rfl
@[simp] theorem Cfg.x_xd (cfg : Cfg) : cfg.x.xd = cfg.xd := rfl

end Hs.NsCache

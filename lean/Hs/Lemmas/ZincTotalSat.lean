/-
  Hs.Lemmas.ZincTotalSat — C03: the outcome predicate `Res.Sat` of every totality lemma (no `panic`, no `depth`,
  `diverge` only with the fuel inside the budget `m`), the rules by which the proofs walk the code-mirroring `if`/`match`
  trees of the model, and the forms of the statements about the lexer's readers: `L…` for a reader that returns
  `(value, scanner)`, `S…` for one that returns a scanner; `LS` / `SS` against the state the reader starts from, `…b`
  against a bound `b`, `…q` with a predicate on the value besides, `SS0` for a reader without loops (`Sat 1 0`).

  How the statements about a model function `f` are named, here and in the files above:
  * `f_adv`  — THE statement about a reader of the lexer, `LSq (f fuel s) fuel (mu s) (mu s.advance) Q`;
  * `f_sat`  — the same where the statement has another shape;
  * `f_spec` — for a loop, or a reader called in the middle of a token: `mu` does not grow (`LS`, `SS`); for an entry
               point: its whole statement; in `ZincTotalParse`: a field of `Specs` as a lemma;
  * `ParserSpec.f`, `f_step`, `parserSpecs` — a function of the parser's `mutual` block: THE statement, its induction
               step on the fuel, all thirteen together (`ZincParseSpec`);
  * `f_img`  — what `f` returns, read off `f_adv` / `f_sat` as an implication from `f … = .ok …` (`LSq.img`);
  * `f_keep` — a look-ahead leaves the scanner `Kept`; `f_strict` — a skipping loop started on a byte of its class
               consumes it; `f_took` — a collecting loop that returned something took the current byte.
-/
import Hs.Lemmas.ZincTotalScan
namespace Hs
open Scan

def Res.Sat {α} (r : Res α) (fuel m : Nat) (Q : α → Prop) : Prop :=
  match r with
  | .ok a => Q a
  | .err => True
  | .panic => False
  | .depth => False
  | .diverge => fuel ≤ m

@[simp] theorem Res.Sat_ok {α} (a : α) (fuel m) (Q : α → Prop) : (Res.ok a).Sat fuel m Q = Q a := rfl
@[simp] theorem Res.Sat_err {α} (fuel m) (Q : α → Prop) : (Res.err : Res α).Sat fuel m Q = True := rfl
@[simp] theorem Res.Sat_panic {α} (fuel m) (Q : α → Prop) : (Res.panic : Res α).Sat fuel m Q = False := rfl
@[simp] theorem Res.Sat_depth {α} (fuel m) (Q : α → Prop) : (Res.depth : Res α).Sat fuel m Q = False := rfl
@[simp] theorem Res.Sat_diverge {α} (fuel m) (Q : α → Prop) :
    (Res.diverge : Res α).Sat fuel m Q = (fuel ≤ m) := rfl

theorem Res.Sat.mono {α} {r : Res α} {fuel m fuel' m'} {Q Q' : α → Prop}
    (h : r.Sat fuel m Q) (hf : fuel ≤ m → fuel' ≤ m') (hq : ∀ a, Q a → Q' a) : r.Sat fuel' m' Q' := by
  cases r <;> simp_all

theorem Res.Sat.ne_panic {α} {r : Res α} {fuel m} {Q : α → Prop} (h : r.Sat fuel m Q) : r ≠ .panic := by
  intro e; rw [e] at h; exact h
theorem Res.Sat.ne_depth {α} {r : Res α} {fuel m} {Q : α → Prop} (h : r.Sat fuel m Q) : r ≠ .depth := by
  intro e; rw [e] at h; exact h
theorem Res.Sat.ne_diverge {α} {r : Res α} {fuel m} {Q : α → Prop} (h : r.Sat fuel m Q) (hf : m < fuel) :
    r ≠ .diverge := by
  intro e; rw [e] at h; exact absurd h (Nat.not_le.2 hf)
theorem Res.Sat.post {α} {r : Res α} {fuel m} {Q : α → Prop} (h : r.Sat fuel m Q) {a} (e : r = .ok a) : Q a := by
  rw [e] at h; exact h

@[elab_as_elim]
theorem Res.Sat.elim {α} {r : Res α} {fuel m : Nat} {Q : α → Prop} {P : Res α → Prop} (h : r.Sat fuel m Q)
    (ok : ∀ a, Q a → P (.ok a)) (err : P .err) (diverge : fuel ≤ m → P .diverge) : P r := by
  cases r with
  | ok a => exact ok a h
  | err => exact err
  | panic => exact False.elim h
  | depth => exact False.elim h
  | diverge => exact diverge h

/-- reading a successful outcome back through a call: with the motive `fun r => (match r with …) = .ok b → C` only
the `ok` arm of the call is left, the other four close by `nofun` -/
@[elab_as_elim]
theorem Res.ok_elim {α} {r : Res α} {P : Res α → Prop} (ok : ∀ a, r = .ok a → P (.ok a)) (err : P .err)
    (panic : P .panic) (diverge : P .diverge) (depth : P .depth) : P r := by
  cases r with
  | ok a => exact ok a rfl
  | err => exact err
  | panic => exact panic
  | diverge => exact diverge
  | depth => exact depth

theorem Res.Sat.ok_intro {α} {a : α} {fuel m} {Q : α → Prop} (h : Q a) : (Res.ok a).Sat fuel m Q := h

theorem Res.Sat.ite_intro {α} {c : Prop} [Decidable c] {a b : Res α} {fuel m} {Q : α → Prop}
    (ht : c → a.Sat fuel m Q) (hf : ¬c → b.Sat fuel m Q) : (if c then a else b).Sat fuel m Q := by
  split
  · exact ht ‹_›
  · exact hf ‹_›

theorem Res.Sat.ite_not_intro {α} {b : Bool} {x y : Res α} {fuel m} {Q : α → Prop}
    (hf : b = false → x.Sat fuel m Q) (ht : b = true → y.Sat fuel m Q) :
    (if (!b) = true then x else y).Sat fuel m Q := by
  cases b
  · exact hf rfl
  · exact ht rfl

/-- `if !b { return Err(..) }` -/
theorem Res.Sat.guard_intro {α} {b : Bool} {a : Res α} {fuel m} {Q : α → Prop}
    (h : b = true → a.Sat fuel m Q) : (if (!b) = true then .err else a).Sat fuel m Q :=
  Res.Sat.ite_not_intro (fun _ => True.intro) h

/-! Budget arithmetic.  A caller on fuel `n + 1` with budget `8 * b + c` runs a callee on fuel `n`; the callee's
budget is `8 * a + c'`, where `a` is the measure of the state it starts from.  The facts kept along a walk through
a function have the form `a + j ≤ b`: the measure has dropped by `j` since the function was entered. -/

/-- the callee diverges only inside its budget, so the caller is inside its own: each unit the measure has dropped
pays for 8 units of fuel, and `c' < 8 * j + c` is a comparison of numerals -/
theorem fuel_le {n a b c c' j : Nat} (hd : n ≤ 8 * a + c') (h : a + j ≤ b) (hc : c' < 8 * j + c := by decide) :
    n + 1 ≤ 8 * b + c := by omega

/-- the budget `mu + 1` of the lexer calls: within the same fuel, and as a budget `8 * mu + 1` for `fuel_le` -/
theorem succ_budget {f a b : Nat} (hd : f ≤ a + 1) (h : a ≤ b) : f ≤ b + 1 :=
  Nat.le_trans hd (Nat.succ_le_succ h)
theorem le_budget {f a : Nat} (hd : f ≤ a + 1) : f ≤ 8 * a + 1 := by omega

theorem add_le_trans {a b c j : Nat} (h : a ≤ b) (H : b + j ≤ c) : a + j ≤ c :=
  Nat.le_trans (Nat.add_le_add_right h j) H

abbrev LS {α} (r : Res (α × Scan)) (fuel : Nat) (s : Scan) : Prop :=
  r.Sat fuel s.mu (fun o => o.2.mu ≤ s.mu)
abbrev SS (r : Res Scan) (fuel : Nat) (s : Scan) : Prop :=
  r.Sat fuel s.mu (fun s' => s'.mu ≤ s.mu)
/-- for a reader without loops: `Sat 1 0` excludes `diverge` (its clause is `1 ≤ 0`) -/
abbrev SS0 (r : Res Scan) (s : Scan) : Prop :=
  r.Sat 1 0 (fun s' => s'.mu ≤ s.mu)

abbrev LSb {α} (r : Res (α × Scan)) (fuel m b : Nat) : Prop :=
  r.Sat fuel m (fun o => o.2.mu ≤ b)

/-- the form of the one statement about a reader.  A reader that succeeds has consumed the byte it was started on, so
its statement `f_adv` has `b = mu s.advance`; `Q` is what the decoder's image invariant needs of the value. -/
abbrev LSq {α} (r : Res (α × Scan)) (fuel m b : Nat) (Q : α → Prop) : Prop :=
  r.Sat fuel m (fun o => o.2.mu ≤ b ∧ Q o.1)

theorem LSq.le {α} {r : Res (α × Scan)} {fuel m b} {Q : α → Prop} (h : LSq r fuel m b Q) : LSb r fuel m b :=
  h.mono id (fun _ h => h.1)

theorem LSq.img {α} {r : Res (α × Scan)} {fuel m b} {Q : α → Prop} (h : LSq r fuel m b Q) {a : α} {s' : Scan}
    (e : r = .ok (a, s')) : Q a :=
  (h.post e).2

theorem LSb.le_of_adv {α} {r : Res (α × Scan)} {fuel m} {s : Scan} (h : LSb r fuel m s.advance.mu) : LSb r fuel m s.mu :=
  h.mono id (fun _ h => Nat.le_trans h (advance_mu s))

theorem LSb.lt_of_adv {α} {r : Res (α × Scan)} {fuel m} {s : Scan} (h : LSb r fuel m s.advance.mu) (he : s.eof = false) :
    r.Sat fuel m (fun o => o.2.mu < s.mu) :=
  h.mono id (fun _ h => Nat.lt_of_le_of_lt h (advance_mu_lt he))

theorem LSq.after {α} {r : Res (α × Scan)} {fuel m : Nat} {s s' : Scan} {Q : α → Prop}
    (h : LSq r fuel m s'.advance.mu Q) (he : s'.eof = false) (L : s'.mu ≤ s.mu) (hm : m ≤ s.mu) :
    r.Sat fuel s.mu (fun o => o.2.mu < s.mu ∧ Q o.1) :=
  h.mono (fun hd => Nat.le_trans hd hm)
    (fun _ h => ⟨Nat.lt_of_lt_of_le (Nat.lt_of_le_of_lt h.1 (advance_mu_lt he)) L, h.2⟩)

theorem Res.Sat.tail {α} {r : Res α} {n c' c : Nat} {μ : α → Nat} (h : r.Sat n c' (fun a => μ a ≤ c'))
    (hlt : c' < c) : r.Sat (n + 1) c (fun a => μ a ≤ c) :=
  h.mono (by omega) (by intro a (h : μ a ≤ c'); show μ a ≤ c; omega)

/-! Walking a reader.  The scanner only moves forward, so along a walk through a reader one fact per scanner state
is kept: its measure is at most the bound `b` the statement is about (`L… : sₖ.mu ≤ b`).  `step` takes a call
apart whose own spec is relative to the state it starts from, and hands the bound on. -/

@[elab_as_elim]
theorem Res.Sat.step {α} {r : Res α} {fuel c b : Nat} {μ : α → Nat} {P : Res α → Prop}
    (h : r.Sat fuel c (fun a => μ a ≤ c)) (L : c ≤ b) (ok : ∀ a, μ a ≤ b → P (.ok a)) (err : P .err)
    (diverge : fuel ≤ b → P .diverge) : P r :=
  h.elim (fun a ha => ok a (Nat.le_trans ha L)) err (fun hd => diverge (Nat.le_trans hd L))

@[elab_as_elim]
theorem Res.Sat.elim0 {α} {r : Res α} {Q : α → Prop} {P : Res α → Prop} (h : r.Sat 1 0 Q)
    (ok : ∀ a, Q a → P (.ok a)) (err : P .err) : P r :=
  h.elim ok err (fun hd => absurd hd (by decide))

@[elab_as_elim]
theorem Res.Sat.step0 {α} {r : Res α} {c b : Nat} {μ : α → Nat} {P : Res α → Prop}
    (h : r.Sat 1 0 (fun a => μ a ≤ c)) (L : c ≤ b) (ok : ∀ a, μ a ≤ b → P (.ok a)) (err : P .err) : P r :=
  h.elim0 (fun a ha => ok a (Nat.le_trans ha L)) err

theorem Res.Sat.of0 {α} {r : Res α} {Q : α → Prop} {fuel m : Nat} (h : r.Sat 1 0 Q) : r.Sat fuel m Q :=
  h.mono (fun hd => absurd hd (by decide)) (fun _ h => h)

theorem LSq.lt_of_adv {α} {r : Res (α × Scan)} {fuel : Nat} {s : Scan} {Q : α → Prop}
    (h : LSq r fuel s.mu s.advance.mu Q) (he : s.eof = false) : r.Sat fuel s.mu (fun o => o.2.mu < s.mu ∧ Q o.1) :=
  h.after he (Nat.le_refl _) (Nat.le_refl _)

theorem LSq.of0 {α} {r : Res (α × Scan)} {b : Nat} {Q : α → Prop} {fuel m : Nat} (h : LSq r 1 0 b Q) :
    LSq r fuel m b Q :=
  Res.Sat.of0 h

theorem Res.Sat.le_trans {α} {r : Res α} {fuel m c b : Nat} {μ : α → Nat} (h : r.Sat fuel m (fun a => μ a ≤ c))
    (L : c ≤ b) : r.Sat fuel m (fun a => μ a ≤ b) :=
  h.mono id (fun _ h => Nat.le_trans h L)

@[elab_as_elim]
theorem readQ_cases {s : Scan} {b : Nat} {P : Res Scan → Prop} (L : s.mu ≤ b)
    (ok : ∀ s', s'.mu < b → P (.ok s')) (err : P .err) : P s.readQ := by
  unfold readQ
  split
  · next hr => exact ok _ (Nat.lt_of_lt_of_le (read_mu_some hr) L)
  · exact err

@[elab_as_elim]
theorem peek_cases {s : Scan} {b : Nat} {P : Option UInt8 × Scan → Prop} (L : s.mu ≤ b)
    (none : ∀ s', s'.mu ≤ b → P (none, s')) (some : ∀ a s', s'.mu ≤ b → P (some a, s')) : P s.peek :=
  match h : s.peek with
  | (.none, s') => none s' (Nat.le_trans (peek_mu h) L)
  | (.some a, s') => some a s' (Nat.le_trans (peek_mu h) L)

/-- `peek` with what it leaves alone: at the end of the input the measure drops to the bytes not consumed -/
@[elab_as_elim]
theorem peek_keep_cases {s : Scan} {P : Option UInt8 × Scan → Prop}
    (none : ∀ s', s'.mu = s.remaining → P (none, s')) (some : ∀ a s', Kept s s' → P (some a, s')) : P s.peek :=
  match h : s.peek with
  | (.none, s') => none s' ((mu_eof (peek_none h).2.1).trans (peek_none h).1)
  | (.some a, s') => some a s' (peek_some h)

theorem eof_of_and_not {a b : Bool} (h : (!a && b) = true) : a = false := by
  cases a
  · rfl
  · cases h

end Hs

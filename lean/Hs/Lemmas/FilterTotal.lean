/-
  C09, totality of the filter lexer's byte loops and scalar readers: the predicates `Fine` / `FineLe` over the measure
  `unread` in which `Hs.Thm.C09` states it — with fuel above the number of bytes the scanner can still deliver a reader
  ends with a value or an error, never `diverge`, `panic` or `depth`, and never moves the scanner backwards — and how
  they follow from `Res.Sat`.  The readers are those of the Zinc lexer and `unread` is its measure `Scan.mu`, so the
  statements are read off the specifications of `ZincTotalLex`; what is added here is that the loops which only collect
  or skip bytes have no error outcome at all.
-/
import Hs.Lemmas.ClassLoop
namespace Hs.FText
open Hs Hs.Scan Hs.Zinc

def unread (s : Scan) : Nat := s.stash.length + s.inp.length + (if s.eof then 0 else 1)

theorem unread_mu (s : Scan) : unread s = s.mu := rfl

def Fine {α : Type} (r : Res α) : Prop := r ≠ .panic ∧ r ≠ .diverge ∧ r ≠ .depth

theorem fine_ok {α : Type} (a : α) : Fine (Res.ok a) := by simp [Fine]
theorem fine_err {α : Type} : Fine (Res.err : Res α) := by simp [Fine]

theorem Fine.of_sat {α : Type} {r : Res α} {fuel m : Nat} {Q : α → Prop} (h : r.Sat fuel m Q) (hf : m < fuel) :
    Fine r :=
  ⟨h.ne_panic, h.ne_diverge hf, h.ne_depth⟩

def FineLe {α : Type} (s : Scan) (r : Res (α × Scan)) : Prop :=
  r = .err ∨ ∃ a s', r = .ok (a, s') ∧ unread s' ≤ unread s

theorem FineLe.fine {α : Type} {s : Scan} {r : Res (α × Scan)} (h : FineLe s r) : Fine r := by
  rcases h with h | ⟨a, s', h, _⟩ <;> subst h <;> simp [Fine]

theorem FineLe.of_spec {α : Type} {r : Res (α × Scan)} {fuel : Nat} {s : Scan} (h : LS r fuel s)
    (hf : s.mu < fuel) : FineLe s r :=
  h.elim (fun o ho => Or.inr ⟨o.1, o.2, rfl, ho⟩) (Or.inl rfl) (fun hd => absurd hd (Nat.not_le.2 hf))

/-- like `FineLe`, with slack `k`.  No statement needs a positive slack: `Scan.mu` counts the current byte, so the
`is_eof = false` reset of `parse_number_date_time` only restores the measure (`parseNumberDateTime_sat`). -/
def FineK {α : Type} (k : Nat) (s : Scan) (r : Res (α × Scan)) : Prop :=
  r = .err ∨ ∃ a s', r = .ok (a, s') ∧ unread s' ≤ unread s + k

theorem FineLe.toK {α : Type} {s : Scan} {r : Res (α × Scan)} (h : FineLe s r) : FineK 0 s r := h

/-! ### loops without an error outcome -/

theorem ok_of_sat {α : Type} {r : Res α} {fuel m : Nat} {Q : α → Prop} (h : r.Sat fuel m Q) (hf : m < fuel)
    (he : r ≠ .err) : ∃ a, r = .ok a := by
  revert he
  exact h.elim (fun a _ _ => ⟨a, rfl⟩) (fun he => absurd rfl he) (fun hd => absurd hd (Nat.not_le.2 hf))

theorem classLoop_total {P : UInt8 → Bool} {g : UInt8 → List UInt8} {fuel : Nat} {s : Scan} {acc : List UInt8}
    (h : s.mu < fuel) : ∃ r, classLoop P g fuel s acc = .ok r :=
  ok_of_sat classLoop_spec h classLoop_ne_err

theorem skipLoop_total {P : UInt8 → Bool} {fuel : Nat} {s : Scan} (h : s.mu < fuel) :
    ∃ s', skipLoop P fuel s = .ok s' :=
  ok_of_sat (skipLoop_spec P fuel s) h (skipLoop_ne_err P fuel s)

end Hs.FText

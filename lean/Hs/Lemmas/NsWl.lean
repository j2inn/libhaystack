/-
  Hs.Lemmas.NsWl — the stack-of-vectors work-list loop `wl` (model of `all_supertypes_of` / `all_subtypes_of`,
  which expand a def only the first time it is inserted into the result set) computes exactly the transitive
  closure of `next`, and terminates on EVERY relation over a finite universe - cyclic or not - within an explicit
  fuel bound (`wl_terminates`).  Generic in the node type and the successor function.
-/
import Hs.Model.Ns
import Hs.Lemmas.Unseen
import Mathlib.Logic.Relation
namespace Hs.Ns
open Relation
set_option linter.unusedSectionVars false

section sets
variable {α : Type} [DecidableEq α]

theorem mem_insertSet {a x : α} {l : List α} : x ∈ insertSet a l ↔ x = a ∨ x ∈ l := by
  unfold insertSet
  split
  · rename_i h
    exact ⟨Or.inr, fun h' => h'.elim (fun e => e ▸ h) id⟩
  · simp [or_comm]

theorem mem_extendSet {x : α} {l xs : List α} : x ∈ extendSet l xs ↔ x ∈ l ∨ x ∈ xs := by
  unfold extendSet
  induction xs generalizing l with
  | nil => simp
  | cons y ys ih => rw [List.foldl_cons, ih, mem_insertSet, List.mem_cons, or_comm (a := x = y), or_assoc]

theorem nodup_insertSet {a : α} {l : List α} (h : l.Nodup) : (insertSet a l).Nodup := by
  unfold insertSet
  by_cases ha : a ∈ l
  · simpa [ha] using h
  · simp only [ha, if_false]
    refine List.nodup_append.2 ⟨h, by simp, ?_⟩
    intro x hx y hy
    simp only [List.mem_singleton] at hy
    subst hy
    intro hxy
    subst hxy
    exact ha hx

end sets

section wl
variable {α : Type} [DecidableEq α] (next : α → List α) (pe : Bool)

def Succ (a b : α) : Prop := b ∈ next a

def push1 (d : α) (st : List (List α)) : List (List α) :=
  if (next d).isEmpty && !pe then st else next d :: st

theorem forBody_cons_old (d : α) (ds : List α) (st : List (List α)) (acc : List α) (h : d ∈ acc) :
    forBody next pe (d :: ds) st acc = forBody next pe ds st acc := by
  simp only [forBody, h, if_true]

theorem forBody_cons_new (d : α) (ds : List α) (st : List (List α)) (acc : List α) (h : ¬ d ∈ acc) :
    forBody next pe (d :: ds) st acc = forBody next pe ds (push1 next pe d st) (insertSet d acc) := by
  simp only [forBody, h, if_false, push1]

theorem insertSet_of_mem {d : α} {acc : List α} (h : d ∈ acc) : insertSet d acc = acc := by
  simp [insertSet, h]

theorem mem_push1 {d : α} {st : List (List α)} {v : List α} (h : v ∈ push1 next pe d st) :
    v = next d ∨ v ∈ st := by
  unfold push1 at h
  split at h
  · exact Or.inr h
  · simpa using h

theorem sub_push1 {d : α} {st : List (List α)} {v : List α} (h : v ∈ st) : v ∈ push1 next pe d st := by
  unfold push1; split
  · exact h
  · exact List.mem_cons_of_mem _ h

theorem next_in_push1 {d y : α} {st : List (List α)} (hy : y ∈ next d) : next d ∈ push1 next pe d st := by
  unfold push1
  split
  · rename_i h
    simp only [Bool.and_eq_true, List.isEmpty_iff] at h
    rw [h.1] at hy; cases hy
  · exact List.mem_cons_self

structure WInv (T : α → Prop) (v0 : List α) (st : List (List α)) (acc : List α) : Prop where
  accT : ∀ x ∈ acc, T x
  stT : ∀ v ∈ st, ∀ x ∈ v, T x
  cover0 : ∀ x ∈ v0, x ∈ acc ∨ ∃ v ∈ st, x ∈ v
  closed : ∀ x ∈ acc, ∀ y ∈ next x, y ∈ acc ∨ ∃ v ∈ st, y ∈ v

theorem cover_step {d : α} {ds : List α} {st st' : List (List α)} {acc acc' : List α} {y : α}
    (hst : ∀ v ∈ st, v ∈ st') (hacc : ∀ x ∈ acc, x ∈ acc') (hd : d ∈ acc')
    (h : y ∈ acc ∨ ∃ v ∈ (d :: ds) :: st, y ∈ v) : y ∈ acc' ∨ ∃ v ∈ ds :: st', y ∈ v := by
  rcases h with h1 | ⟨v, hv, hyv⟩
  · exact Or.inl (hacc y h1)
  · rcases List.mem_cons.1 hv with rfl | hv
    · rcases List.mem_cons.1 hyv with rfl | hyv
      · exact Or.inl hd
      · exact Or.inr ⟨ds, List.mem_cons_self, hyv⟩
    · exact Or.inr ⟨v, List.mem_cons_of_mem _ (hst v hv), hyv⟩

theorem forBody_inv {T : α → Prop} (hT : ∀ x, T x → ∀ y ∈ next x, T y) (v0 : List α) :
    ∀ (ds : List α) (st : List (List α)) (acc : List α), WInv next T v0 (ds :: st) acc →
      WInv next T v0 (forBody next pe ds st acc).1 (forBody next pe ds st acc).2 := by
  intro ds
  induction ds with
  | nil =>
    intro st acc h
    have drop : ∀ y, (y ∈ acc ∨ ∃ v ∈ [] :: st, y ∈ v) → (y ∈ acc ∨ ∃ v ∈ st, y ∈ v) := by
      rintro y (h1 | ⟨v, hv, hyv⟩)
      · exact Or.inl h1
      · rcases List.mem_cons.1 hv with rfl | hv
        · cases hyv
        · exact Or.inr ⟨v, hv, hyv⟩
    exact ⟨h.accT, fun v hv => h.stT v (List.mem_cons_of_mem _ hv), fun x hx => drop x (h.cover0 x hx),
      fun x hx y hy => drop y (h.closed x hx y hy)⟩
  | cons d ds ih =>
    -- `d` leaves the head vector: it was collected already, or it is collected now and `next d` is stacked (left out
    -- only when empty, `next_in_push1`).  Nothing else leaves the result set or the stack, so `cover_step` carries
    -- every "collected or stacked" fact across.
    intro st acc h
    have hTd : T d := h.stT _ List.mem_cons_self d List.mem_cons_self
    have hds : ∀ x ∈ ds, T x := fun x hx => h.stT _ List.mem_cons_self x (List.mem_cons_of_mem _ hx)
    by_cases hd : d ∈ acc
    · rw [forBody_cons_old next pe d ds st acc hd]
      refine ih st acc ⟨h.accT, ?_, fun x hx => cover_step (fun _ hv => hv) (fun _ hx => hx) hd (h.cover0 x hx),
        fun x hx y hy => cover_step (fun _ hv => hv) (fun _ hx => hx) hd (h.closed x hx y hy)⟩
      intro v hv x hx
      rcases List.mem_cons.1 hv with rfl | hv
      · exact hds x hx
      · exact h.stT v (List.mem_cons_of_mem _ hv) x hx
    · rw [forBody_cons_new next pe d ds st acc hd]
      have hst : ∀ v ∈ st, v ∈ push1 next pe d st := fun _ hv => sub_push1 next pe hv
      have hacc : ∀ x ∈ acc, x ∈ insertSet d acc := fun _ hx => mem_insertSet.2 (Or.inr hx)
      have hd' : d ∈ insertSet d acc := mem_insertSet.2 (Or.inl rfl)
      refine ih _ _ ⟨?_, ?_, fun x hx => cover_step hst hacc hd' (h.cover0 x hx), ?_⟩
      · intro x hx
        rcases mem_insertSet.1 hx with rfl | hx
        · exact hTd
        · exact h.accT x hx
      · intro v hv x hx
        rcases List.mem_cons.1 hv with rfl | hv
        · exact hds x hx
        · rcases mem_push1 next pe hv with rfl | hv
          · exact hT d hTd x hx
          · exact h.stT v (List.mem_cons_of_mem _ hv) x hx
      · intro x hx y hy
        rcases mem_insertSet.1 hx with rfl | hx
        · exact Or.inr ⟨next x, List.mem_cons_of_mem _ (next_in_push1 next pe hy), hy⟩
        · exact cover_step hst hacc hd' (h.closed x hx y hy)

def Target (v0 : List α) (x : α) : Prop := ∃ s ∈ v0, ReflTransGen (Succ next) s x

theorem winv_init (v0 : List α) : WInv next (Target next v0) v0 [v0] [] := by
  refine ⟨by simp, ?_, ?_, by simp⟩
  · intro v hv x hx
    simp only [List.mem_singleton] at hv
    subst hv
    exact ⟨x, hx, ReflTransGen.refl⟩
  · intro x hx
    exact Or.inr ⟨v0, List.mem_singleton.2 rfl, hx⟩

theorem winv_done {v0 acc : List α} (h : WInv next (Target next v0) v0 [] acc) (x : α) :
    x ∈ acc ↔ Target next v0 x := by
  refine ⟨h.accT x, ?_⟩
  rintro ⟨s, hs, hsx⟩
  have done : ∀ y, (y ∈ acc ∨ ∃ v ∈ ([] : List (List α)), y ∈ v) → y ∈ acc := by
    rintro y (h1 | ⟨v, hv, _⟩)
    · exact h1
    · cases hv
  induction hsx with
  | refl => exact done _ (h.cover0 s hs)
  | tail _ hbc ih => exact done _ (h.closed _ ih _ hbc)

theorem wl_exact (v0 : List α) : ∀ (fuel : Nat) (st : List (List α)) (acc res : List α),
    WInv next (Target next v0) v0 st acc → wl next pe fuel st acc = .ok res →
    ∀ x, x ∈ res ↔ Target next v0 x := by
  intro fuel
  induction fuel with
  | zero =>
    intro st acc res h hw
    cases st with
    | nil => cases hw; exact winv_done next h
    | cons v st => cases hw
  | succ fuel ih =>
    intro st acc res h hw
    cases st with
    | nil => cases hw; exact winv_done next h
    | cons v st => exact ih _ _ res (forBody_inv next pe (fun _ ⟨s, hs, hsx⟩ _ hy => ⟨s, hs, hsx.tail hy⟩) v0 v st acc h) hw

theorem forBody_nodup : ∀ (ds : List α) (st : List (List α)) (acc : List α), acc.Nodup →
    (forBody next pe ds st acc).2.Nodup := by
  intro ds
  induction ds with
  | nil => intro st acc h; exact h
  | cons d ds ih =>
    intro st acc h
    by_cases hd : d ∈ acc
    · rw [forBody_cons_old next pe d ds st acc hd]; exact ih _ _ h
    · rw [forBody_cons_new next pe d ds st acc hd]; exact ih _ _ (nodup_insertSet h)

theorem wl_nodup : ∀ (fuel : Nat) (st : List (List α)) (acc res : List α),
    acc.Nodup → wl next pe fuel st acc = .ok res → res.Nodup := by
  intro fuel
  induction fuel with
  | zero =>
    intro st acc res h hw
    cases st with
    | nil => cases hw; exact h
    | cons v st => cases hw
  | succ fuel ih =>
    intro st acc res h hw
    cases st with
    | nil => cases hw; exact h
    | cons v st => exact ih _ _ res (forBody_nodup next pe v st acc h) hw

/-! ### termination

The measure is `stack height + number of nodes of the universe that are not yet collected`: an iteration of the
`while` loop pops one vector, and the `for` body pushes a vector only for a node that was not yet collected. -/

variable (U : List α)

def InU (st : List (List α)) : Prop := ∀ v ∈ st, ∀ x ∈ v, x ∈ U

theorem inU_push1 (hU : ∀ a, ∀ b ∈ next a, b ∈ U) (d : α) {st : List (List α)} (h : InU U st) :
    InU U (push1 next pe d st) := by
  intro v hv x hx
  rcases mem_push1 next pe hv with rfl | hv
  · exact hU d x hx
  · exact h v hv x hx

theorem length_push1_le (d : α) (st : List (List α)) : (push1 next pe d st).length ≤ st.length + 1 := by
  unfold push1; split
  · omega
  · simp

theorem forBody_measure (hU : ∀ a, ∀ b ∈ next a, b ∈ U) :
    ∀ (ds : List α) (st : List (List α)) (acc : List α), (∀ x ∈ ds, x ∈ U) → InU U st →
      InU U (forBody next pe ds st acc).1 ∧
      (forBody next pe ds st acc).1.length + unseen U (forBody next pe ds st acc).2 ≤ st.length + unseen U acc := by
  intro ds
  induction ds with
  | nil => intro st acc _ h; exact ⟨h, Nat.le_refl _⟩
  | cons d ds ih =>
    intro st acc hds hst
    have hds' : ∀ x ∈ ds, x ∈ U := fun x hx => hds x (List.mem_cons_of_mem _ hx)
    by_cases hd : d ∈ acc
    · rw [forBody_cons_old next pe d ds st acc hd]
      exact ih st acc hds' hst
    · rw [forBody_cons_new next pe d ds st acc hd]
      obtain ⟨h1, h2⟩ := ih (push1 next pe d st) (insertSet d acc) hds' (inU_push1 next pe U hU d hst)
      refine ⟨h1, ?_⟩
      have h3 := length_push1_le next pe d st
      have h4 : unseen U (insertSet d acc) < unseen U acc := unseen_lt (hds d List.mem_cons_self) hd
        (mem_insertSet.2 (Or.inl rfl)) fun _ hx => mem_insertSet.2 (Or.inr hx)
      omega

theorem wl_terminates (hU : ∀ a, ∀ b ∈ next a, b ∈ U) :
    ∀ (fuel : Nat) (st : List (List α)) (acc : List α), InU U st → st.length + unseen U acc ≤ fuel →
      ∃ res, wl next pe fuel st acc = .ok res := by
  intro fuel
  induction fuel with
  | zero =>
    intro st acc _ h
    cases st with
    | nil => exact ⟨acc, rfl⟩
    | cons v st => simp only [List.length_cons] at h; omega
  | succ fuel ih =>
    intro st acc hst h
    cases st with
    | nil => exact ⟨acc, rfl⟩
    | cons v st =>
      have hst' : InU U st := fun w hw => hst w (List.mem_cons_of_mem _ hw)
      obtain ⟨h1, h2⟩ := forBody_measure next pe U hU v st acc (hst v List.mem_cons_self) hst'
      refine ih _ _ h1 ?_
      simp only [List.length_cons] at h
      omega

theorem wl_exact_of_ok (fuel : Nat) (s : α) (res : List α) (h : wl next pe fuel [next s] [] = .ok res) :
    ∀ x, x ∈ res ↔ TransGen (Succ next) s x := by
  intro x
  rw [wl_exact next pe (next s) fuel _ _ res (winv_init next (next s)) h x, TransGen.head'_iff]
  exact Iff.rfl

theorem wl_spec (hU : ∀ a, ∀ b ∈ next a, b ∈ U) (fuel : Nat) (hf : U.length + 1 ≤ fuel) (s : α) :
    ∃ res, wl next pe fuel [next s] [] = .ok res ∧ res.Nodup ∧ ∀ x, x ∈ res ↔ TransGen (Succ next) s x := by
  have hst : InU U [next s] := by
    intro v hv x hx
    cases List.mem_singleton.1 hv
    exact hU s x hx
  have hmu : [next s].length + unseen U ([] : List α) ≤ fuel := by
    rw [unseen_nil]; simp only [List.length_singleton]; omega
  obtain ⟨res, hres⟩ := wl_terminates next pe U hU fuel [next s] [] hst hmu
  exact ⟨res, hres, wl_nodup next pe fuel _ _ res List.nodup_nil hres, wl_exact_of_ok next pe fuel s res hres⟩

theorem wl_never_diverges (hU : ∀ a, ∀ b ∈ next a, b ∈ U) (fuel : Nat) (hf : U.length + 1 ≤ fuel) (s : α) :
    wl next pe fuel [next s] [] ≠ .diverge := by
  obtain ⟨res, h, _⟩ := wl_spec next pe U hU fuel hf s
  rw [h]; intro hc; cases hc

end wl
end Hs.Ns

/-
  Hs.Lemmas.NsAssoc — the association / implementation / relationship queries of Hs.Model.NsAssoc against the
  specification graph of Hs.Lemmas.NsGraph, for EVERY defs grid.

  * `makeX` is consistent: the taxonomy model sees exactly the projection of the full defs, so every theorem of C13
    about `make` applies to `(makeX rows).ns`.
  The rest reads the `defs` map only and is stated for any namespace `x : NsX`.
-/
import Hs.Model.NsAssoc
import Hs.Lemmas.NsSpec
import Hs.Lemmas.FilterLoops
namespace Hs.NsA
open Hs Hs.Ns Relation

/-! ### consistency of `makeX` -/

theorem toDef_name (d : DefX) : d.toDef.name = d.name := rfl

theorem upsertX_map (d : DefX) : ∀ g : DefsX, (upsertX d g).map DefX.toDef = upsert d.toDef (g.map DefX.toDef)
  | [] => rfl
  | e :: g => by
    simp only [upsertX, List.map_cons, upsert, toDef_name]
    by_cases h : e.name = d.name
    · simp [h]
    · simp [h, upsertX_map d g]

theorem rowStepX_map (g : DefsX) (r : RowX) :
    (rowStepX g r).map DefX.toDef = rowStep (g.map DefX.toDef) r.toRow := by
  unfold rowStepX rowStep
  cases hn : r.name with
  | none => simp [RowX.toRow, hn]
  | some n =>
    simp only [RowX.toRow, hn]
    rw [upsertX_map]
    rfl

theorem foldl_rowStepX_map (rows : List RowX) : ∀ g : DefsX,
    (rows.foldl rowStepX g).map DefX.toDef = (rows.map RowX.toRow).foldl rowStep (g.map DefX.toDef) := by
  induction rows with
  | nil => intro g; rfl
  | cons r rows ih =>
    intro g
    simp only [List.foldl_cons, List.map_cons]
    rw [ih, rowStepX_map]

theorem makeX_defs (rows : List RowX) : (makeX rows).ns.defs = (makeX rows).xd.map DefX.toDef := by
  simp only [makeX, make]
  exact (foldl_rowStepX_map rows []).symm

theorem getX_map (g : DefsX) (s : Name) : Ns.get (g.map DefX.toDef) s = (getX g s).map DefX.toDef := by
  induction g with
  | nil => rfl
  | cons e g ih =>
    unfold Ns.get getX at *
    simp only [List.map_cons, List.find?_cons, toDef_name]
    by_cases h : e.name = s
    · simp [h]
    · simp [h, ih]

theorem defined_iff_getX (rows : List RowX) (s : Name) :
    defined (makeX rows).ns.defs s = (getX (makeX rows).xd s).isSome := by
  unfold defined
  rw [makeX_defs, getX_map]
  cases getX (makeX rows).xd s <;> rfl

theorem getX_some {g : DefsX} {s : Name} {d : DefX} (h : getX g s = some d) : d ∈ g ∧ d.name = s := by
  unfold getX at h
  exact ⟨List.mem_of_find?_eq_some h, by simpa using List.find?_some h⟩

/-! ### `definedSyms` -/

theorem mem_definedSyms (g : Defs) (l : List (Option Name)) (n : Name) :
    n ∈ definedSyms g l ↔ some n ∈ l ∧ defined g n = true := by
  unfold definedSyms
  simp only [List.mem_filterMap]
  constructor
  · rintro ⟨_ | s, hit, h⟩
    · cases h
    · by_cases hd : defined g s = true <;> simp [hd] at h
      subst h
      exact ⟨hit, hd⟩
  · rintro ⟨h1, h2⟩
    exact ⟨some n, h1, by simp [h2]⟩

/-! ### `associations` -/

theorem associations_unknown (fuel : Nat) (x : NsX) (p a : Name) (h : getX x.xd a = none) :
    associations fuel x p a = .ok [] := by
  simp only [associations, h]

theorem associations_not_association (fuel : Nat) (x : NsX) (p a : Name) {ad : DefX}
    (h : getX x.xd a = some ad) (hn : isAssoc ad = false) : associations fuel x p a = .ok [] := by
  simp only [associations, h, hn, Bool.not_false, if_true]

theorem associations_plain_eq (fuel : Nat) (x : NsX) (p a : Name) {ad : DefX}
    (h : getX x.xd a = some ad) (ha : isAssoc ad = true) (hc : ad.has nComputed = false) :
    associations fuel x p a =
      .ok (((getX x.xd p).bind (·.getList a)).elim [] (definedSyms x.ns.defs)) := by
  simp only [associations, h, ha, hc, Bool.not_true, Bool.not_false, Bool.false_eq_true, if_false, if_true]
  cases getX x.xd p with
  | none => rfl
  | some pd => simp only [Option.bind_some]; cases pd.getList a <;> rfl

theorem associations_computed_eq (fuel : Nat) (x : NsX) (p a : Name) {ad : DefX} {r : Name}
    (h : getX x.xd a = some ad) (ha : isAssoc ad = true) (hc : ad.has nComputed = true)
    (hr : ad.getSymbol nReciprocalOf = some r) (hrd : defined x.ns.defs r = true) :
    associations fuel x p a = findReciprocal fuel x p r := by
  simp only [associations, h, ha, hc, hr, hrd, Bool.not_true, Bool.false_eq_true, if_false, if_true]

theorem mem_findReciprocal (x : NsX) (fuel : Nat) (hf : fuelFor x.ns.defs ≤ fuel) (p r : Name) :
    ∃ res, findReciprocal fuel x p r = .ok res ∧
      ∀ n, n ∈ res ↔ ∃ d l t, d ∈ x.xd ∧ d.name = n ∧ d.tag r = some (.list l) ∧ some t ∈ l ∧
        defined x.ns.defs p = true ∧ ReflTransGen (Edge x.ns.defs) p t := by
  obtain ⟨inh, h1, h2⟩ := inheritance_spec_ns x.ns fuel hf p
  unfold findReciprocal
  rw [h1]
  refine ⟨_, rfl, fun n => ?_⟩
  simp only [List.mem_map, List.mem_filter]
  constructor
  · rintro ⟨d, ⟨hd, hm⟩, rfl⟩
    cases ht : d.tag r with
    | none => simp [ht] at hm
    | some tv =>
      cases tv with
      | list l =>
        simp only [ht, List.any_eq_true] at hm
        obtain ⟨t, ht1, ht2⟩ := hm
        rw [mem_definedSyms] at ht1
        rw [List.contains_iff_mem, h2 t] at ht2
        exact ⟨d, l, t, hd, rfl, ht, ht1.1, ht2.1, ht2.2⟩
      | _ => simp [ht] at hm
  · rintro ⟨d, l, t, hd, rfl, ht, htl, hp, hpt⟩
    refine ⟨d, ⟨hd, ?_⟩, rfl⟩
    simp only [ht, List.any_eq_true]
    exact ⟨t, (mem_definedSyms _ _ _).2 ⟨htl, edge_target_defined hpt hp⟩,
      by rw [List.contains_iff_mem, h2 t]; exact ⟨hp, hpt⟩⟩

/-- a computed association: `tags` in the standard library (`computedFromReciprocal`, `reciprocalOf: tagOn`) -/
theorem associations_computed (x : NsX) (fuel : Nat) (hf : fuelFor x.ns.defs ≤ fuel)
    (p a r : Name) (ad : DefX)
    (h : getX x.xd a = some ad) (ha : isAssoc ad = true) (hc : ad.has nComputed = true)
    (hr : ad.getSymbol nReciprocalOf = some r) (hrd : defined x.ns.defs r = true) :
    ∃ res, associations fuel x p a = .ok res ∧
      ∀ n, n ∈ res ↔ ∃ d l t, d ∈ x.xd ∧ d.name = n ∧ d.tag r = some (.list l) ∧ some t ∈ l ∧
        defined x.ns.defs p = true ∧ ReflTransGen (Edge x.ns.defs) p t := by
  obtain ⟨res, h1, h2⟩ := mem_findReciprocal x fuel hf p r
  exact ⟨res, (associations_computed_eq fuel x p a h ha hc hr hrd).trans h1, h2⟩

theorem associations_computed_no_reciprocal (fuel : Nat) (x : NsX) (p a : Name) (ad : DefX)
    (h : getX x.xd a = some ad) (ha : isAssoc ad = true) (hc : ad.has nComputed = true)
    (hr : ∀ r, ad.getSymbol nReciprocalOf = some r → defined x.ns.defs r = false) :
    associations fuel x p a = .ok [] := by
  simp only [associations, h, ha, hc, Bool.not_true, Bool.false_eq_true, if_false]
  cases hs : ad.getSymbol nReciprocalOf with
  | none => rfl
  | some r => simp [hr r hs]

/-! ### `implementation` -/

theorem supersOfAll_spec (ns : Ns) (fuel : Nat) (hf : fuelFor ns.defs ≤ fuel) :
    ∀ (ds acc : List Name), ∃ res, supersOfAll fuel ns ds acc = .ok res ∧
      ∀ n, n ∈ res ↔ n ∈ acc ∨ ∃ b, b ∈ ds ∧ TransGen (Edge ns.defs) b n := by
  intro ds
  induction ds with
  | nil => intro acc; exact ⟨acc, rfl, fun n => by simp⟩
  | cons d ds ih =>
    intro acc
    obtain ⟨all, h1, _, h3⟩ := allSupertypesOf_spec_ns ns fuel hf d
    obtain ⟨res, h4, h5⟩ := ih (extendSet acc all)
    refine ⟨res, ?_, fun n => ?_⟩
    · simp only [supersOfAll, h1]; exact h4
    · rw [h5 n, mem_extendSet, h3 n]
      simp only [List.mem_cons, exists_eq_or_imp, or_assoc]

theorem implementation_spec (x : NsX) (fuel : Nat) (hf : fuelFor x.ns.defs ≤ fuel) (s : Name) :
    ∃ base mand, implementation fuel x s = .ok (base, mand) ∧
      base = (conjunctsDefs x.ns s).filter (fun n => !isFeature n) ∧
      ∀ n, n ∈ mand ↔ hasMarkerX x.xd n nMandatory = true ∧ ∃ b, b ∈ base ∧ TransGen (Edge x.ns.defs) b n := by
  obtain ⟨sup, h1, h2⟩ := supersOfAll_spec x.ns fuel hf ((conjunctsDefs x.ns s).filter (fun n => !isFeature n)) []
  refine ⟨_, sup.filter (fun n => hasMarkerX x.xd n nMandatory), ?_, rfl, fun n => ?_⟩
  · simp only [implementation, h1]
  · rw [List.mem_filter, h2 n]
    simp only [List.not_mem_nil, false_or]
    exact And.comm

/-! ### `fits` as a Boolean -/

theorem fitsB_spec (ns : Ns) (fuel : Nat) (hf : fuelFor ns.defs ≤ fuel) (a b : Name) :
    fits fuel ns a b = .ok (fitsB fuel ns a b) := by
  obtain ⟨v, hv, _⟩ := fits_spec_ns ns fuel hf a b
  simp only [fitsB, hv]

theorem fitsB_iff (ns : Ns) (fuel : Nat) (hf : fuelFor ns.defs ≤ fuel) (a b : Name) :
    fitsB fuel ns a b = true ↔
      (defined ns.defs a = true ∧ defined ns.defs b = true ∧ ReflTransGen (Edge ns.defs) a b) := by
  obtain ⟨v, hv, hv'⟩ := fits_spec_ns ns fuel hf a b
  simp only [fitsB, hv]
  exact hv'

/-! ### `compute_entity_type` -/

theorem entityTypes_spec (ns : Ns) (fuel : Nat) (hf : fuelFor ns.defs ≤ fuel) :
    ∀ ds : List Name, ∃ tw, entityTypes fuel ns ds = .ok tw ∧
      ∀ d inh, (d, inh) ∈ tw ↔ d ∈ ds ∧ inheritance fuel ns d = .ok inh ∧ nEntity ∈ inh := by
  intro ds
  induction ds with
  | nil => exact ⟨[], rfl, fun d inh => by simp⟩
  | cons e ds ih =>
    obtain ⟨tw, h1, h2⟩ := ih
    obtain ⟨inh, hi, _⟩ := inheritance_spec_ns ns fuel hf e
    refine ⟨if inh.contains nEntity then (e, inh) :: tw else tw, by simp only [entityTypes, hi, h1], fun d i => ?_⟩
    have he : (d, i) = (e, inh) ∧ nEntity ∈ inh ↔ d = e ∧ inheritance fuel ns d = .ok i ∧ nEntity ∈ i := by
      constructor
      · rintro ⟨h, hm⟩; cases h; exact ⟨rfl, hi, hm⟩
      · rintro ⟨rfl, h, hm⟩; rw [hi] at h; cases h; exact ⟨rfl, hm⟩
    have : (d, i) ∈ (if inh.contains nEntity = true then (e, inh) :: tw else tw) ↔
        ((d, i) = (e, inh) ∧ nEntity ∈ inh) ∨ (d, i) ∈ tw := by
      split
      · rename_i hc; simp [List.contains_iff_mem.1 hc]
      · rename_i hc
        have : ¬ nEntity ∈ inh := fun h => hc (List.contains_iff_mem.2 h)
        simp [this]
    rw [this, he, h2 d i, List.mem_cons, or_and_right]

theorem entityCandidates_no_entity (fuel : Nat) (ns : Ns) (reflected : List Name)
    (he : defined ns.defs nEntity = false) : entityCandidates fuel ns reflected = .ok [] := by
  simp only [entityCandidates, he, Bool.not_false, if_true]

theorem entityCandidates_of_types (fuel : Nat) (ns : Ns) (reflected : List Name) {tw : List (Name × List Name)}
    (he : defined ns.defs nEntity = true) (h1 : entityTypes fuel ns (extendSet [] reflected) = .ok tw) :
    entityCandidates fuel ns reflected = .ok (if tw.length = 1 then tw.map (·.1)
      else (tw.filter (fun di => !tw.any (fun ej => ej.1 ≠ di.1 && ej.2.contains di.1))).map (·.1)) := by
  simp only [entityCandidates, he, h1, Bool.not_true, Bool.false_eq_true, if_false]
  split <;> rfl

theorem entityCandidates_sound (ns : Ns) (fuel : Nat) (hf : fuelFor ns.defs ≤ fuel) (reflected : List Name) :
    ∃ cands, entityCandidates fuel ns reflected = .ok cands ∧
      ∀ c, c ∈ cands → c ∈ reflected ∧ defined ns.defs nEntity = true ∧ ReflTransGen (Edge ns.defs) c nEntity := by
  -- either way of choosing the candidates picks first components of `tw`, and a member of `tw` is a reflected def
  -- whose inheritance holds `entity` (`key`)
  by_cases he : defined ns.defs nEntity = true
  · obtain ⟨tw, h1, h2⟩ := entityTypes_spec ns fuel hf (extendSet [] reflected)
    refine ⟨_, entityCandidates_of_types fuel ns reflected he h1, ?_⟩
    have key : ∀ ci ∈ tw, ci.1 ∈ reflected ∧ defined ns.defs nEntity = true ∧
        ReflTransGen (Edge ns.defs) ci.1 nEntity := by
      rintro ⟨c, i⟩ hci
      obtain ⟨hc1, hc2, hc3⟩ := (h2 c i).1 hci
      obtain ⟨inh, hi, hspec⟩ := inheritance_spec_ns ns fuel hf c
      rw [hi] at hc2
      cases hc2
      exact ⟨by simpa [mem_extendSet] using hc1, he, ((hspec nEntity).1 hc3).2⟩
    have sub : ∀ l : List (Name × List Name), (∀ ci ∈ l, ci ∈ tw) → ∀ c ∈ l.map (·.1),
        c ∈ reflected ∧ defined ns.defs nEntity = true ∧ ReflTransGen (Edge ns.defs) c nEntity := by
      intro l hl c hc
      obtain ⟨ci, hm, rfl⟩ := List.mem_map.1 hc
      exact key ci (hl ci hm)
    split
    · exact sub tw (fun _ h => h)
    · exact sub _ (fun _ h => (List.mem_filter.1 h).1)
  · exact ⟨[], entityCandidates_no_entity fuel ns reflected (by simpa using he), fun c hc => by simp at hc⟩

theorem entityCandidates_most_specific (ns : Ns) (fuel : Nat) (hf : fuelFor ns.defs ≤ fuel) (reflected : List Name) :
    ∃ cands tw, entityCandidates fuel ns reflected = .ok cands ∧
      (defined ns.defs nEntity = true → entityTypes fuel ns (extendSet [] reflected) = .ok tw) ∧
      (tw.length ≠ 1 → ∀ c, c ∈ cands → ∀ e inh, (e, inh) ∈ tw → e ≠ c → c ∉ inh) := by
  by_cases he : defined ns.defs nEntity = true
  · obtain ⟨tw, h1, _⟩ := entityTypes_spec ns fuel hf (extendSet [] reflected)
    refine ⟨_, tw, entityCandidates_of_types fuel ns reflected he h1, fun _ => h1, fun hl c hc e inh hm hne hcin => ?_⟩
    rw [if_neg hl] at hc
    obtain ⟨⟨c', i⟩, hcm, rfl⟩ := List.mem_map.1 hc
    have hf' := (List.mem_filter.1 hcm).2
    simp only [Bool.not_eq_true', List.any_eq_false] at hf'
    apply hf' (e, inh) hm
    simp only [Bool.and_eq_true, List.contains_iff_mem]
    exact ⟨by simpa using hne, hcin⟩
  · exact ⟨[], [], entityCandidates_no_entity fuel ns reflected (by simpa using he), fun h => absurd h he,
      fun _ c hc => by simp at hc⟩

/-! ### `has_relationship` -/

theorem hasRelationship_unknown (fuel lf : Nat) (x : NsX) (recs : List RecX) (rel : Name) (term : Option Name)
    (target : Option FLoops.RefId) (s : RecX) (h : getX x.xd rel = none) :
    hasRelationship fuel lf x recs rel term target s = .ok false := by
  simp only [hasRelationship, h]

theorem hasRelationship_of_get (fuel lf : Nat) (x : NsX) (recs : List RecX) (rel : Name) (term : Option Name)
    (target : Option FLoops.RefId) (s : RecX) {rd : DefX} {inh : List Name} (hg : getX x.xd rel = some rd)
    (hi : inheritance fuel x.ns rel = .ok inh) :
    hasRelationship fuel lf x recs rel term target s =
      if inh.contains nRelationship then
        FLoops.relLoop (recs.map (viewRec fuel x term rel (rd.getSymbol nReciprocalOf))) (rd.hasMarker nTransitive)
          (rd.getSymbol nReciprocalOf).isSome lf (viewRec fuel x term rel (rd.getSymbol nReciprocalOf) s) [] target
      else .ok false := by
  simp only [hasRelationship, hg, hi, FLoops.hasRelationship]
  cases inh.contains nRelationship <;> rfl

theorem recIds_view (fuel : Nat) (x : NsX) (term : Option Name) (rel : Name) (recip : Option Name) (recs : List RecX) :
    (FLoops.recIds (recs.map (viewRec fuel x term rel recip))).length ≤ recs.length := by
  unfold FLoops.recIds
  refine Nat.le_trans (List.length_filterMap_le _ _) ?_
  simp

/-- the walk over the resolver's records ends within (number of records + 1) passes, whatever refs they hold
(cycles included) -/
theorem hasRelationship_total (x : NsX) (fuel : Nat) (hf : fuelFor x.ns.defs ≤ fuel)
    (recs : List RecX) (lf : Nat) (hlf : recs.length < lf) (rel : Name) (term : Option Name)
    (target : Option FLoops.RefId) (s : RecX) :
    ∃ b, hasRelationship fuel lf x recs rel term target s = .ok b := by
  cases hg : getX x.xd rel with
  | none => exact ⟨false, hasRelationship_unknown fuel lf x recs rel term target s hg⟩
  | some rd =>
    obtain ⟨inh, hi, _⟩ := inheritance_spec_ns x.ns fuel hf rel
    rw [hasRelationship_of_get fuel lf x recs rel term target s hg hi]
    split
    · exact FLoops.relLoop_ok _ _ _ lf _ [] target
        (Nat.lt_of_le_of_lt (Nat.le_trans (unseen_le_length _ _) (recIds_view _ _ _ _ _ _)) hlf)
    · exact ⟨false, rfl⟩

/-! ### `has_relationship` when no Ref is followed

`rel?` / `rel? ^term` (no target), or `rel? @target` for a relationship that is not transitive, on a record whose own
`id` is not the target: the reciprocal branch needs `ref_target == id` and is never taken, no Ref is followed, so the
answer is a plain scan: some tag's def declares the relationship with a Symbol that fits the term (and, with a
target, the tag holds exactly that Ref). -/

theorem relInner_flat (recs : List FLoops.Rec) (tr hr : Bool) (id rt : Option FLoops.RefId)
    (hne : (rt == id) = false) (htr : rt.isSome = true → tr = false) :
    ∀ (es : List FLoops.Entry) (q : List FLoops.RefId),
      FLoops.relInner recs tr hr id es q rt =
        if es.any (fun e => e.rel == FLoops.DefVal.sym true && (rt.isNone || e.ref == rt)) then FLoops.Step.ret true
        else FLoops.Step.done := by
  intro es
  induction es with
  | nil => intro q; rfl
  | cons e rest ih =>
    intro q
    simp only [FLoops.relInner, hne, Bool.and_false, Bool.false_and, Bool.false_eq_true, if_false, List.any_cons]
    split
    · rename_i f hf
      cases f with
      | false => simp [hf, ih q]
      | true =>
        cases rt with
        | none => simp [hf]
        | some g =>
          cases htr rfl
          by_cases hm : e.ref = some g <;> simp [hf, hm, ih q]
    · rename_i hns
      have hb : (e.rel == FLoops.DefVal.sym true) = false := by
        cases h : e.rel with
        | sym f => exact absurd h (hns f)
        | _ => rfl
      simp [hb, ih q]

theorem hasRelationship_flat (fuel lf : Nat) (x : NsX) (recs : List RecX) (rel : Name) (term : Option Name)
    (target : Option Name) (s : RecX) (hid : (target == s.id) = false) (rd : DefX) (hg : getX x.xd rel = some rd)
    (htr : target.isSome = true → rd.hasMarker nTransitive = false) (inh : List Name)
    (hi : inheritance fuel x.ns rel = .ok inh) :
    hasRelationship fuel (lf + 1) x recs rel term target s =
      .ok (inh.contains nRelationship &&
        s.tags.any (fun t => defVal fuel x term t.key rel == FLoops.DefVal.sym true &&
          (target.isNone || t.ref == target))) := by
  rw [hasRelationship_of_get fuel (lf + 1) x recs rel term target s hg hi]
  cases inh.contains nRelationship with
  | false => rfl
  | true =>
    have hview : (viewRec fuel x term rel (rd.getSymbol nReciprocalOf) s).id = s.id := rfl
    simp only [if_true, Bool.true_and, FLoops.relLoop, hview]
    rw [relInner_flat _ _ _ s.id target hid htr]
    simp only [viewRec, List.any_map, Function.comp_def]
    generalize List.any s.tags _ = b
    cases b <;> rfl

end Hs.NsA

/-
  print → parse for filter trees (C08): the induction over the tree for the fragment of the property (`OkT2`,
  literals `OkLit2`; on the names ending in `2` see `Cont2`), with the lexical image (`lexImg`) of each literal as
  the result.

  A literal is read in front of what follows the term, and the zone reader of a DateTime looks two bytes ahead
  after a `Z`: it needs the next token not to start with an upper-case letter (`Cont2`).  The context `After`
  carried through the induction gives that for nothing, because a token follows (`Follow.noUp`).

  The restricted fragment (`OkT`: ASCII text, no Number / Date / Time / DateTime literal) is part of this one
  (`OkT.ok2`) and its literals are their own lexical images (`imgT2_of_ok`): its statements are corollaries.
-/
import Hs.Lemmas.FilterRtLit
namespace Hs.FText
open Hs Hs.Scan Hs.Zinc

mutual
/-- the terms of the proved fragment (a lone `not` is the operator, not a name) -/
def OkT2 : Term → Prop
  | .parens o => o ≠ .nil ∧ AllO2 o
  | .has p => WFPath p ∧ p ≠ kwNot
  | .missing p => WFPath p
  | .isA s => SymSeg s
  | .weq p r => (WFPath p ∧ p ≠ kwNot) ∧ RefSeg r.id
  | .rel r t ref => IdSeg r ∧ (∀ x, t = some x → SymSeg x) ∧ (∀ rv, ref = some rv → RefSeg rv.id)
  | .cmp p _ v => (WFPath p ∧ p ≠ kwNot) ∧ OkLit2 v
def AllA2 : Ands → Prop
  | .nil => True
  | .cons t ts => OkT2 t ∧ AllA2 ts
def AllO2 : Ors → Prop
  | .nil => True
  | .cons a as => (a ≠ .nil ∧ AllA2 a) ∧ AllO2 as
end

mutual
/-- what the parser returns for the printed tree: the tree itself, the Ref operand of `*==` and of a
relation without its display name (`Display for Ref` does not print it) -/
def imgT2 : Term → Term
  | .parens o => .parens (imgO2 o)
  | .weq p r => .weq p { id := r.id, dis := Option.none }
  | .rel r t (some rv) => .rel r t (some { id := rv.id, dis := Option.none })
  | .cmp p op v => .cmp p op (lexImg v)
  | t => t
def imgA2 : Ands → Ands
  | .nil => .nil
  | .cons t ts => .cons (imgT2 t) (imgA2 ts)
def imgO2 : Ors → Ors
  | .nil => .nil
  | .cons a as => .cons (imgA2 a) (imgO2 as)
end

/-! ### where a term starts -/

theorem OkT2.head : {t : Term} → OkT2 t → okHead (printTerm t)
  | .parens o, _ => by simp only [printTerm, List.cons_append]; exact okHead_byte 40 _ (by decide)
  | .has p, h => by
    have hw : WFPath p := h.1
    simp only [printTerm, printPath_eq p hw.2]; exact path_head hw
  | .missing p, _ => by
    simp only [printTerm]
    exact ⟨110, [111, 116, 32] ++ printPath p, by simp [bytesOfAscii], by decide, by decide, by decide, by decide⟩
  | .isA _, _ => by simp only [printTerm, List.cons_append]; exact okHead_byte 94 _ (by decide)
  | .weq p _, h => by
    have hw : WFPath p := h.1.1
    simp only [printTerm, printPath_eq p hw.2, List.append_assoc]; exact okHead_append (path_head hw)
  | .rel r _ _, h => by
    simp only [printTerm, h.1.enc, List.append_assoc]; exact okHead_append (seg_head h.1)
  | .cmp p _ _, h => by
    have hw : WFPath p := h.1.1
    simp only [printTerm, printPath_eq p hw.2, List.append_assoc]; exact okHead_append (path_head hw)

theorem AllA2.head {t : Term} {ts : Ands} (h : AllA2 (.cons t ts)) : okHead (printAnds (.cons t ts)) :=
  ands_head t ts h.1.head

theorem AllO2.head {a : Ands} {as : Ors} (h : AllO2 (.cons a as)) : okHead (printOrs (.cons a as)) := by
  obtain ⟨⟨hne, ha⟩, _⟩ := h
  cases a with
  | nil => exact absurd rfl hne
  | cons t ts => exact ors_head _ as ha.head

/-- `parse_and` on a list whose first term is handled wherever it stands: it stands at the end of the list, or
in front of ` and ` -/
theorem ands_of {t it : Term} {ts its : Ands} (hts : AllA2 ts)
    (ihT : ∀ {rest T T' : List UInt8} {tok' : FTok}, After rest T tok' T' → TermR t it rest T' tok')
    {rest T T' : List UInt8} {tok' : FTok} (hA : After rest T tok' T') (ihA : AndTail ts its rest T' tok') :
    AndsR (.cons t ts) (.cons it its) rest T' tok' := by
  cases ts with
  | nil => exact ands_step (by simp [printAnds]) (by simp [printAnds]) (ihT hA) ihA
  | cons w ws =>
    obtain ⟨hC1, hF1⟩ := sep_and _ (okHead_append hts.head (Y := rest))
    exact ands_step (by simp [printAnds]) (by simp) (ihT ⟨hC1, hF1, rfl⟩) ihA

theorem ors_of {a ia : Ands} {as ias : Ors} (has : AllO2 as)
    (ihA : ∀ {rest T T' : List UInt8} {tok' : FTok}, After rest T tok' T' → notKw tok' kwAnd →
      AndsR a ia rest T' tok')
    {rest T T' : List UInt8} {tok' : FTok} (hA : After rest T tok' T') (hk : notKw tok' kwAnd)
    (ihO : OrTail as ias rest T' tok') : OrsR (.cons a as) (.cons ia ias) rest T' tok' := by
  cases as with
  | nil => exact ors_step (by simp [printOrs]) (by simp [printOrs]) (ihA hA hk) ihO
  | cons b bs =>
    obtain ⟨hC1, hF1⟩ := sep_or _ (okHead_append has.head (Y := rest))
    exact ors_step (by simp [printOrs]) (by simp)
      (ihA ⟨hC1, hF1, rfl⟩ (by simp [notKw, FTok.isPath, kwOr, kwAnd])) ihO

/-! ### the induction

Three statements, one per sort of the tree.  The loops need none of their own: on its keyword a loop is the list
function on the operands that remain (`andTail_of`, `orTail_of`), so the statements about them (`andTail`,
`orTail`) follow. -/

mutual
theorem termR : (t : Term) → OkT2 t →
    ∀ {rest T T' : List UInt8} {tok' : FTok}, After rest T tok' T' → TermR t (imgT2 t) rest T' tok'
  | .parens o, h, rest, _, _, _, hA =>
    have hhead : okHead (printOrs o) := by
      cases o with
      | nil => exact absurd rfl h.1
      | cons a as => exact AllO2.head h.2
    parens_ok hhead hA (orsR o h.1 h.2
      ⟨Or.inr ⟨rfl, okHead_byte 41 rest (by decide)⟩, follow_rparen hA.cont, rfl⟩
      (by simp [notKw, FTok.isPath]) (by simp [notKw, FTok.isPath]))
  | .has _, h, _, _, _, _, hA => has_ok h.1 h.2 hA
  | .missing _, h, _, _, _, _, hA => missing_ok h hA
  | .isA _, h, _, _, _, _, hA => isA_ok h hA
  | .weq _ _, h, _, _, _, _, hA => weq_ok h.1.1 h.1.2 h.2 hA
  | .rel _ _ ref, h, _, _, _, _, hA => by
    have := rel_ok h.1 h.2.1 h.2.2 hA
    cases ref <;> exact this
  | .cmp p op v, h, _, _, _, _, hA =>
    cmp_ok op h.1.1 h.1.2 hA (lit_head v h.2) (follow_lit v h.2 hA.cont2)
      (fun F l s' hr => parseCmp_lit v h.2 F l s' p op hr)
termination_by structural t => t

theorem andsR : (a : Ands) → a ≠ .nil → AllA2 a →
    ∀ {rest T T' : List UInt8} {tok' : FTok}, After rest T tok' T' → notKw tok' kwAnd →
    AndsR a (imgA2 a) rest T' tok'
  | .nil, h, _, _, _, _, _, _, _ => absurd rfl h
  | .cons t .nil, _, h, _, _, _, _, hA, hk => ands_of h.2 (termR t h.1) hA (andTail_nil hk)
  | .cons t (.cons u us), _, h, _, _, _, _, hA, hk =>
    ands_of h.2 (termR t h.1) hA (andTail_of h.2.head (andsR (.cons u us) (by simp) h.2 hA hk))
termination_by structural a => a

theorem orsR : (o : Ors) → o ≠ .nil → AllO2 o →
    ∀ {rest T T' : List UInt8} {tok' : FTok}, After rest T tok' T' → notKw tok' kwAnd → notKw tok' kwOr →
    OrsR o (imgO2 o) rest T' tok'
  | .nil, h, _, _, _, _, _, _, _, _ => absurd rfl h
  | .cons a .nil, _, h, _, _, _, _, hA, hkA, hkO =>
    ors_of h.2 (andsR a h.1.1 h.1.2) hA hkA (orTail_nil hkO)
  | .cons a (.cons b bs), _, h, _, _, _, _, hA, hkA, hkO =>
    ors_of h.2 (andsR a h.1.1 h.1.2) hA hkA (orTail_of h.2.head (orsR (.cons b bs) (by simp) h.2 hA hkA hkO))
termination_by structural o => o
end

theorem andTail : (ts : Ands) → AllA2 ts →
    ∀ {rest T T' : List UInt8} {tok' : FTok}, After rest T tok' T' → notKw tok' kwAnd →
    AndTail ts (imgA2 ts) rest T' tok'
  | .nil, _, _, _, _, _, _, hk => andTail_nil hk
  | .cons u us, h, _, _, _, _, hA, hk => andTail_of h.head (andsR (.cons u us) (by simp) h hA hk)

theorem orTail : (as : Ors) → AllO2 as →
    ∀ {rest T T' : List UInt8} {tok' : FTok}, After rest T tok' T' → notKw tok' kwAnd → notKw tok' kwOr →
    OrTail as (imgO2 as) rest T' tok'
  | .nil, _, _, _, _, _, _, _, hkO => orTail_nil hkO
  | .cons a as, h, _, _, _, _, hA, hkA, hkO => orTail_of h.head (orsR (.cons a as) (by simp) h hA hkA hkO)

/-- the cost is paid by the length of the text (`fuelFor`) -/
theorem cost_leaf {t : Term} (h : okHead (printTerm t)) (hc : costT t = 1) : costT t + 4 ≤ 5 * (printTerm t).length := by
  obtain ⟨c, r, hX, _⟩ := h
  rw [hX, List.length_cons]; omega

mutual
theorem costT_le2 : (t : Term) → OkT2 t → costT t + 4 ≤ 5 * (printTerm t).length
  | .parens o, h => by
    have := costO_le2 o h.2
    simp [costT, printTerm, List.length_append] at this ⊢; omega
  | .has _, h | .missing _, h | .isA _, h | .weq _ _, h | .rel _ _ _, h | .cmp _ _ _, h =>
    cost_leaf h.head rfl
theorem costA_le2 : (a : Ands) → AllA2 a → costA a ≤ 5 * (printAnds a).length + 1
  | .nil, _ => by simp [costA]
  | .cons t .nil, h => by
    have := costT_le2 t h.1
    simp [costA, printAnds] at this ⊢; omega
  | .cons t (.cons u us), h => by
    have h1 := costT_le2 t h.1
    have h2 := costA_le2 (.cons u us) h.2
    simp only [costA, printAnds, List.length_append] at h1 h2 ⊢
    have : sepAnd.length = 5 := by decide
    omega
theorem costO_le2 : (o : Ors) → AllO2 o → costO o ≤ 5 * (printOrs o).length + 4
  | .nil, _ => by simp [costO]
  | .cons a .nil, h => by
    have := costA_le2 a h.1.2
    simp [costO, printOrs] at this ⊢; omega
  | .cons a (.cons b bs), h => by
    have h1 := costA_le2 a h.1.2
    have h2 := costO_le2 (.cons b bs) h.2
    simp only [costO, printOrs, List.length_append] at h1 h2 ⊢
    have : sepOr.length = 4 := by decide
    omega
end

theorem print_parse_fuel (f : Ors) (hne : f ≠ .nil)
    (hall : AllO2 f) (hd : nestO f ≤ 64) (fuel : Nat) (hf : costO f + (printFilter f).length + 8 ≤ fuel) :
    parseFilter fuel (printFilter f) = .ok (imgO2 f) := by
  have hv := views_make (printFilter f)
  obtain ⟨s1, tok1, l', h1, h2, h3c, h3p⟩ := orsR f hne hall
    ⟨Or.inl ⟨rfl, rfl⟩, follow_nil, rfl⟩ (by simp [notKw, FTok.isPath])
    (by simp [notKw, FTok.isPath]) 0 fuel fuel ((printFilter f).length + 8) (Scan.make (printFilter f))
    (Or.inl (by simpa [printFilter] using hv)) (by omega) (by simp [printFilter]) (by omega) (by omega)
  unfold parseFilter
  simp only
  rw [read_ok (l := { sc := Scan.make (printFilter f), cur := .none }) h1]
  simp only [h2, h3c, FTok.isNone, if_true]

/-- print → parse on the full fragment, with the fuel `Filter::try_from` is modelled with -/
theorem print_parse (f : Ors) (hne : f ≠ .nil) (hall : AllO2 f) (hd : nestO f ≤ 64) :
    filterOfBytes (printFilter f) = .ok (imgO2 f) := by
  unfold filterOfBytes
  apply print_parse_fuel f hne hall hd
  have := costO_le2 f hall
  simp only [printFilter, fuelFor] at this ⊢
  omega

/-! ### the restricted fragment is part of this one -/

/-- ASCII text: what the restricted fragment asks of a Str, a Uri and a display name -/
def AsciiStr (cs : List Char) : Prop := cs = (segBytes cs).map chr ∧ (segBytes cs).all (· < 128) = true

instance (cs : List Char) : Decidable (AsciiStr cs) := by unfold AsciiStr; exact inferInstance

example : AsciiStr "a \"q\"\n\t$x\\ \u0001".toList := by decide +kernel

/-- literals of the restricted fragment: Bool, Symbol, Ref (with or without an ASCII display name), ASCII Str
and Uri -/
def OkLit : Val → Prop
  | .bool _ => True
  | .sym s => SymSeg s
  | .ref id Option.none => RefSeg id
  | .ref id (some d) => RefSeg id ∧ AsciiStr d
  | .str s => AsciiStr s
  | .uri s => AsciiStr s
  | _ => False

mutual
def OkT : Term → Prop
  | .parens o => o ≠ .nil ∧ AllO o
  | .has p => WFPath p ∧ p ≠ kwNot
  | .missing p => WFPath p
  | .isA s => SymSeg s
  | .weq p r => (WFPath p ∧ p ≠ kwNot) ∧ RefSeg r.id
  | .rel r t ref => IdSeg r ∧ (∀ x, t = some x → SymSeg x) ∧ (∀ rv, ref = some rv → RefSeg rv.id)
  | .cmp p _ v => (WFPath p ∧ p ≠ kwNot) ∧ OkLit v
def AllA : Ands → Prop
  | .nil => True
  | .cons t ts => OkT t ∧ AllA ts
def AllO : Ors → Prop
  | .nil => True
  | .cons a as => (a ≠ .nil ∧ AllA a) ∧ AllO as
end

mutual
def imgT : Term → Term
  | .parens o => .parens (imgO o)
  | .weq p r => .weq p { id := r.id, dis := Option.none }
  | .rel r t (some rv) => .rel r t (some { id := rv.id, dis := Option.none })
  | t => t
def imgA : Ands → Ands
  | .nil => .nil
  | .cons t ts => .cons (imgT t) (imgA ts)
def imgO : Ors → Ors
  | .nil => .nil
  | .cons a as => .cons (imgA a) (imgO as)
end

theorem OkLit.ok2 : (v : Val) → OkLit v → OkLit2 v
  | .ref _ (some _), h => h.1
  | .ref _ Option.none, h => h
  | .bool _, _ => trivial
  | .sym _, h => h
  | .str _, _ => trivial
  | .uri _, _ => trivial

theorem OkLit.lexImg {v : Val} (h : OkLit v) : lexImg v = v := by
  cases v <;> first | rfl | exact absurd h id

mutual
theorem OkT.ok2 : (t : Term) → OkT t → OkT2 t
  | .parens o, h => ⟨h.1, AllO.ok2 o h.2⟩
  | .has _, h | .missing _, h | .isA _, h | .weq _ _, h | .rel _ _ _, h => h
  | .cmp _ _ v, h => ⟨h.1, h.2.ok2 v⟩
theorem AllA.ok2 : (a : Ands) → AllA a → AllA2 a
  | .nil, _ => trivial
  | .cons t ts, h => ⟨OkT.ok2 t h.1, AllA.ok2 ts h.2⟩
theorem AllO.ok2 : (o : Ors) → AllO o → AllO2 o
  | .nil, _ => trivial
  | .cons a as, h => ⟨⟨h.1.1, AllA.ok2 a h.1.2⟩, AllO.ok2 as h.2⟩
end

mutual
theorem imgT2_of_ok : (t : Term) → OkT t → imgT2 t = imgT t
  | .parens o, h => by simp only [imgT2, imgT, imgO2_of_ok o h.2]
  | .has _, _ | .missing _, _ | .isA _, _ | .weq _ _, _ | .rel _ _ Option.none, _ | .rel _ _ (some _), _ => rfl
  | .cmp p op v, h => by simp only [imgT2, imgT, h.2.lexImg]
theorem imgA2_of_ok : (a : Ands) → AllA a → imgA2 a = imgA a
  | .nil, _ => rfl
  | .cons t ts, h => by simp only [imgA2, imgA, imgT2_of_ok t h.1, imgA2_of_ok ts h.2]
theorem imgO2_of_ok : (o : Ors) → AllO o → imgO2 o = imgO o
  | .nil, _ => rfl
  | .cons a as, h => by simp only [imgO2, imgO, imgA2_of_ok a h.1.2, imgO2_of_ok as h.2]
end

/-! ### the statements with the context spelled out -/

theorem termR_ok2 : (t : Term) → OkT2 t → ∀ (rest T T' : List UInt8) (tok' : FTok) (d fuelL fuelP N : Nat)
    (s : Scan), Cont2 rest T → Follow T tok' T' → isCont tok' = true →
    Pos s (printTerm t ++ rest) → d + nestT t ≤ 64 →
    (printTerm t ++ rest).length + 8 ≤ N → N ≤ fuelL → costT t + N ≤ fuelP →
    ∃ s1 tok1 l', lexRead fuelL s = .ok s1 tok1 ∧ parseTerm fuelP d { sc := s1, cur := tok1 } = .ok (imgT2 t, l')
      ∧ At l' tok' T' :=
  fun t h _ _ _ _ d fuelL fuelP N s hC hF hc => termR t h ⟨hC.1, hF, hc⟩ d fuelL fuelP N s

theorem andTail_ok2 : (ts : Ands) → AllA2 ts → ∀ (rest T T' : List UInt8) (tok' : FTok) (d fuelP N : Nat) (l : FLex),
    Cont2 rest T → Follow T tok' T' → isCont tok' = true → notKw tok' kwAnd →
    (match ts with
     | .nil => At l tok' T'
     | .cons _ _ => At l (.path kwAnd) (printAnds ts ++ rest)) →
    d + nestA ts ≤ 64 → (printAnds ts ++ rest).length + 8 ≤ N → costA ts + N ≤ fuelP →
    ∃ l', andLoop fuelP d l = .ok (imgA2 ts, l') ∧ At l' tok' T' :=
  fun ts h _ _ _ _ d fuelP N l hC hF hc hk => andTail ts h ⟨hC.1, hF, hc⟩ hk d fuelP N l

theorem orTail_ok2 : (as : Ors) → AllO2 as → ∀ (rest T T' : List UInt8) (tok' : FTok) (d fuelP N : Nat) (l : FLex),
    Cont2 rest T → Follow T tok' T' → isCont tok' = true → notKw tok' kwAnd → notKw tok' kwOr →
    (match as with
     | .nil => At l tok' T'
     | .cons _ _ => At l (.path kwOr) (printOrs as ++ rest)) →
    d + nestO as ≤ 64 → (printOrs as ++ rest).length + 8 ≤ N → costO as + N ≤ fuelP →
    ∃ l', orLoop fuelP d l = .ok (imgO2 as, l') ∧ At l' tok' T' :=
  fun as h _ _ _ _ d fuelP N l hC hF hc hkA hkO => orTail as h ⟨hC.1, hF, hc⟩ hkA hkO d fuelP N l

theorem termR_ok : (t : Term) → OkT t → ∀ (rest T T' : List UInt8) (tok' : FTok) (d fuelL fuelP N : Nat)
    (s : Scan), Cont rest T → Follow T tok' T' → isCont tok' = true →
    Pos s (printTerm t ++ rest) → d + nestT t ≤ 64 →
    (printTerm t ++ rest).length + 8 ≤ N → N ≤ fuelL → costT t + N ≤ fuelP →
    ∃ s1 tok1 l', lexRead fuelL s = .ok s1 tok1 ∧ parseTerm fuelP d { sc := s1, cur := tok1 } = .ok (imgT t, l')
      ∧ At l' tok' T' :=
  fun t h _ _ _ _ d fuelL fuelP N s hC hF hc =>
    imgT2_of_ok t h ▸ termR t (h.ok2 t) ⟨hC, hF, hc⟩ d fuelL fuelP N s

theorem andTail_ok : (ts : Ands) → AllA ts → ∀ (rest T T' : List UInt8) (tok' : FTok) (d fuelP N : Nat) (l : FLex),
    Cont rest T → Follow T tok' T' → isCont tok' = true → notKw tok' kwAnd →
    (match ts with
     | .nil => At l tok' T'
     | .cons _ _ => At l (.path kwAnd) (printAnds ts ++ rest)) →
    d + nestA ts ≤ 64 → (printAnds ts ++ rest).length + 8 ≤ N → costA ts + N ≤ fuelP →
    ∃ l', andLoop fuelP d l = .ok (imgA ts, l') ∧ At l' tok' T' :=
  fun ts h _ _ _ _ d fuelP N l hC hF hc hk =>
    imgA2_of_ok ts h ▸ andTail ts (h.ok2 ts) ⟨hC, hF, hc⟩ hk d fuelP N l

theorem orTail_ok : (as : Ors) → AllO as → ∀ (rest T T' : List UInt8) (tok' : FTok) (d fuelP N : Nat) (l : FLex),
    Cont rest T → Follow T tok' T' → isCont tok' = true → notKw tok' kwAnd → notKw tok' kwOr →
    (match as with
     | .nil => At l tok' T'
     | .cons _ _ => At l (.path kwOr) (printOrs as ++ rest)) →
    d + nestO as ≤ 64 → (printOrs as ++ rest).length + 8 ≤ N → costO as + N ≤ fuelP →
    ∃ l', orLoop fuelP d l = .ok (imgO as, l') ∧ At l' tok' T' :=
  fun as h _ _ _ _ d fuelP N l hC hF hc hkA hkO =>
    imgO2_of_ok as h ▸ orTail as (h.ok2 as) ⟨hC, hF, hc⟩ hkA hkO d fuelP N l

theorem costT_le : (t : Term) → OkT t → costT t + 4 ≤ 5 * (printTerm t).length := fun t h => costT_le2 t (h.ok2 t)
theorem costA_le : (a : Ands) → AllA a → costA a ≤ 5 * (printAnds a).length + 1 := fun a h => costA_le2 a (h.ok2 a)

end Hs.FText

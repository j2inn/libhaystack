/-
  Hs.Lemmas.HaysonWrite — the encoder's document is a Hayson document of the image: `Denotes (jImage v) (toJson v)` for
  every well-formed value (`denotes_val`; the write direction of C05).  The round trip C02 then follows from the read
  direction `read_denotes`: every Hayson document of a value, whatever the order of its members, is decoded to it.
-/
import Hs.Spec.HaysonDenote
import Hs.Lemmas.HaysonWf

namespace Hs.Spec.Hayson
open Hs Hs.Hayson Hs.C02

theorem tagKeys_image (t : Tags) (hw : wfTags t = true) (hs : strictSorted t.keys = true) :
    TagKeys (jImageTags t) :=
  ⟨(jImageTags_keys t).symm ▸ hs, (jImageTags_keys t).symm ▸ wfTags_noKind t hw⟩

theorem denotesD_of_tags {t : Tags} (hm : DenotesM (jImageTags t) (tagsJson t).toList)
    (hw : wfTags t = true) (hs : strictSorted t.keys = true) : DenotesD (jImageTags t) (tagsJson t) :=
  .mk hm (tagKeys_image t hw hs) .absent (List.Perm.refl _)

/-- the double a number object's `val` stands for -/
def canonF (v : Flt) : Flt :=
  if isNaN v then mkFlt 0x7FF8000000000000 "NaN"
  else if isInf v then (if isNeg v then mkFlt 0xFFF0000000000000 "-inf" else mkFlt 0x7FF0000000000000 "inf")
  else v

/-- `numImage` treats the integer `0` apart only for a unit-less finite number, which `h` excludes -/
theorem numImage_obj (n : Num) (h : (n.unit.isSome || isNaN n.v || isInf n.v) = true) :
    numImage n = { v := canonF n.v, unit := n.unit } := by
  obtain ⟨v, u⟩ := n
  unfold numImage canonF
  cases hN : isNaN v
  · cases hI : isInf v
    · cases u with
      | none => simp [hN, hI] at h
      | some u => simp
    · simp
  · simp

theorem exactInt_finite {v : Flt} {i : Int} (h : exactInt v = some i) : isNaN v = false ∧ isInf v = false := by
  constructor
  · refine Bool.eq_false_iff.mpr fun hn => ?_
    simp [isNaN] at hn
    simp [exactInt, hn.1] at h
  · refine Bool.eq_false_iff.mpr fun hn => ?_
    simp [isInf] at hn
    simp [exactInt, hn.1] at h

/-- numbers: `impl Serialize for Number` writes an object when there is a unit or the double is not finite
(`val` spells the double, `NumVal`), a bare token otherwise -/
theorem denotes_encNumber (n : Num) (hu : ∀ u, n.unit = some u → Hs.Zinc.unitSymbol u = some u) :
    Denotes (.num (numImage n)) (encNumber n) := by
  unfold encNumber
  extract_lets special valJ tail
  have hs : special.isSome = (isNaN n.v || isInf n.v) := by
    simp only [special]; cases isNaN n.v <;> cases isInf n.v <;> rfl
  split
  next h =>
    rw [hs, ← Bool.or_assoc] at h
    rw [numImage_obj n h]
    have hv : NumVal (canonF n.v) valJ := by
      simp only [valJ, special, canonF, jF64]
      cases hN : isNaN n.v
      · cases hI : isInf n.v
        · exact .tok (.flt _)
        · cases hS : isNeg n.v
          · exact .inf
          · exact .negInf
      · exact .nan
    have ht : OptUnit n.unit tail.toList := by
      simp only [tail]
      cases hu' : n.unit with
      | none => exact .absent
      | some u => exact .present u u (hu u hu')
    exact .number hv ht (List.Perm.refl _)
  next h =>
    obtain ⟨v, unit⟩ := n
    rw [hs] at h
    simp only [Bool.or_eq_true, not_or, Bool.not_eq_true, Option.isSome_eq_false_iff,
      Option.isNone_iff_eq_none] at h
    obtain ⟨rfl, hN, hI⟩ := h
    cases hE : exactInt v with
    | none => simp only [numImage, hN, hI, hE]; exact .numTok (.flt v)
    | some i =>
      by_cases hR : (-9223372036854775808 ≤ i && i < 9223372036854775808) = true
      · by_cases h0 : i = 0
        · subst h0; simp [numImage, hN, hI, hE]; exact .numTok (.int 0 _)
        · simp [numImage, hN, hI, hE, hR, h0]; exact .numTok (.int i v)
      · have h0 : i ≠ 0 := by rintro rfl; simp at hR
        simp [numImage, hN, hI, hE, hR, h0]; exact .numTok (.flt v)

theorem numTok_jF64 (a : Flt) (h : finiteF a = true) : NumTok a (jF64 a) := by
  simp [finiteF] at h
  have : jF64 a = .flt a := by simp [jF64, h]
  rw [this]
  exact .flt a

mutual
theorem denotes_val : (v : Val) → wfj v = true → Denotes (jImage v) (toJson v)
  | .null, _ => by simp only [toJson, jImage]; exact .null
  | .remove, _ => by simp only [toJson, jImage, kindObj]; exact .remove
  | .marker, _ => by simp only [toJson, jImage, kindObj]; exact .marker
  | .na, _ => by simp only [toJson, jImage, kindObj]; exact .na
  | .bool b, _ => by simp only [toJson, jImage]; exact .bool b
  | .num n, h => by
    simp only [toJson, jImage]
    exact denotes_encNumber n (wfj_num h)
  | .str x, _ => by simp only [toJson, jImage]; exact .str x
  | .uri x, _ => by simp only [toJson, jImage, kindObj]; exact .uri (List.Perm.refl _)
  | .ref id dis, _ => by
    simp only [toJson, jImage, kindObj]
    cases dis with
    | none => exact .ref .absent (List.Perm.refl _)
    | some d => exact .ref (.present d) (List.Perm.refl _)
  | .sym x, _ => by simp only [toJson, jImage, kindObj]; exact .symbol (List.Perm.refl _)
  | .date d, _ => by simp only [toJson, jImage, kindObj]; exact .date (List.Perm.refl _)
  | .time t, _ => by simp only [toJson, jImage, kindObj]; exact .time (List.Perm.refl _)
  | .dateTime t, _ => by
    simp only [toJson, jImage, kindObj]
    by_cases h : (t.tzid == s "UTC") = true
    · simp only [h, if_true]
      exact .dateTime .absent (List.Perm.refl _)
    · simp only [h]
      exact .dateTime (.present t.zone) (List.Perm.refl _)
  | .coord a b, h => by
    obtain ⟨ha, hb⟩ := wfj_coord.mp h
    simp only [toJson, jImage, kindObj]
    exact .coord (numTok_jF64 a ha) (numTok_jF64 b hb) (List.Perm.refl _)
  | .xstr ty v, _ => by simp only [toJson, jImage, kindObj]; exact .xstr (List.Perm.refl _)
  | .list xs, h => by
    simp only [toJson, jImage]
    exact .list (denotes_vals xs (wfj_list h))
  | .dict d, h => by
    obtain ⟨hw, hs⟩ := wfj_dict h
    simp only [toJson, jImage]
    exact .dict (denotesD_of_tags (denotes_tags d hw) hw hs)
  | .grid (.some t) cols rows ver, h => by
    obtain ⟨hw, hs, hver⟩ := wfj_grid_meta h
    obtain ⟨hc, hr⟩ := wfj_grid h
    simp only [toJson, jImage, kindObj]
    refine .gridMeta (km := []) (vm := []) (denotes_tags t hw) (tagKeys_image t hw hs) ?_
      .absent .absent (List.Perm.refl _) (denotes_cols cols hc) (denotes_rows rows hr) (List.Perm.refl _)
    intro k hk e
    rw [jImageTags_keys] at hk
    exact hver (e ▸ hk)
  | .grid .none cols rows ver, h => by
    obtain ⟨hc, hr⟩ := wfj_grid h
    simp only [toJson, jImage, kindObj]
    exact .gridMeta (km := []) (vm := []) (tm := []) .nil ⟨rfl, by intro k hk; cases hk⟩
      (by intro k hk; cases hk) .absent .absent (List.Perm.refl _) (denotes_cols cols hc)
      (denotes_rows rows hr) (List.Perm.refl _)
theorem denotes_vals : (vs : Vals) → wfjs vs = true → DenotesL (jImages vs) (listJson vs)
  | .nil, _ => by simp only [listJson, jImages]; exact .nil
  | .cons v vs, h => by
    simp only [listJson, jImages]
    exact .cons (denotes_val v (wfjs_cons h).1) (denotes_vals vs (wfjs_cons h).2)
theorem denotes_tags : (t : Tags) → wfTags t = true → DenotesM (jImageTags t) (tagsJson t).toList
  | .nil, _ => by simp only [tagsJson, jImageTags, Members.toList_nil]; exact .nil
  | .cons k v t, h => by
    simp only [tagsJson, jImageTags, Members.toList_cons]
    exact .cons (denotes_val v (wfTags_cons h).2.1) (denotes_tags t (wfTags_cons h).2.2)
theorem denotes_cols : (c : Cols) → wfCols c = true → DenotesCols (jImageCols c) (colsJson c)
  | .nil, _ => by simp only [colsJson, jImageCols]; exact .nil
  | .cons n (.some t) c, h => by
    obtain ⟨hw, hs⟩ := wfCols_cons_meta h
    simp only [colsJson, jImageCols]
    exact .consMeta (denotesD_of_tags (denotes_tags t hw) hw hs) (List.Perm.refl _) (denotes_cols c (wfCols_cons h))
  | .cons n .none c, h => by
    simp only [colsJson, jImageCols]
    exact .consNoMeta (List.Perm.refl _) (denotes_cols c (wfCols_cons h))
theorem denotes_rows : (r : Rows) → wfRows r = true → DenotesRows (jImageRows r) (rowsJson r)
  | .nil, _ => by simp only [rowsJson, jImageRows]; exact .nil
  | .cons r rs, h => by
    obtain ⟨⟨hw, hs⟩, hrs⟩ := wfRows_cons h
    simp only [rowsJson, jImageRows]
    exact .cons (denotesD_of_tags (denotes_tags r hw) hw hs) (denotes_rows rs hrs)
end

end Hs.Spec.Hayson

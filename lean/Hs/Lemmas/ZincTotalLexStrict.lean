/-
  Hs.Lemmas.ZincTotalLexStrict — C03 and C11: `Lexer::read` on ANY input, walked once (`lexRead_sat`).  A successful
  `lexRead` does not increase `Scan.mu` and strictly decreases it on a scanner that is not at the end of the input
  (every reader it starts consumes the byte it was started on: the `_adv` statements of `ZincTotalLex`); a `Tok.none`
  token is only produced at the end of the input; and the token satisfies `tokInv`.
-/
import Hs.Lemmas.ZincTotalLex
namespace Hs
open Scan

namespace Zinc

abbrev Lex.Moved (s : Scan) (l : Lex) : Prop :=
  l.sc.mu ≤ s.mu ∧ (s.eof = false → l.sc.mu < s.mu) ∧ (l.tok = .none → l.sc.eof = true)

theorem tok_post {s s' : Scan} {t : Tok} {fuel m : Nat} (h : s'.mu < s.mu) (ht : t ≠ .none) (hi : tokInv t) :
    (Res.ok { sc := s', tok := t } : Res Lex).Sat fuel m (fun l => Lex.Moved s l ∧ tokInv l.tok) :=
  ⟨⟨Nat.le_of_lt h, fun _ => h, fun e => absurd e ht⟩, hi⟩

theorem valTok {r : Res (Val × Scan)} {n : Nat} {s : Scan}
    (h : r.Sat n s.mu (fun o => o.2.mu < s.mu ∧ tokInv (.val o.1))) :
    (match r with
      | .ok (v, s') => Res.ok (Lex.mk s' (Tok.val v))
      | .err => .err | .panic => .panic | .diverge => .diverge | .depth => .depth).Sat (n + 1) (s.mu + 1)
      (fun l => Lex.Moved s l ∧ tokInv l.tok) :=
  h.elim (fun ⟨_, _⟩ h => tok_post h.1 nofun h.2) trivial Nat.succ_le_succ

/-- budget `mu + 1` because of the one re-entry after a run of spaces -/
theorem lexRead_sat : ∀ fuel s, (lexRead fuel s).Sat fuel (s.mu + 1) (fun l => Lex.Moved s l ∧ tokInv l.tok) := by
  intro fuel
  induction fuel with
  | zero => intro s; exact Nat.zero_le _
  | succ n ih =>
    intro s
    rw [lexRead]
    refine Res.Sat.ite_intro (fun he => ?_) (fun he => ?_)
    · exact Res.Sat.ok_intro ⟨⟨Nat.le_refl _, fun h => absurd (h.symm.trans he) (by decide), fun _ => he⟩, trivial⟩
    have he : s.eof = false := Bool.of_not_eq_true he
    dsimp only
    refine Res.Sat.ite_intro (fun hc => ?_) (fun hc => ?_)
    · have hs : s.isSpace = true := hc
      refine (consumeSpaces_strict n s hs he).elim (fun s' h1 => ?_) trivial Nat.le_succ_of_le
      exact (ih s').mono (fun hd => Nat.succ_le_succ (Nat.le_trans hd h1))
        (fun l h => ⟨⟨Nat.le_trans h.1.1 (Nat.le_of_lt h1), fun _ => Nat.lt_of_le_of_lt h.1.1 h1, h.1.2.2⟩, h.2⟩)
    refine Res.Sat.ite_intro (fun _ => ((parseStr_adv n s).lt_of_adv he).elim (fun ⟨_, _⟩ h => tok_post h nofun ⟨rfl, rfl⟩) trivial
      Nat.succ_le_succ) (fun _ => ?_)
    refine Res.Sat.ite_intro (fun _ => ((parseUri_adv n s).lt_of_adv he).elim (fun ⟨_, _⟩ h => tok_post h nofun ⟨rfl, rfl⟩) trivial
      Nat.succ_le_succ) (fun _ => ?_)
    refine Res.Sat.ite_intro (fun _ => valTok (((parseRef_adv n s).lt_of_adv he).mono id
      (fun _ ⟨L, id, dis, e, hid⟩ => ⟨L, e ▸ ⟨rfl, hid⟩⟩))) (fun _ => ?_)
    refine Res.Sat.ite_intro (fun _ => valTok (((parseSymbol_adv n s).lt_of_adv he).mono id
      (fun _ ⟨L, b, e, hb⟩ => ⟨L, e ▸ ⟨rfl, hb⟩⟩))) (fun _ => ?_)
    refine Res.Sat.ite_intro (fun _ => ?_) (fun _ => ?_)
    · -- a special character: one `read`, two after `\r\n`
      have hne : (if (s.cur == 10 || s.cur == 13) = true then Tok.ch 10 else Tok.ch s.cur) ≠ .none := by
        split <;> nofun
      have hi : tokInv (if (s.cur == 10 || s.cur == 13) = true then Tok.ch 10 else Tok.ch s.cur) := by
        split <;> trivial
      split
      · next nx s1 hr =>
        have h1 := read_mu_some hr
        have h2 := Nat.lt_of_le_of_lt (advance_mu s1) h1
        exact Res.Sat.ite_intro (fun _ => tok_post h2 hne hi) (fun _ => tok_post h1 hne hi)
      · next hr =>
        have h1 := read_mu_none hr
        exact Res.Sat.ok_intro ⟨⟨h1.1, h1.2.1, fun _ => h1.2.2⟩, hi⟩
    refine Res.Sat.ite_intro (fun _ => valTok (parseNumberDateTime_sat n s he)) (fun _ => ?_)
    refine Res.Sat.ite_intro (fun hu => ?_) (fun _ => ?_)
    · refine ((parseLiteral_adv n s).lt_of_adv he).elim (fun ⟨lit, s1⟩ ⟨h1, hlit⟩ => ?_) trivial Nat.succ_le_succ
      have hup := hlit.upper hu
      dsimp only at h1 hup ⊢
      have from_s1 : ∀ {Q : Val → Prop} {r : Res (Val × Scan)}, LSq r n s1.mu s1.mu Q →
          r.Sat n s.mu (fun o => o.2.mu < s.mu ∧ Q o.1) :=
        fun h => h.mono (fun hd => Nat.le_trans hd (Nat.le_of_lt h1)) (fun _ h => ⟨Nat.lt_of_le_of_lt h.1 h1, h.2⟩)
      refine Res.Sat.ite_intro (fun _ => ?_) (fun _ => ?_)
      · refine Res.Sat.ite_intro (fun _ => valTok (from_s1 (parseCoordBody_spec n s1))) (fun hC => ?_)
        have hx : isXStrType lit = true := by
          simp only [isXStrType, Bool.and_eq_true, bne_iff_ne, ne_eq]
          exact ⟨hup, by simpa using hC⟩
        exact valTok ((from_s1 (parseXStrBody_spec n lit s1)).mono id (fun _ ⟨L, x, e⟩ => ⟨L, e ▸ ⟨rfl, hx⟩⟩))
      · split
        · next hk => exact tok_post h1 nofun (keyword_img _ _ hk)
        · exact trivial
    exact Res.Sat.ite_intro (fun _ => ((parseId_adv n s).lt_of_adv he).elim (fun ⟨_, _⟩ h => tok_post h.1 nofun h.2)
      trivial Nat.succ_le_succ) (fun _ => trivial)

theorem lexRead_spec (fuel : Nat) (s) : (lexRead fuel s).Sat fuel (s.mu + 1) (fun l => l.sc.mu ≤ s.mu) :=
  (lexRead_sat fuel s).mono id (fun _ h => h.1.1)

theorem lexRead_at_eof (fuel : Nat) (s) (he : s.eof = true) :
    lexRead (fuel + 1) s = .ok { sc := s, tok := .none } := by
  rw [lexRead]; simp only [he, if_true]

end Zinc
end Hs

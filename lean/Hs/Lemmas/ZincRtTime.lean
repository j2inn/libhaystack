/-
  C01 and C04 read direction: times `hh:mm:ss[.f+]` (the 2-digits-then-colon look-ahead rule),
  for any text of that shape that `mkTime` maps to the time (`TimeInv`); the writer's text is one.
-/
import Hs.Lemmas.ZincRtNumLex
import Hs.Lemmas.ZincWf
namespace Hs.Zinc
open Hs Hs.Scan

theorem fracLoop_rt (bs : List UInt8) (hbs : ∀ b ∈ bs, isDigitB b = true)
    (s : Scan) (rest : List UInt8) (fuel : Nat) (acc : List UInt8) (h : At s (bs ++ rest)) (hst : Stop isDigitB rest)
    (hf : bs.length < fuel) : fracLoop fuel s acc = .ok (acc ++ bs, advN bs.length s) := by
  rw [fracLoop_eq, classLoop_run hbs h hst hf, List.flatMap_singleton']

/-! The look-ahead stops after two peeks, on the `:` (`lastPeek = 58` from then on: `parseTime` does not peek).  The
eight bytes are consumed by eight `advance`s, of which the last fails at the end of the input (`pos + 7`, `cur` still
the last digit). -/

theorem ndt_time (h0 h1 m0 m1 s0 s1 : UInt8)
    (htg : TimeDigits h0 h1 m0 m1 s0 s1)
    (t : Time) (hmk : mkTime [h0, h1, 58, m0, m1, 58, s0, s1] none = some t)
    (x : UInt8) (r : List UInt8) (hx : x ≠ 46) (lp : UInt8) (pos fuel : Nat) :
    ∃ s', parseNumberDateTime fuel (Scan.at h0 (h1 :: 58 :: m0 :: m1 :: 58 :: s0 :: s1 :: x :: r) lp pos)
      = .ok (.time t, s') ∧ At s' (x :: r) ∧ s'.stash = [] := by
  refine ⟨Scan.at x r 58 (pos + 8), ?_, At_at .., rfl⟩
  unfold parseNumberDateTime
  simp only [Scan.at, digit_ne_minus htg.h0, Bool.false_eq_true, if_false]
  simp [ndtPeeks, Scan.peek, Scan.readByte, htg.h0, htg.h1, htg.m0, htg.m1, htg.s0, htg.s1, hx,
    parseTime, parseTimeRaw, takeDigits, Scan.advance, Scan.read, show isDigitB 58 = false by decide, hmk]

theorem ndt_time_eof (h0 h1 m0 m1 s0 s1 : UInt8)
    (htg : TimeDigits h0 h1 m0 m1 s0 s1)
    (t : Time) (hmk : mkTime [h0, h1, 58, m0, m1, 58, s0, s1] none = some t) (lp : UInt8) (pos fuel : Nat) :
    ∃ s', parseNumberDateTime fuel (Scan.at h0 (h1 :: 58 :: m0 :: m1 :: 58 :: s0 :: [s1]) lp pos)
      = .ok (.time t, s') ∧ At s' [] ∧ s'.stash = [] := by
  have hne : s1 ≠ 46 := by
    intro hb; subst hb; exact absurd htg.s1 (by decide)
  refine ⟨{ cur := s1, stash := [], lastPeek := 58, eof := true, inp := [], pos := pos + 7 }, ?_, by simp [At], rfl⟩
  unfold parseNumberDateTime
  simp only [Scan.at, digit_ne_minus htg.h0, Bool.false_eq_true, if_false]
  simp [ndtPeeks, Scan.peek, Scan.readByte, htg.h0, htg.h1, htg.m0, htg.m1, htg.s0, htg.s1,
    parseTime, parseTimeRaw, takeDigits, Scan.advance, Scan.read, show isDigitB 58 = false by decide, hne, hmk]

/-- with a fraction.  The position is written `pos + 1 + … + 1`, one `+ 1` for each `advance` up to the first digit of
the fraction, because that is the term `simp` arrives at when it unfolds them: `e` is used as a rewrite rule and has
to match it syntactically. -/
theorem ndt_time_frac (h0 h1 m0 m1 s0 s1 : UInt8)
    (htg : TimeDigits h0 h1 m0 m1 s0 s1)
    (f0 : UInt8) (fr : List UInt8) (hfr : ∀ b ∈ f0 :: fr, isDigitB b = true)
    (t : Time) (hmk : mkTime [h0, h1, 58, m0, m1, 58, s0, s1] (some (f0 :: fr)) = some t)
    (rest : List UInt8) (hst : Stop isDigitB rest) (lp : UInt8) (pos fuel : Nat) (hf : fr.length + 1 < fuel) :
    ∃ s', parseNumberDateTime fuel (Scan.at h0 (h1 :: 58 :: m0 :: m1 :: 58 :: s0 :: s1 :: 46 :: f0 :: (fr ++ rest)) lp pos)
      = .ok (.time t, s') ∧ At s' rest ∧ s'.stash = [] := by
  have hat : At (Scan.at f0 (fr ++ rest) 58 (pos + 1 + 1 + 1 + 1 + 1 + 1 + 1 + 1 + 1)) ((f0 :: fr) ++ rest) := At_at ..
  have e := fracLoop_rt (f0 :: fr) hfr _ rest fuel [] hat hst (by simpa using hf)
  simp only [Scan.at, List.nil_append] at e
  refine ⟨_, ?_, hat.advN, advN_stash_nil _ _ rfl⟩
  unfold parseNumberDateTime
  simp only [Scan.at, digit_ne_minus htg.h0, Bool.false_eq_true, if_false]
  simp [ndtPeeks, Scan.peek, Scan.readByte, htg.h0, htg.h1, htg.m0, htg.m1, htg.s0, htg.s1,
    parseTime, parseTimeRaw, takeDigits, Scan.advance, Scan.read, Scan.readQ, show isDigitB 58 = false by decide,
    e, hmk]

theorem lexRead_time_of_stop (t : Time) (bs : List UInt8) (hinv : TimeInv t bs) (s : Scan) (rest : List UInt8)
    (fuel : Nat) (h : At s (bs ++ rest)) (hs : s.stash = []) (hst : Stop isTimeMoreB rest)
    (hf : bs.length + 2 ≤ fuel) :
    ∃ s', lexRead fuel s = .ok { sc := s', tok := .val (.time t) } ∧ At s' rest ∧ s'.stash = [] := by
  obtain ⟨f, rfl⟩ : ∃ f, fuel = f + 1 := ⟨fuel - 1, by omega⟩
  obtain ⟨h0, h1, m0, m1, s0, s1, tl, rfl, htg, htl⟩ := hinv
  simp only [List.cons_append] at h
  have hseq := eq_at_of_At h hs
  rw [lexRead_ndt h (by simp [htg.h0])]
  rcases htl with ⟨rfl, hmk⟩ | ⟨f0, fr, rfl, hdig, hmk⟩
  · simp only [List.nil_append] at hseq
    cases rest with
    | nil =>
      obtain ⟨s', e, h', hs'⟩ := ndt_time_eof h0 h1 m0 m1 s0 s1 htg t hmk s.lastPeek s.pos f
      exact ⟨s', by rw [hseq, e], h', hs'⟩
    | cons x r =>
      obtain ⟨s', e, h', hs'⟩ := ndt_time h0 h1 m0 m1 s0 s1 htg t hmk x r
        (fun e => absurd (hst x r rfl) (by rw [e]; decide)) s.lastPeek s.pos f
      exact ⟨s', by rw [hseq, e], h', hs'⟩
  · simp only [List.cons_append] at hseq
    simp only [List.length_cons] at hf
    obtain ⟨s', e, h', hs'⟩ := ndt_time_frac h0 h1 m0 m1 s0 s1 htg f0 fr hdig t hmk rest
      (fun b r e => (Bool.or_eq_false_iff.mp (hst b r e)).1) s.lastPeek s.pos f (by omega)
    exact ⟨s', by rw [hseq, e], h', hs'⟩

theorem lexRead_time (t : Time) (hok : timeOk t = true) (s : Scan) (rest : List UInt8) (fuel : Nat)
    (h : At s (encChars t.txt ++ rest)) (hs : s.stash = []) (hd : Delim rest) (hf : t.txt.length + 2 ≤ fuel) :
    ∃ s', lexRead fuel s = .ok { sc := s', tok := .val (.time t) } ∧ At s' rest ∧ s'.stash = [] := by
  have hlen : (encChars t.txt).length = t.txt.length := by
    simp only [timeOk, Bool.and_eq_true] at hok
    rw [encChars_all_ascii hok.1, List.length_map]
  exact lexRead_time_of_stop t _ (timeInv_canon t hok) s rest fuel h hs (hd.stop (by decide)) (by omega)

end Hs.Zinc

/-
  Hs.Lemmas.TzTables — kernel-checked facts about the translated zone table and prefix list
  (`Hs.Gen.Zones`).  Every check is linear in the table; Lake re-uses the compiled proofs while the
  generated file is byte-identical.
-/
import Hs.Model.Tz
namespace Hs.Tz
open Hs Hs.Gen.Zones

/-- search-tree order between `lo` and `hi`, every node's key being the key of its id -/
def ZTree.ok : ZTree → Nat → Option Nat → Bool
  | .leaf, _, _ => true
  | .node l k id r, lo, hi =>
    k == key id && decide (lo < k) && hi.all (fun h => decide (k < h)) && ZTree.ok l lo (some k) && ZTree.ok r k hi

theorem tbl_tree_ok : ZTree.ok zoneTree 0 none = true := by decide +kernel

-- by `rfl`: the two sides are compared as terms and no character is evaluated, which deciding the equation
-- would do for every character of both; the elaborator descends a few levels per zone, hence the depth
set_option maxRecDepth 8000 in
theorem tbl_tree_ids : ZTree.ids zoneTree = zones := by rfl

theorem tbl_prefixes : prefixes.all (fun p => !p.contains '/') = true := by decide +kernel

/-- the city name of `z` resolves to a zone with that city name.  No look-up is needed for `Region/City`
with the region among the prefixes and no further `/`: `find_timezone` stops at the first region under
which the city is a zone.  Any other id with a `/` is looked up. -/
def cityOk (z : List Char) : Bool :=
  match afterSlash z with
  | none => true
  | some c =>
    (!c.contains '/' && prefixes.any (fun p => p ++ '/' :: c == z)) ||
    match findTimezone c with
    | some w => shortName w == c
    | none => false

theorem tbl_city_ok : zones.all cityOk = true := by decide +kernel

theorem tbl_short_lexable : zones.all (fun z => lexable (shortName z)) = true := by decide +kernel

def etcHours : List Int := [-12, -11, -10, -9, -8, -7, -6, -5, -4, -3, -2, -1, 0, 1, 2, 3, 4, 5, 6, 7, 8, 9, 10, 11, 12, 13, 14]

def natText (n : Nat) : List Char := if n < 10 then [digit n] else [digit (n / 10 % 10), digit (n % 10)]

/-- the fixed zone for a whole-hour offset of `n` hours EAST of Greenwich (POSIX sign: `Etc/GMT-n`) -/
def etcName (n : Int) : List Char :=
  if n = 0 then utcName else etcPrefix ++ (if 0 < n then '-' else '+') :: natText n.natAbs

theorem etcName_find {n : Int} (h : n ∈ etcHours) : etcHours.find? (fun m => etcName m == etcName n) = some n := by
  have t : etcHours.all (fun n => etcHours.find? (fun m => etcName m == etcName n) == some n) = true := by
    decide +kernel
  simpa using List.all_eq_true.1 t n h

theorem mem_etcHours {n : Int} (h1 : -12 ≤ n) (h2 : n ≤ 14) : n ∈ etcHours := by
  have t : ∀ k : Fin 27, ((k : Nat) : Int) - 12 ∈ etcHours := by decide
  have := t ⟨(n + 12).toNat, by omega⟩
  rwa [show (((n + 12).toNat : Nat) : Int) - 12 = n by omega] at this

theorem tbl_rfc_hours : etcHours.all (fun n => decide (rfcZone (n * 3600) = .ok (etcName n))) = true := by
  decide +kernel

theorem tbl_utc : utcName ∈ zones ∧ shortName utcName = utcName := by decide +kernel

/-- `Etc/UTC` is a second zone with the city name `UTC` -/
theorem tbl_utc_alias : ∃ z ∈ zones, shortName z = utcName ∧ z ≠ utcName :=
  ⟨['E', 't', 'c', '/', 'U', 'T', 'C'], by decide +kernel⟩

end Hs.Tz

/-
  Hs.Lemmas.UnitsTable — the facts about the generated unit table that the kernel decides
  (`Hs.Gen.Units`, regenerated on every run; Lake re-uses this module while the generated file is
  byte-identical).  Every check is a single pass over the table or an `n log n` merge sort of `Nat` keys.
-/
import Hs.Lemmas.Units
namespace Hs.Units
open Hs Hs.Gen.Units

/-- One statement, so that the kernel sorts the entries once. -/
theorem table_sorted :
    msort (keyed entries) = msort (keyed flatIds) ∧ strictAsc (msort (keyed entries)) = true := by decide +kernel

theorem tableOK : TableOK entries flatIds := ⟨table_sorted.1, table_sorted.2⟩

/-- what the Zinc number reader needs of a unit's symbol (its last id): non-empty, made of unit bytes only,
not starting with a byte of the decimal scan (`_` is both a unit byte and a decimal byte), not an exponent
prefix -/
def symbolOk (u : Row) : Bool :=
  let s := symbolBytes u
  !s.isEmpty && s.all isUnitChar &&
    (match s.head? with
     | some b => !isDecChar b
     | none => true) && !expPrefix s

theorem table_symbols : units.all symbolOk = true := by decide +kernel

/-- U+FFFD is what lossy UTF-8 decoding produces for invalid bytes -/
theorem table_no_replacement_char : entries.all (fun e => !e.1.contains (Char.ofNat 0xFFFD)) = true := by
  decide +kernel

end Hs.Units

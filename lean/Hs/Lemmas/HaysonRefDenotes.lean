/-
  Hs.Lemmas.HaysonRefDenotes — the reference reader on the grid object, column objects and rows (members in any
  order), and the recursion on the value: the reference reader reads every Hayson document
  of a value (`Denotes v j`) as that value (`reader_denotes`; empty meta as absent meta: `readerImage`), with the fuel
  `readDoc` gives it.
-/
import Hs.Lemmas.HaysonRefObj
namespace Hs.Spec.Hayson
open Hs Hs.Hayson

/-! ### the grid object -/

theorem rdr_gridMeta {ms mm : Members} {cjs rjs : Jsons} {t' : Tags} {ver : List Char}
    {cs : List (List Char × OTags)} {rs : List Tags}
    (hp : ms.toList.Perm [kindMem "grid", (s "meta", .obj mm), (s "cols", .arr cjs), (s "rows", .arr rjs)])
    (hver : (strOf (lookup mm.toList "ver")).getD (s "3.0") = ver)
    (htr : TagsRead t' (mm.toList.filter (fun p => p.1 != s "ver" && p.1 != s "_kind")))
    (hs : strictSorted t'.keys = true)
    (hc : ∀ f, 2 * sizes cjs + 1 ≤ f → readCols f cjs.toList = some cs)
    (hr : ∀ f, 2 * sizes rjs + 1 ≤ f → readRows f rjs.toList = some rs)
    (n : Nat) (hn : 2 * size (.obj ms) ≤ n) :
    read n (.obj ms) = some (.grid (if t'.isEmpty then .none else .some t') (Cols.ofList cs) (Rows.ofList rs) ver) := by
  obtain ⟨kvs, h1, h2, h3⟩ := htr.readTags hs (n - 1) (fuel_obj hp (k := s "meta") (by simp) _ hn)
  obtain ⟨e, hl⟩ := read_kindObj hp names_grid4 hn
  rw [e, readKind_grid]
  simp only [hl, lookup_cons, lookup_nil, kindMem_fst, beq_iff_eq, s_inj, String.reduceEq,
    ↓reduceIte, Option.none_or, Option.or_none, readGrid, h1,
    hc _ (fuel_arr hp (k := s "cols") (by simp) hn), hr _ (fuel_arr hp (k := s "rows") (by simp) hn), hver,
    Option.map_some, h2, h3]

theorem rdr_gridNoMeta {ms : Members} {cjs rjs : Jsons} {cs : List (List Char × OTags)} {rs : List Tags}
    (hp : ms.toList.Perm [kindMem "grid", (s "cols", .arr cjs), (s "rows", .arr rjs)])
    (hc : ∀ f, 2 * sizes cjs + 1 ≤ f → readCols f cjs.toList = some cs)
    (hr : ∀ f, 2 * sizes rjs + 1 ≤ f → readRows f rjs.toList = some rs)
    (n : Nat) (hn : 2 * size (.obj ms) ≤ n) :
    read n (.obj ms) = some (.grid .none (Cols.ofList cs) (Rows.ofList rs) (s "3.0")) := by
  obtain ⟨e, hl⟩ := read_kindObj hp names_grid3 hn
  rw [e, readKind_grid]
  simp only [hl, lookup_cons, lookup_nil, kindMem_fst, beq_iff_eq, s_inj, String.reduceEq,
    ↓reduceIte, Option.none_or, Option.or_none, readGrid,
    hc _ (fuel_arr hp (k := s "cols") (by simp) hn), hr _ (fuel_arr hp (k := s "rows") (by simp) hn)]
  rfl

/-! ### arrays, column objects and rows: one more element, given the rest -/

theorem rdr_list {vs : Vals} {js : Jsons} (ih : ∀ n, 2 * sizes js + 1 ≤ n → readAll n js.toList = some vs.toList)
    (n : Nat) (hn : 2 * size (.arr js) ≤ n) : read n (.arr js) = some (.list vs) := by
  obtain ⟨n', rfl⟩ := succ_of_size_le hn
  rw [read_arr, ih n' (by simp only [size] at hn; omega), Option.map_some, Vals.ofList_toList]

theorem rdr_cons {j : Json} {js : Jsons} {v : Val} {vs : List Val}
    (hv : ∀ n, 2 * size j ≤ n → read n j = some v)
    (ih : ∀ n, 2 * sizes js + 1 ≤ n → readAll n js.toList = some vs)
    (n : Nat) (hn : 2 * sizes (.cons j js) + 1 ≤ n) : readAll n (Jsons.cons j js).toList = some (v :: vs) := by
  obtain ⟨n', rfl⟩ := succ_of_le hn
  rw [Jsons.toList_cons, readAll.eq_def]
  simp only [hv n' (fuel_cons hn).1, ih n' (fuel_cons hn).2]

theorem rdr_colNoMeta {nm : List Char} {cm : Members} {js : Jsons} {rest : List (List Char × OTags)}
    (hp : cm.toList.Perm [(s "name", .str nm)])
    (ih : ∀ n, 2 * sizes js + 1 ≤ n → readCols n js.toList = some rest)
    (n : Nat) (hn : 2 * sizes (.cons (.obj cm) js) + 1 ≤ n) :
    readCols n (Jsons.cons (.obj cm) js).toList = some ((nm, .none) :: rest) := by
  obtain ⟨n', rfl⟩ := succ_of_le hn
  rw [Jsons.toList_cons, readCols.eq_def]
  simp only [lookup_of_perm hp (by simp), lookup_cons, lookup_nil, beq_iff_eq, s_inj, String.reduceEq,
    ↓reduceIte, Option.none_or, ih n' (fuel_cons hn).2, strOf]

theorem rdr_colMeta {nm : List Char} {t' : Tags} {mm cm : Members} {js : Jsons}
    {rest : List (List Char × OTags)} (hdr : DictRead t' mm)
    (hp : cm.toList.Perm [(s "name", .str nm), (s "meta", .obj mm)])
    (ih : ∀ n, 2 * sizes js + 1 ≤ n → readCols n js.toList = some rest)
    (n : Nat) (hn : 2 * sizes (.cons (.obj cm) js) + 1 ≤ n) :
    readCols n (Jsons.cons (.obj cm) js).toList = some ((nm, if t'.isEmpty then .none else .some t') :: rest) := by
  obtain ⟨n', rfl⟩ := succ_of_le hn
  obtain ⟨kvs, h1, h2, h3⟩ := hdr.tagsRead.readTags hdr.tagKeys.1 n'
    (Nat.le_trans (fuel_obj hp (k := s "meta") (by simp) _ (fuel_cons hn).1) (Nat.sub_le _ _))
  rw [Jsons.toList_cons, readCols.eq_def]
  simp only [lookup_of_perm hp (by simp [s_inj]), lookup_cons, lookup_nil, beq_iff_eq, s_inj, String.reduceEq,
    ↓reduceIte, Option.none_or, Option.or_none, ih n' (fuel_cons hn).2, strOf, h1,
    Option.map_some, h2, h3]

theorem rdr_row {t' : Tags} {rm : Members} {js : Jsons} {rest : List Tags} (hdr : DictRead t' rm)
    (ih : ∀ n, 2 * sizes js + 1 ≤ n → readRows n js.toList = some rest)
    (n : Nat) (hn : 2 * sizes (.cons (.obj rm) js) + 1 ≤ n) :
    readRows n (Jsons.cons (.obj rm) js).toList = some (t' :: rest) := by
  obtain ⟨n', rfl⟩ := succ_of_le hn
  obtain ⟨kvs, h1, h2, _⟩ := hdr.tagsRead.readTags hdr.tagKeys.1 n'
    (Nat.le_trans (fuel_members _ (fuel_cons hn).1) (Nat.sub_le _ _))
  rw [Jsons.toList_cons, readRows.eq_def]
  simp only [h1, ih n' (fuel_cons hn).2, h2]

theorem rdr_member {k : List Char} {j : Json} {v : Val} {tm : Mems} {t' : Tags}
    (hv : ∀ n, 2 * size j ≤ n → read n j = some v)
    (ih : tm.map rd = t'.toList ∧ ∀ p ∈ tm, Readable p) :
    ((k, j) :: tm).map rd = (Tags.cons k v t').toList ∧ ∀ p ∈ (k, j) :: tm, Readable p := by
  have e : rd (k, j) = (k, v) := by simp [rd, hv (2 * size j) (Nat.le_refl _)]
  refine ⟨by rw [List.map_cons, e, ih.1, Tags.toList], fun p hp => ?_⟩
  rcases List.mem_cons.mp hp with rfl | hp
  · intro f hf
    rw [e]
    exact hv f hf
  · exact ih.2 p hp

/-! ### `readerImage` -/

theorem readerImageTags_keys : ∀ t : Tags, (readerImageTags t).keys = t.keys
  | .nil => rfl
  | .cons k v t => by simp [readerImageTags, Tags.keys, readerImageTags_keys t]

theorem tagKeys_readerImage {t : Tags} (hk : TagKeys t) : TagKeys (readerImageTags t) := by
  unfold TagKeys at *
  rw [readerImageTags_keys]
  exact hk

theorem readerImage_gridSome (t : Tags) (c : Cols) (r : Rows) (ver : List Char) :
    readerImage (.grid (.some t) c r ver) =
      .grid (if (readerImageTags t).isEmpty then .none else .some (readerImageTags t))
        (readerImageCols c) (readerImageRows r) ver := by
  cases t <;> simp [readerImage, readerImageTags, Tags.isEmpty]

theorem readerImageCols_some (n : List Char) (t : Tags) (c : Cols) :
    readerImageCols (.cons n (.some t) c) =
      .cons n (if (readerImageTags t).isEmpty then .none else .some (readerImageTags t)) (readerImageCols c) := by
  cases t <;> simp [readerImageCols, readerImageTags, Tags.isEmpty]

/-- the fuel of a loop over an array splits exactly (an equation, whatever the name says) -/
theorem sizes_cons_le (j : Json) (js : Jsons) : size j + sizes js = sizes (.cons j js) := by
  simp [sizes]

/-! ### the induction -/

theorem DictRead.of_mems {t : Tags} {tm km : Mems} {ms : Members}
    (h : tm.map rd = (readerImageTags t).toList ∧ ∀ p ∈ tm, Readable p) (hk : TagKeys t) (hkm : OptKindDict km)
    (hp : ms.toList.Perm (km ++ tm)) : DictRead (readerImageTags t) ms :=
  ⟨tm, km, hkm, hp, h.1, h.2, tagKeys_readerImage hk⟩

/- The recursion is structural on the VALUE (first argument), not on the derivation.  A dict object has the tags of
its dict, so the step from `DenotesD t ms` to `DenotesM t tm` is taken inside the cases (pattern `.mk …`) and
`reader_dictD` follows the block. -/
mutual
theorem reader_val : {w : Val} → {doc : Json} → Denotes w doc →
    ∀ n, 2 * size doc ≤ n → read n doc = some (readerImage w)
  | _, _, .null, _, hn => by obtain ⟨_, rfl⟩ := succ_of_size_le hn; rfl
  | _, _, .bool _, _, hn => by obtain ⟨_, rfl⟩ := succ_of_size_le hn; rfl
  | _, _, .str _, _, hn => by obtain ⟨_, rfl⟩ := succ_of_size_le hn; rfl
  | _, _, .numTok h, n, hn => rdr_numTok h n hn
  | _, _, .marker, _, hn => rdr_single readKind_marker (.refl _) hn
  | _, _, .remove, _, hn => rdr_single readKind_remove (.refl _) hn
  | _, _, .na, _, hn => rdr_single readKind_na (.refl _) hn
  | _, _, .number hv hu hp, _, hn => rdr_number hv hu hp hn
  | _, _, .ref hd hp, _, hn => rdr_valOpt readKind_ref (by simp) (by simp) hd hp hn
  | _, _, .symbol hp, _, hn => rdr_val readKind_symbol hp hn
  | _, _, .uri hp, _, hn => rdr_val readKind_uri hp hn
  | _, _, .date hp, _, hn => rdr_val readKind_date hp hn
  | _, _, .time hp, _, hn => rdr_val readKind_time hp hn
  | _, _, .dateTime hz hp, _, hn => rdr_valOpt readKind_dateTime (by simp) (by simp) hz hp hn
  | _, _, .coord ha hb hp, _, hn => rdr_coord ha hb hp hn
  | _, _, .xstr hp, _, hn => rdr_xstr hp hn
  | _, _, .list hl, n, hn => rdr_list (reader_list hl) n hn
  | _, _, .dict (.mk hm hk hkm hp), n, hn => rdr_dictObj (.of_mems (reader_mems hm) hk hkm hp) n hn
  | _, _, .gridNoMeta hc hr hp, n, hn => by
    rw [rdr_gridNoMeta hp (reader_cols hc) (reader_rows hr) n hn, Cols.ofList_toList, Rows.ofList_toList]
    rfl
  | _, _, .gridMeta hm hk hnv hkm hvm hpm hc hr hp, n, hn => by
    obtain ⟨hv, hrd⟩ := reader_mems hm
    obtain ⟨hver, htr⟩ := rdr_meta hv hrd (tagKeys_readerImage hk)
      (by rw [readerImageTags_keys]; exact hnv) hkm hvm hpm
    rw [rdr_gridMeta hp hver htr (tagKeys_readerImage hk).1 (reader_cols hc) (reader_rows hr) n hn,
      readerImage_gridSome, Cols.ofList_toList, Rows.ofList_toList]
termination_by structural w => w
theorem reader_list : {vs : Vals} → {js : Jsons} → DenotesL vs js →
    ∀ n, 2 * sizes js + 1 ≤ n → readAll n js.toList = some (readerImages vs).toList
  | _, _, .nil, n, hn => by
    obtain ⟨n', rfl⟩ := succ_of_le hn
    rfl
  | _, _, .cons hv hl, n, hn => rdr_cons (reader_val hv) (reader_list hl) n hn
termination_by structural vs => vs
theorem reader_mems : {t : Tags} → {tm : Mems} → DenotesM t tm →
    tm.map rd = (readerImageTags t).toList ∧ ∀ p ∈ tm, Readable p
  | _, _, .nil => ⟨rfl, nofun⟩
  | _, _, .cons hv hm => rdr_member (reader_val hv) (reader_mems hm)
termination_by structural t => t
theorem reader_cols : {c : Cols} → {js : Jsons} → DenotesCols c js →
    ∀ n, 2 * sizes js + 1 ≤ n → readCols n js.toList = some (readerImageCols c).toList
  | _, _, .nil, n, hn => by
    obtain ⟨n', rfl⟩ := succ_of_le hn
    rfl
  | _, _, .consNoMeta hp hc, n, hn => rdr_colNoMeta hp (reader_cols hc) n hn
  | _, _, .consMeta (.mk hm hk hkm hp') hp hc, n, hn => by
    rw [readerImageCols_some]
    exact rdr_colMeta (.of_mems (reader_mems hm) hk hkm hp') hp (reader_cols hc) n hn
termination_by structural c => c
theorem reader_rows : {r : Rows} → {js : Jsons} → DenotesRows r js →
    ∀ n, 2 * sizes js + 1 ≤ n → readRows n js.toList = some (readerImageRows r).toList
  | _, _, .nil, n, hn => by
    obtain ⟨n', rfl⟩ := succ_of_le hn
    rfl
  | _, _, .cons (.mk hm hk hkm hp) hr, n, hn =>
    rdr_row (.of_mems (reader_mems hm) hk hkm hp) (reader_rows hr) n hn
termination_by structural r => r
end

theorem reader_dictD : {t : Tags} → {ms : Members} → DenotesD t ms → DictRead (readerImageTags t) ms
  | _, _, .mk hm hk hkm hp => .of_mems (reader_mems hm) hk hkm hp

theorem reader_denotes {w : Val} {doc : Json} (h : Denotes w doc) :
    readDoc doc = some (readerImage w) :=
  reader_val h _ (by omega)

end Hs.Spec.Hayson

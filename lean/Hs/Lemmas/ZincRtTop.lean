/-
  C01 ladder: what the induction asks of a value (token statements at the scalar leaves, shapes of dicts, column
  lines, rows and grids): `GoodVG`, and C01's `GoodV`, which asks in addition for distinct column names.  The mutual
  induction `rdVG … rdRG` over all six value types gives `RdVal`, and from there `fromBytes (encode v)`; the decidable
  `wfV` (`ZincWf`) implies `GoodV`, so `rt_of_wf`.  A member of the induction is named after what it gives (`rdTG`:
  `RdTags`, `rdTCG`: `RdTagsC`, `rdOGG`: `MetaOkG`, `rdOCG`: `MetaOkC`, `rdCG`: `ColsOk`, `rdRG`: `RowsOk`), with a last `G`
  for `GoodVG`.
-/
import Hs.Lemmas.ZincRtGrid
import Hs.Lemmas.ZincSpellLeaf
import Hs.Lemmas.ZincRtTok
namespace Hs.Zinc
open Hs Hs.Scan

/-- `he`: the top-level text of `v` is its nested text (everything except a grid) -/
theorem fromBytes_of_RdVal {v : Val} (h : RdVal v) (he : enc v false = enc v true) (hn : nestV v < 64) :
    fromBytes (encode v) = .ok (lexImg v) := by
  unfold encode fromBytes fuelFor
  rw [he]
  have hat : At (Scan.make (enc v true)) (enc v true ++ []) := by simpa using At_make_all (enc v true)
  have hs : (Scan.make (enc v true)).stash = [] := by
    cases hx : enc v true <;> simp [Scan.make]
  have hle : 4 * (enc v true).length + 8 ≤ 8 * (enc v true).length + 64 := by omega
  obtain ⟨p, p', e1, _, _, e2, _⟩ := h 0 (8 * (enc v true).length + 64) (8 * (enc v true).length + 64)
    (Scan.make (enc v true)) [] hat hs (Or.inl rfl) hle hle (by omega)
  simp [e1, e2]

/-! ### well-behaved values: every scalar leaf satisfies its token statement -/

mutual
def GoodV : Val → Prop
  | .list xs => GoodVs xs
  | .dict d => keysIdent d = true ∧ keysSorted d.keys = true ∧ GoodT d
  | .grid md cols rows ver =>
    ver = ['3', '.', '0'] ∧ metaShape md = true ∧ colsShape cols = true ∧
      rowsShape cols.names (cols.length == 1) rows = true ∧ GoodO md ∧ GoodC cols ∧ GoodR rows
  | v => TokRt v ∧ FirstOk (enc v true)
def GoodVs : Vals → Prop
  | .nil => True
  | .cons v vs => GoodV v ∧ GoodVs vs
def GoodT : Tags → Prop
  | .nil => True
  | .cons _ v t => GoodV v ∧ GoodT t
def GoodO : OTags → Prop
  | .none => True
  | .some t => GoodT t
def GoodC : Cols → Prop
  | .nil => True
  | .cons _ md c => GoodO md ∧ GoodC c
def GoodR : Rows → Prop
  | .nil => True
  | .cons r rs => GoodT r ∧ GoodR rs
end

mutual
def GoodVG : Val → Prop
  | .list xs => GoodVsG xs
  | .dict d => keysIdent d = true ∧ keysSorted d.keys = true ∧ GoodTG d
  | .grid md cols rows ver =>
    ver = ['3', '.', '0'] ∧ metaShape md = true ∧ colsShapeG cols = true ∧
      rowsShape cols.names (cols.length == 1) rows = true ∧ GoodOG md ∧ GoodCG cols ∧ GoodRG rows
  | v => TokRt v ∧ FirstOk (enc v true)
def GoodVsG : Vals → Prop
  | .nil => True
  | .cons v vs => GoodVG v ∧ GoodVsG vs
def GoodTG : Tags → Prop
  | .nil => True
  | .cons _ v t => GoodVG v ∧ GoodTG t
def GoodOG : OTags → Prop
  | .none => True
  | .some t => GoodTG t
def GoodCG : Cols → Prop
  | .nil => True
  | .cons _ md c => GoodOG md ∧ GoodCG c
def GoodRG : Rows → Prop
  | .nil => True
  | .cons r rs => GoodTG r ∧ GoodRG rs
end

theorem firstOk_goodG : ∀ v : Val, GoodVG v → FirstOk (enc v true) := by
  intro v h
  cases v with
  | list xs => rw [enc_list]; exact (firstW_cons _ _ (by decide)).ok
  | dict d => rw [enc_dict]; exact (firstW_cons _ _ (by decide)).ok
  | grid md cols rows ver =>
    simp only [GoodVG] at h
    cases cols with
    | nil => simp [colsShapeG] at h
    | cons n cm c =>
      have := enc_grid_nested md n cm c rows ver []
      simp only [List.append_nil] at this
      rw [this]; exact (firstW_cons _ _ (by decide)).ok
  | _ => simp only [GoodVG] at h; exact h.2

mutual
theorem rdVG : ∀ v : Val, GoodVG v → RdVal v := by
  intro v h
  cases v with
  | list xs => exact RdVal_list (rdVsG xs (by simpa [GoodVG] using h))
  | dict d =>
    simp only [GoodVG] at h
    exact RdVal_dict h.1 h.2.1 (rdTG 44 125 st_dict d h.1 h.2.2)
  | grid md cols rows ver =>
    simp only [GoodVG] at h
    obtain ⟨hver, hms, hcs, hrs, hgo, hgc, hgr⟩ := h
    cases cols with
    | nil => simp [colsShapeG] at hcs
    | cons n cm c =>
      simp only [colsShapeG, Bool.and_eq_true] at hcs
      exact RdVal_grid md n cm c rows ver
        ⟨hver, rdOGG md hgo hms, rdCG (.cons n cm c) hgc hcs.2,
         rdRG (Cols.names (.cons n cm c)) (Cols.length (.cons n cm c) == 1) rows hgr hrs⟩
  | _ => simp only [GoodVG] at h; exact RdD_of_tok _ h.1.2
theorem rdVsG : ∀ xs : Vals, GoodVsG xs → RdVals xs
  | .nil, _ => RdVals_nil
  | .cons v vs, h => by
    simp only [GoodVsG] at h
    exact RdVals_cons (rdVG v h.1) (rdVsG vs h.2)
theorem rdTG (sep term : UInt8) (st : SepTerm sep term) : ∀ t : Tags, keysIdent t = true → GoodTG t → RdTags sep term t
  | .nil, _, _ => RdTags_nil sep term
  | .cons k v t, hk, h => by
    simp only [GoodTG] at h
    exact RdTags_cons st (keysIdent_tail hk) (fun _ => rdVG v h.1) (rdTG sep term st t (keysIdent_tail hk) h.2)
theorem rdTCG (term : UInt8) (st : TermC term) : ∀ t : Tags, keysIdent t = true → GoodTG t → RdTagsC term t
  | .nil, _, _ => RdTagsC_nil term
  | .cons k v t, hk, h => by
    simp only [GoodTG] at h
    exact RdTagsC_cons st (keysIdent_tail hk) (fun _ => rdVG v h.1) (rdTCG term st t (keysIdent_tail hk) h.2)
theorem rdCellG : ∀ t : Tags, GoodTG t → ∀ (n : List Char) (v : Val), t.get? n = some v → RdVal v ∧ GoodVG v
  | .nil, _, n, v, hg => by simp [Tags.get?] at hg
  | .cons k w t, h, n, v, hg => by
    simp only [GoodTG] at h
    by_cases hk : k = n
    · simp only [Tags.get?, hk, if_true, Option.some.injEq] at hg
      subst hg; exact ⟨rdVG w h.1, h.1⟩
    · simp only [Tags.get?, hk, if_false] at hg
      exact rdCellG t h.2 n v hg
theorem rdOGG : ∀ md : OTags, GoodOG md → metaShape md = true → MetaOkG md
  | .none, _, _ => trivial
  | .some t, h, hs => by
    obtain ⟨hne, hk, hsrt⟩ := metaShape_some hs
    simp only [GoodOG] at h
    exact ⟨hne, hk, hsrt, rdTG 32 10 st_meta t hk h⟩
theorem rdOCG : ∀ md : OTags, GoodOG md → metaShape md = true → MetaOkC md
  | .none, _, _ => trivial
  | .some t, h, hs => by
    obtain ⟨hne, hk, hsrt⟩ := metaShape_some hs
    simp only [GoodOG] at h
    exact ⟨hne, hk, hsrt, rdTCG 44 (Or.inl rfl) t hk h, rdTCG 10 (Or.inr rfl) t hk h⟩
theorem rdCG : ∀ c : Cols, GoodCG c → colsShapeAux c = true → ColsOk c
  | .nil, _, _ => trivial
  | .cons n md c, h, hs => by
    simp only [GoodCG] at h
    obtain ⟨h1, h2, h3⟩ := colsShapeAux_tail hs
    exact ⟨h1, rdOCG md h.1 h2, rdCG c h.2 h3⟩
theorem rdRG (names : List (List Char)) (single : Bool) : ∀ rows : Rows, GoodRG rows → rowsShape names single rows = true →
    RowsOk names single rows
  | .nil, _, _ => trivial
  | .cons r rs, h, hs => by
    simp only [GoodRG] at h
    simp only [rowsShape, Bool.and_eq_true] at hs
    have ⟨h1, h2, h3⟩ := rowShape_parts hs.1
    exact ⟨⟨fun n hn => ⟨fun v hv => (rdCellG r h.1 n v hv).1, fun hsingle => h3 hsingle n hn⟩,
      fun n _ v hv => firstOk_goodG v (rdCellG r h.1 n v hv).2, h1, h2⟩, rdRG names single rs h.2 hs.2⟩
end

theorem gridOkG_of_good {md : OTags} {cols : Cols} {rows : Rows} {ver : List Char}
    (h : GoodVG (.grid md cols rows ver)) : ∃ n cm c, cols = .cons n cm c ∧ GridOkG md (.cons n cm c) rows ver := by
  simp only [GoodVG] at h
  obtain ⟨hver, hms, hcs, hrs, hgo, hgc, hgr⟩ := h
  cases cols with
  | nil => simp [colsShapeG] at hcs
  | cons n cm c =>
    simp only [colsShapeG, Bool.and_eq_true] at hcs
    exact ⟨n, cm, c, rfl, hver, rdOGG md hgo hms, rdCG (.cons n cm c) hgc hcs.2,
      rdRG (Cols.names (.cons n cm c)) (Cols.length (.cons n cm c) == 1) rows hgr hrs⟩

theorem fromBytes_of_GoodVG : ∀ (v : Val), GoodVG v → nestV v < 64 → fromBytes (encode v) = .ok (lexImg v) := by
  intro v h hn
  cases v with
  | grid md cols rows ver =>
    obtain ⟨n, cm, c, rfl, hok⟩ := gridOkG_of_good h
    exact fromBytes_grid md n cm c rows ver hok hn
  | _ => exact fromBytes_of_RdVal (rdVG _ h) (by simp [enc]) hn

/-! ### C01's `GoodV`: distinct column names in addition -/

mutual
theorem GoodV.toG : ∀ v : Val, GoodV v → GoodVG v
  | .list xs, h => GoodVs.toG xs h
  | .dict d, h => ⟨h.1, h.2.1, GoodT.toG d h.2.2⟩
  | .grid md cols rows _, h =>
    have ⟨hver, hms, hcs, hrs, hgo, hgc, hgr⟩ := h
    ⟨hver, hms, colsShape.toG hcs, hrs, GoodO.toG md hgo, GoodC.toG cols hgc, GoodR.toG rows hgr⟩
  | .null, h | .remove, h | .marker, h | .bool _, h | .na, h | .num _, h | .str _, h | .uri _, h | .ref _ _, h
  | .sym _, h | .date _, h | .time _, h | .dateTime _, h | .coord _ _, h | .xstr _ _, h => h
termination_by structural v => v
theorem GoodVs.toG : ∀ xs : Vals, GoodVs xs → GoodVsG xs
  | .nil, _ => trivial
  | .cons v vs, h => ⟨GoodV.toG v h.1, GoodVs.toG vs h.2⟩
termination_by structural xs => xs
theorem GoodT.toG : ∀ t : Tags, GoodT t → GoodTG t
  | .nil, _ => trivial
  | .cons _ v t, h => ⟨GoodV.toG v h.1, GoodT.toG t h.2⟩
termination_by structural t => t
theorem GoodO.toG : ∀ o : OTags, GoodO o → GoodOG o
  | .none, _ => trivial
  | .some t, h => GoodT.toG t h
termination_by structural o => o
theorem GoodC.toG : ∀ c : Cols, GoodC c → GoodCG c
  | .nil, _ => trivial
  | .cons _ md c, h => ⟨GoodO.toG md h.1, GoodC.toG c h.2⟩
termination_by structural c => c
theorem GoodR.toG : ∀ r : Rows, GoodR r → GoodRG r
  | .nil, _ => trivial
  | .cons r rs, h => ⟨GoodT.toG r h.1, GoodR.toG rs h.2⟩
termination_by structural r => r
end

theorem firstOk_good (v : Val) (h : GoodV v) : FirstOk (enc v true) := firstOk_goodG v (GoodV.toG v h)
theorem rdV (v : Val) (h : GoodV v) : RdVal v := rdVG v (GoodV.toG v h)
theorem rdTC (term : UInt8) (st : TermC term) : ∀ t : Tags, keysIdent t = true → GoodT t → RdTagsC term t :=
  fun t hk h => rdTCG term st t hk (GoodT.toG t h)
theorem rdOC : ∀ md : OTags, GoodO md → metaShape md = true → MetaOkC md :=
  fun md h hs => rdOCG md (GoodO.toG md h) hs

theorem rdCell : ∀ t : Tags, GoodT t → ∀ (n : List Char) (v : Val), t.get? n = some v → RdVal v ∧ GoodV v :=
  fun t h n v hg =>
    have hv := get?_all (P := GoodV) (Q := GoodT) (fun _ _ _ h => h) t h n v hg
    ⟨rdV v hv, hv⟩

/-! ### numbers -/

/-- NaN, INF and -INF are sentences of the grammar; a finite number is read through `tok_num_finite`, whatever its
numeral -/
theorem good_num (n : Num) (h : numOk n = true) : TokRt (.num n) ∧ FirstOk (enc (.num n) true) := by
  rcases numOk_cases h with hnf | hfin
  · exact leaf_good (.num n) rfl (numOkS_of_numOk h) (Spell.Spells.num n _ (numSp_nonfinite n hnf))
  · refine ⟨tok_num_finite n hfin, ?_⟩
    obtain ⟨_, _, henc, _, hnb, _⟩ := finiteNumOk_elim hfin
    obtain ⟨b, r, hx, hb⟩ := (decShape_of_numBytesOk hnb).first'
    rw [enc, henc, hx]
    exact (firstW_of_num _ hb).ok

/-! ### the other scalars -/

theorem good_leaf (v : Val) (hsc : Scalar v = true) (hwf : wfS v = true) (hn : ∀ n, v ≠ .num n)
    (hc : ∀ a b, v ≠ .coord a b) : TokRt v ∧ FirstOk (enc v true) :=
  leaf_good v hsc hwf (spells_leaf v hsc hwf hn hc)

/-! ### the decidable predicate -/

mutual
theorem good_of_wf : ∀ v : Val, wfV v = true → GoodV v
  | .null, h | .remove, h | .marker, h | .bool _, h | .na, h | .str _, h | .uri _, h | .ref _ _, h | .sym _, h
  | .date _, h | .time _, h | .dateTime _, h | .xstr _ _, h => good_leaf _ rfl h nofun nofun
  | .num n, h => good_num n h
  | .coord a b, h =>
    ⟨tok_coord a b (and_true_left h) (and_true_right h), by
      simp only [enc, List.cons_append, List.nil_append]; exact (firstW_cons _ _ (by decide)).ok⟩
  | .list xs, h => by
    simp only [GoodV]; exact goods_of_wf xs (by simpa [wfV] using h)
  | .dict d, h => by
    simp only [wfV, Bool.and_eq_true] at h
    simp only [GoodV]; exact ⟨h.1.1, h.1.2, goodt_of_wf d h.2⟩
  | .grid md cols rows _, h =>
    have ⟨a, b, c, d, e, f, g⟩ := wfV_grid_parts h
    ⟨a, b, c, d, goodo_of_wf md e, goodc_of_wf cols f, goodr_of_wf rows g⟩
theorem goods_of_wf : ∀ xs : Vals, wfVs xs = true → GoodVs xs
  | .nil, _ => by simp [GoodVs]
  | .cons v vs, h => by
    simp only [wfVs, Bool.and_eq_true] at h
    simp only [GoodVs]; exact ⟨good_of_wf v h.1, goods_of_wf vs h.2⟩
theorem goodt_of_wf : ∀ t : Tags, wfT t = true → GoodT t
  | .nil, _ => by simp [GoodT]
  | .cons _ v t, h => by
    simp only [wfT, Bool.and_eq_true] at h
    simp only [GoodT]; exact ⟨good_of_wf v h.1, goodt_of_wf t h.2⟩
theorem goodo_of_wf : ∀ o : OTags, wfO o = true → GoodO o
  | .none, _ => by simp [GoodO]
  | .some t, h => by
    simp only [wfO] at h
    simp only [GoodO]; exact goodt_of_wf t h
theorem goodc_of_wf : ∀ c : Cols, wfC c = true → GoodC c
  | .nil, _ => by simp [GoodC]
  | .cons _ md c, h => by
    simp only [wfC, Bool.and_eq_true] at h
    simp only [GoodC]; exact ⟨goodo_of_wf md h.1, goodc_of_wf c h.2⟩
theorem goodr_of_wf : ∀ r : Rows, wfR r = true → GoodR r
  | .nil, _ => by simp [GoodR]
  | .cons r rs, h => by
    simp only [wfR, Bool.and_eq_true] at h
    simp only [GoodR]; exact ⟨goodt_of_wf r h.1, goodr_of_wf rs h.2⟩
end

/-- **C01 for the model**, in the lemma files' vocabulary -/
theorem rt_of_wf (v : Val) (h : wfV v = true) (hn : depthOk v = true) : fromBytes (encode v) = .ok (lexImg v) :=
  fromBytes_of_GoodVG v (GoodV.toG v (good_of_wf v h)) (depthOk_iff.mp hn)

end Hs.Zinc

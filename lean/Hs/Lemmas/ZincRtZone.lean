/-
  C01 and C04 read direction: the zone part of a timestamp (`parse_time_zone`): `Z`, `Z Name`,
  `±hh:mm Name`, before anything that cannot carry the zone on (`ZoneEnd`).
-/
import Hs.Lemmas.ClassLoop
import Hs.Lemmas.ZincTexts
namespace Hs.Zinc
open Hs Hs.Scan

theorem takeDigits_rt (ds : List UInt8) (hds : ∀ b ∈ ds, isDigitB b = true) :
    ∀ (s : Scan) (rest : List UInt8) (acc : List UInt8), At s (ds ++ rest) →
    takeDigits ds.length s acc = .ok (acc ++ ds, advN ds.length s) := by
  induction ds with
  | nil => intro s rest acc _; simp [takeDigits, advN]
  | cons b bs ih =>
    intro s rest acc h
    simp only [List.cons_append] at h
    simp only [List.length_cons, takeDigits, h.cur, hds b (by simp), if_true, advN]
    rw [ih (fun x hx => hds x (by simp [hx])) s.advance rest _ h.advance]
    simp

theorem parseTzName_rt (name : List UInt8) (hn : tzNameOk name = true) (s : Scan) (rest : List UInt8) (fuel : Nat)
    (h : At s (name ++ rest)) (hst : Stop isTzB rest) (hf : name.length < fuel) :
    parseTzName fuel s = .ok (name, advN name.length s) := by
  obtain ⟨n0, n1, nr, rfl, hup, hall⟩ := tzNameOk_elim hn
  simp only [List.cons_append] at h
  unfold parseTzName
  simp only [h.cur, hup, Bool.not_true, Bool.false_eq_true, if_false]
  rw [tzNameLoop_eq, classLoop_run hall (by simpa using h.advance) hst (by simp at hf ⊢; omega),
    List.flatMap_singleton']
  simp [advN]

theorem parseTimeZone_Z (s : Scan) (rest : List UInt8) (fuel : Nat) (h : At s (90 :: rest)) (hs : s.stash = [])
    (hd : ZoneEnd rest) :
    ∃ s', parseTimeZone fuel s = .ok ([90], s') ∧ Post s' rest := by
  unfold parseTimeZone
  simp only [h.cur, beq_self_eq_true, if_true]
  rcases hd.2 with rfl | ⟨b, r, rfl, hb⟩ | ⟨y, r, rfl, hy⟩
  · -- end of input: the peek fails and raises `is_eof`
    have hp := h.peek_none (by simp [hs])
    obtain ⟨he, hc, hu⟩ := h
    rw [hs] at hu
    simp only [List.nil_append] at hu
    refine ⟨{ s with eof := true }, ?_, ⟨by simp [At, hs, hu], by simp [hs], fun _ => by simp [hs]⟩⟩
    rw [hp]
    simp
  · obtain ⟨s1, e1, h1, hs1, _, _⟩ := h.peek0' hs
    refine ⟨s1.advance, ?_, Post.of_clean h1.advance (advance_stash_nil (by omega))⟩
    rw [e1]
    split
    · rename_i heq
      simp only [Option.some.injEq] at heq
      exact absurd heq hb
    · simp [h1.eof, h1.readQ]
  · -- a space, then a byte that is no upper-case letter: two peeks, and after the `read` the second of the two
    -- bytes is still in the stash, the scanner standing on the space — the case `Post` is there for
    obtain ⟨s1, e1, h1, hs1, _, _⟩ := h.peek0' hs
    obtain ⟨s2, e2, h2, hs2, _, _⟩ := h1.peek_some' (k := 1) hs1 (c := y) (by simp)
    refine ⟨s2.advance, ?_, ⟨h2.advance, by rw [At.advance_stash]; cases hx : s2.stash <;> simp_all,
      fun hh => absurd rfl hh⟩⟩
    rw [e1]
    simp only [e2, hy]
    simp [h2.eof, h2.readQ]

theorem parseTimeZone_ZName (name : List UInt8) (hn : tzNameOk name = true) (s : Scan) (rest : List UInt8)
    (fuel : Nat) (h : At s (90 :: 32 :: (name ++ rest))) (hs : s.stash = []) (hst : Stop isTzB rest)
    (hf : name.length < fuel) :
    ∃ s', parseTimeZone fuel s = .ok (90 :: 32 :: name, s') ∧ At s' rest ∧ s'.stash = [] := by
  obtain ⟨n0, n1, nr, rfl, hup, _⟩ := tzNameOk_elim hn
  simp only [List.cons_append] at h
  obtain ⟨s1, e1, h1, hs1, _, _⟩ := h.peek0' hs
  obtain ⟨s2, e2, h2, hs2, _, _⟩ := h1.peek_some' (k := 1) hs1 (c := n0) (by simp)
  have h3 := h2.advance
  have h4 := h3.advance
  have hs4 : (advN 2 s2).stash = [] := by
    rw [advN_stash]; exact List.drop_eq_nil_of_le (by omega)
  have e5 := parseTzName_rt (n0 :: n1 :: nr) hn s2.advance.advance rest fuel (by simpa using h4) hst hf
  refine ⟨advN (n0 :: n1 :: nr).length s2.advance.advance, ?_,
    At.advN (by simpa using h4), advN_stash_nil _ _ hs4⟩
  unfold parseTimeZone
  simp only [h.cur, beq_self_eq_true, if_true, e1, e2, hup, Scan.advanceBy, h2.read, h3.read, e5]
  simp

theorem parseTimeZone_offset (sg o0 o1 o2 o3 : UInt8) (hsg : sg = 43 ∨ sg = 45)
    (ho0 : isDigitB o0 = true) (ho1 : isDigitB o1 = true) (ho2 : isDigitB o2 = true) (ho3 : isDigitB o3 = true)
    (name : List UInt8) (hn : tzNameOk name = true) (s : Scan) (rest : List UInt8)
    (fuel : Nat) (h : At s (sg :: o0 :: o1 :: 58 :: o2 :: o3 :: 32 :: (name ++ rest))) (hs : s.stash = [])
    (hst : Stop isTzB rest) (hf : name.length < fuel) :
    ∃ s', parseTimeZone fuel s = .ok (sg :: o0 :: o1 :: 58 :: o2 :: o3 :: 32 :: name, s') ∧ At s' rest ∧
      s'.stash = [] := by
  have h1 := h.advance
  have h2 := h1.advance
  have h3 := h2.advance
  have h4 := h3.advance
  have h5 := h4.advance
  have h6 := h5.advance
  have h7 := h6.advance
  have hs7 : s.advance.advance.advance.advance.advance.advance.advance.stash = [] := advN_stash_nil 7 s hs
  have e8 := parseTzName_rt name hn _ rest fuel h7 hst hf
  have hne : (sg == 90) = false := by rcases hsg with rfl | rfl <;> decide
  have hsg' : (sg == 43 || sg == 45) = true := by rcases hsg with rfl | rfl <;> decide
  refine ⟨advN name.length s.advance.advance.advance.advance.advance.advance.advance, ?_, h7.advN,
    advN_stash_nil _ _ hs7⟩
  unfold parseTimeZone
  simp only [h.cur, hne, Bool.false_eq_true, if_false, hsg', Bool.not_true, takeDigits, h1.cur, ho0, if_true, h2.cur,
    ho1, h3.cur, bne_self_eq_false, h4.cur, ho2, h5.cur, ho3, h6.cur, e8]
  simp

end Hs.Zinc

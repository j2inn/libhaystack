/-
  C11, decoder image invariant: a value of the reader's shape (`decV`) whose lexical leaves are covered
  (`lexLeavesOk`) and that is not on the exclusion list satisfies the hypotheses of C01's round trip (`GoodVG`: as
  `wfV` of C01, after `asRead`, column names possibly repeated) and is its own lexical image.
-/
import Hs.Lemmas.ZincImageBase
import Hs.Lemmas.ZincImageDup
import Hs.Lemmas.ZincReenc
import Hs.Lemmas.ZincRtTop
namespace Hs.Zinc
open Hs Hs.Scan

theorem rowsShape_asReadR (names : List (List Char)) (single : Bool) :
    ∀ rows : Rows, rowsDec names rows = true → (single = true → rowsFull names rows = true) →
      rowsShape names single (asReadR rows) = true
  | .nil, _, _ => rfl
  | .cons r rs, hd, hf => by
    simp only [rowsDec, rowDec, Bool.and_eq_true] at hd
    simp only [asReadR, rowsShape, rowShape, Bool.and_eq_true, keys_asReadT]
    refine ⟨⟨⟨hd.1.1, hd.1.2⟩, ?_⟩, rowsShape_asReadR names single rs hd.2 ?_⟩
    · cases single with
      | false => rfl
      | true =>
        have := hf rfl
        simp only [rowsFull, Bool.and_eq_true] at this
        have h1 := this.1
        simpa [rowFull, get?_asReadT] using h1
    · intro hs
      have := hf hs
      simp only [rowsFull, Bool.and_eq_true] at this
      exact this.2

/-! ### nesting -/

mutual
theorem nest_asRead : ∀ v : Val, nestV (asRead v) = nestV v
  | .list xs => by simp only [asRead, nestV, nest_asReads xs]
  | .dict d => by simp only [asRead, nestV, nest_asReadT d]
  | .grid md cols rows _ => by simp only [asRead, nestV, nest_asReadO md, nest_asReadC cols, nest_asReadR rows]
  | .null | .remove | .marker | .na | .bool _ | .num _ | .str _ | .uri _ | .ref _ _ | .sym _ | .date _ | .time _
  | .dateTime _ | .coord _ _ | .xstr _ _ => rfl
theorem nest_asReads : ∀ xs : Vals, nestVs (asReads xs) = nestVs xs
  | .nil => rfl
  | .cons v vs => by simp only [asReads, nestVs, nest_asRead v, nest_asReads vs]
theorem nest_asReadT : ∀ t : Tags, nestT (asReadT t) = nestT t
  | .nil => rfl
  | .cons _ v t => by simp only [asReadT, nestT, nest_asRead v, nest_asReadT t]
theorem nest_asReadO : ∀ o : OTags, nestO (asReadO o) = nestO o
  | .none => rfl
  | .some t => by simp only [asReadO, nestO, nest_asReadT t]
theorem nest_asReadC : ∀ c : Cols, nestC (asReadC c) = nestC c
  | .nil => rfl
  | .cons _ m c => by simp only [asReadC, nestC, nest_asReadO m, nest_asReadC c]
theorem nest_asReadR : ∀ r : Rows, nestR (asReadR r) = nestR r
  | .nil => rfl
  | .cons r rs => by simp only [asReadR, nestR, nest_asReadT r, nest_asReadR rs]
end

/-! ### the invariant implies the hypotheses of C01's round trip -/

theorem congr₂ {α β γ : Type} (f : α → β → γ) {a a' : α} {b b' : β} (ha : a = a') (hb : b = b') :
    f a b = f a' b' := by rw [ha, hb]

theorem goodG_leaf (v : Val) (hs : Scalar v = true) (h : wfV v = true) : GoodVG v := by
  have := good_of_wf v h
  cases v <;> first | exact this | cases hs

mutual
theorem image_good : ∀ v : Val, decV v = true → lexLeavesOk v = true → anyGrid badNode v = false →
    GoodVG (asRead v) ∧ lexImg (asRead v) = v
  | .null, _, _, _ | .remove, _, _, _ | .marker, _, _, _ | .na, _, _, _ | .bool _, _, _, _ | .str _, _, _, _
  | .uri _, _, _, _ => ⟨goodG_leaf _ rfl rfl, rfl⟩
  | .ref _ _, hd, _, _ | .sym _, hd, _, _ | .xstr _ _, hd, _, _ | .date _, hd, _, _ => ⟨goodG_leaf _ rfl hd, rfl⟩
  | .num n, hd, hl, _ => ⟨goodG_leaf _ rfl hl, congrArg Val.num (of_decide_eq_true hd)⟩
  | .time _, _, hl, _ => ⟨goodG_leaf _ rfl hl, rfl⟩
  | .dateTime t, hd, hl, _ => by
    simp only [decV, Bool.and_eq_true, beq_iff_eq] at hd
    obtain ⟨⟨⟨⟨h1, h2⟩, h3⟩, h4⟩, h5⟩ := hd
    refine ⟨goodG_leaf _ rfl hl, ?_⟩
    cases t
    simp only at h1 h2 h3 h4 h5
    subst h1 h2 h3 h4 h5
    simp [asRead, lexImg]
  | .coord a b, hd, _, _ => by
    simp only [decV, Bool.and_eq_true, beq_iff_eq] at hd
    refine ⟨goodG_leaf _ rfl (by simp [asRead, wfV, hd.1.2, hd.2]), ?_⟩
    cases a; cases b
    simp only at hd
    simp [asRead, lexImg, hd.1.1.1, hd.1.1.2]
  | .list xs, hd, hl, hx =>
    have ⟨h1, h2⟩ := image_goods xs hd hl hx
    ⟨h1, congrArg Val.list h2⟩
  | .dict d, hd, hl, hx => by
    obtain ⟨hk, hd⟩ := Bool.and_eq_true_iff.mp hd
    obtain ⟨hk1, hk2⟩ := Bool.and_eq_true_iff.mp hk
    obtain ⟨h1, h2⟩ := image_goodT d hd hl hx
    refine ⟨?_, congrArg Val.dict h2⟩
    simp only [asRead, GoodVG, keysIdent_asReadT, keys_asReadT]
    exact ⟨hk1, hk2, h1⟩
  | .grid md cols rows ver, hd, hl, hx => by
    simp only [lexLeavesOk, Bool.and_eq_true] at hl
    simp only [anyGrid, badNode, Bool.or_eq_false_iff] at hx
    obtain ⟨dm, dne, dcs, drs, dO, dC, dR⟩ := decV_grid_iff.mp hd
    obtain ⟨⟨⟨⟨xver, xz4⟩, xO⟩, xC⟩, xR⟩ := hx
    obtain ⟨o1, o2⟩ := image_goodO md dO hl.1.1 xO
    obtain ⟨c1, c2⟩ := image_goodC cols dC hl.1.2 xC
    obtain ⟨r1, r2⟩ := image_goodR rows dR hl.2 xR
    refine ⟨?_, by simp [asRead, lexImg, o2, c2, r2]⟩
    simp only [asRead, GoodVG, metaShape_asReadO, names_asReadC, length_asReadC]
    have hver : ver = ['3', '.', '0'] := by simpa [exVer] using xver
    have hcs : colsShapeG (asReadC cols) = true := by
      simp only [colsShapeG, Bool.and_eq_true, colsShapeAux_asReadC]
      exact ⟨by cases cols <;> simp_all [asReadC, colsNE], dcs⟩
    have hrs : rowsShape cols.names (cols.length == 1) (asReadR rows) = true := by
      apply rowsShape_asReadR _ _ rows drs
      intro hs
      simpa [exZ4, hs] using xz4
    exact ⟨hver, dm, hcs, hrs, o1, c1, r1⟩
theorem image_goods : ∀ xs : Vals, decVs xs = true → lexLeavesOks xs = true → anyGridVs badNode xs = false →
    GoodVsG (asReads xs) ∧ lexImgs (asReads xs) = xs
  | .nil, _, _, _ => ⟨trivial, rfl⟩
  | .cons v vs, hd, hl, hx =>
    have ⟨d1, d2⟩ := Bool.and_eq_true_iff.mp hd
    have ⟨l1, l2⟩ := Bool.and_eq_true_iff.mp hl
    have ⟨x1, x2⟩ := Bool.or_eq_false_iff.mp hx
    have ⟨a1, a2⟩ := image_good v d1 l1 x1
    have ⟨b1, b2⟩ := image_goods vs d2 l2 x2
    ⟨⟨a1, b1⟩, congr₂ Vals.cons a2 b2⟩
theorem image_goodT : ∀ t : Tags, decT t = true → lexLeavesOkT t = true → anyGridT badNode t = false →
    GoodTG (asReadT t) ∧ lexImgT (asReadT t) = t
  | .nil, _, _, _ => ⟨trivial, rfl⟩
  | .cons k v t, hd, hl, hx =>
    have ⟨d1, d2⟩ := Bool.and_eq_true_iff.mp hd
    have ⟨l1, l2⟩ := Bool.and_eq_true_iff.mp hl
    have ⟨x1, x2⟩ := Bool.or_eq_false_iff.mp hx
    have ⟨a1, a2⟩ := image_good v d1 l1 x1
    have ⟨b1, b2⟩ := image_goodT t d2 l2 x2
    ⟨⟨a1, b1⟩, congr₂ (Tags.cons k) a2 b2⟩
theorem image_goodO : ∀ o : OTags, decO o = true → lexLeavesOkO o = true → anyGridO badNode o = false →
    GoodOG (asReadO o) ∧ lexImgO (asReadO o) = o
  | .none, _, _, _ => ⟨trivial, rfl⟩
  | .some t, hd, hl, hx =>
    have ⟨a1, a2⟩ := image_goodT t hd hl hx
    ⟨a1, congrArg OTags.some a2⟩
theorem image_goodC : ∀ c : Cols, decC c = true → lexLeavesOkC c = true → anyGridC badNode c = false →
    GoodCG (asReadC c) ∧ lexImgC (asReadC c) = c
  | .nil, _, _, _ => ⟨trivial, rfl⟩
  | .cons n md c, hd, hl, hx =>
    have ⟨d1, d2⟩ := Bool.and_eq_true_iff.mp hd
    have ⟨l1, l2⟩ := Bool.and_eq_true_iff.mp hl
    have ⟨x1, x2⟩ := Bool.or_eq_false_iff.mp hx
    have ⟨a1, a2⟩ := image_goodO md d1 l1 x1
    have ⟨b1, b2⟩ := image_goodC c d2 l2 x2
    ⟨⟨a1, b1⟩, congr₂ (Cols.cons n) a2 b2⟩
theorem image_goodR : ∀ r : Rows, decR r = true → lexLeavesOkR r = true → anyGridR badNode r = false →
    GoodRG (asReadR r) ∧ lexImgR (asReadR r) = r
  | .nil, _, _, _ => ⟨trivial, rfl⟩
  | .cons r rs, hd, hl, hx =>
    have ⟨d1, d2⟩ := Bool.and_eq_true_iff.mp hd
    have ⟨l1, l2⟩ := Bool.and_eq_true_iff.mp hl
    have ⟨x1, x2⟩ := Bool.or_eq_false_iff.mp hx
    have ⟨a1, a2⟩ := image_goodT r d1 l1 x1
    have ⟨b1, b2⟩ := image_goodR rs d2 l2 x2
    ⟨⟨a1, b1⟩, congr₂ Rows.cons a2 b2⟩
end

end Hs.Zinc

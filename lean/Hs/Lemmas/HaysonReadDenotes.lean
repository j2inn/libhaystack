/-
  Hs.Lemmas.HaysonReadDenotes — the read direction: every Hayson document of a value (`Denotes v j`) is decoded by the
  visitor model to that value; by recursion on the value, with the derivation taken apart case by case.
-/
import Hs.Lemmas.HaysonReadContainers
namespace Hs.Spec.Hayson
open Hs Hs.Hayson

mutual
theorem read_denotes : {w : Val} → {doc : Json} → Denotes w doc → fromJson doc = .ok w
  | _, _, .null => by simp [fromJson]
  | _, _, .bool b => by simp [fromJson]
  | _, _, .str x => by simp [fromJson]
  | _, _, .numTok h => numTok_decodes h
  | _, _, .marker => by simp [fromJson, visitMap, earlyReturn]
  | _, _, .remove => by simp [fromJson, visitMap, earlyReturn, s_beq]
  | _, _, .na => by simp [fromJson, visitMap, earlyReturn, s_beq]
  | _, _, .number hv hu hp => read_number hv hu hp
  | _, _, .ref hd hp => read_valOpt known_ref (by simp) finish_ref (by simp) (by simp) hd hp
  | _, _, .symbol hp => read_val known_symbol (by simp) finish_symbol hp
  | _, _, .uri hp => read_val known_uri (by simp) finish_uri hp
  | _, _, .date hp => read_val known_date (by simp) finish_date hp
  | _, _, .time hp => read_val known_time (by simp) finish_time hp
  | _, _, .dateTime hz hp =>
    read_valOpt known_dateTime (by simp) finish_dateTime (by simp) (by simp) hz hp
  | _, _, .coord ha hb hp => read_coord ha hb hp
  | _, _, .xstr hp => read_xstr hp
  | _, _, .list (vs := vs) hl => by
    rw [fromJson_arr _ _ (read_denotesL hl), Vals.ofList_toList]
  | _, _, .dict (.mk hm hk hkm hp) => read_dictObj (read_denotesM hm) hk hkm hp
  | _, _, .gridNoMeta (cols := cols) (rows := rows) hc hr hp => by
    rw [read_gridNoMeta (read_denotesCols hc) (read_denotesRows hr) hp, Cols.ofList_toList, Rows.ofList_toList]
  | _, _, .gridMeta (t := t) (cols := cols) (rows := rows) hm hk hnv hkm hvm hpm hc hr hp => by
    obtain ⟨m, h1, h2, h3⟩ := read_metaObj (read_denotesM hm) hk hnv hkm hvm hpm
    rw [read_gridMeta h1 (read_denotesCols hc) (read_denotesRows hr) hp, h2, h3, Tags.ofList_toList,
      Cols.ofList_toList, Rows.ofList_toList]
termination_by structural w => w
theorem read_denotesL : {vs : Vals} → {js : Jsons} → DenotesL vs js → seq js = .ok vs.toList
  | _, _, .nil => by simp [seq, Vals.toList]
  | _, _, .cons hv hl => by
    simp only [Vals.toList]
    exact seq_cons _ _ _ _ (read_denotes hv) (read_denotesL hl)
termination_by structural vs => vs
theorem read_denotesM : {t : Tags} → {tm : Mems} → DenotesM t tm → decView tm = okView t.toList
  | _, _, .nil => rfl
  | _, _, .cons hv hm => decView_cons_ok (read_denotes hv) (read_denotesM hm)
termination_by structural t => t
theorem read_denotesCols : {c : Cols} → {js : Jsons} → DenotesCols c js →
    seq js = .ok (c.toList.map colVal)
  | _, _, .nil => by simp [seq, Cols.toList]
  | _, _, .consNoMeta hp hc => by
    simp only [Cols.toList, List.map_cons]
    exact seq_cons _ _ _ _ (read_colNoMeta hp) (read_denotesCols hc)
  | _, _, .consMeta (.mk hm hk hkm hp') hp hc => by
    simp only [Cols.toList, List.map_cons]
    exact seq_cons _ _ _ _ (read_colMeta (read_dictObj (read_denotesM hm) hk hkm hp') hp) (read_denotesCols hc)
termination_by structural c => c
theorem read_denotesRows : {r : Rows} → {js : Jsons} → DenotesRows r js →
    seq js = .ok (r.toList.map Val.dict)
  | _, _, .nil => by simp [seq, Rows.toList]
  | _, _, .cons (.mk hm hk hkm hp) hr => by
    simp only [Rows.toList, List.map_cons]
    exact seq_cons _ _ _ _ (read_dictObj (read_denotesM hm) hk hkm hp) (read_denotesRows hr)
termination_by structural r => r
end

theorem read_denotesD : {t : Tags} → {ms : Members} → DenotesD t ms → fromJson (.obj ms) = .ok (.dict t)
  | _, _, .mk hm hk hkm hp => read_dictObj (read_denotesM hm) hk hkm hp

end Hs.Spec.Hayson

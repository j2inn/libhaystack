/-
  C04 read direction: the mutual induction over values and their spellings (scalars: `leaf_of_spells`), and the top
  level: every sentence that spells a well-formed value (`wfS`) is decoded to the lexical image of that value.
-/
import Hs.Lemmas.ZincSpellGrid
import Hs.Lemmas.ZincSpellLeaf
namespace Hs.Zinc
open Hs Hs.Scan Hs.Spell

/-! ### what a spelled tag needs -/

inductive TagOkW : List Char → Val → List UInt8 → Prop
  | marker (k : List Char) : TagOkW k .marker (encChars k)
  | val (k : List Char) (v : Val) (w vb : List UInt8) (hw : Blanks w) (hv : SpOk v vb) :
      TagOkW k v (encChars k ++ 58 :: (w ++ vb))

theorem TagOkW.of {k : List Char} {v : Val} {bs : List UInt8} (h : SpTag k v bs)
    (ih : ∀ vb, Spells v vb → SpOk v vb) : TagOkW k v bs := by
  cases h with
  | marker => exact .marker k
  | val _ _ w vb hw h => exact .val k v w vb hw (ih vb h)

theorem RdTagsW_ofTag {loop : Nat → Nat → PS → Bool → KVs → Res (KVs × PS)} {term : UInt8} (hL : TagLoop loop term)
    {k : List Char} {v : Val} {bs : List UInt8} (hk : isIdent k = true) (h : TagOkW k v bs) {t' : Tags}
    {tl : List UInt8} (hnext : NextOkD DelimW (EndOk term) 10 loop term t' tl) : RdTagsW loop term (.cons k v t') (bs ++ tl) := by
  intro k0 v0 t0 e0
  cases e0
  cases h with
  | marker =>
    exact ⟨tl, rfl, hk, fun ending rest hE => (hnext.delim ending rest hE).stop (by decide),
      TagsRun_marker hL EndOk.ends k hnext⟩
  | val _ w vb hw hv =>
    rw [List.append_assoc]
    exact ⟨58 :: (w ++ vb) ++ tl, rfl, hk, fun _ _ _ => Stop_cons (by decide),
      TagsRun_val hL EndOk.ends (by omega) k hv.rd hw (fun _ => hv.first.noBlank) hnext⟩

theorem getLast?_append_ne (a b : List UInt8) (hb : b ≠ []) : (a ++ b).getLast? = b.getLast? := by
  rw [List.getLast?_append]
  cases h : b.getLast? with
  | none => exact absurd (List.getLast?_eq_none_iff.mp h) hb
  | some x => rfl

/-- the text up to a point does not end in CR (when `tlf`): so a lone CR is not its last line ending, and what
follows that line ending does not end in CR either -/
theorem crOk_of_last {tlf : Bool} {pre nl rest : List UInt8}
    (hT : tlf = true → (pre ++ nl ++ rest).getLast? ≠ some 13) :
    CrOk nl rest tlf ∧ (tlf = true → rest ≠ [] → rest.getLast? ≠ some 13) := by
  constructor
  · intro e hr
    cases tlf with
    | false => rfl
    | true => subst e; subst hr; exact absurd (by simp) (hT rfl)
  · intro e hr
    have := hT e
    rwa [getLast?_append_ne _ _ hr] at this

theorem tail_head_lf {w nl trail : List UInt8} (hw : Blanks w) (hn : Nl nl) (h : (w ++ (nl ++ trail)).head? = some 10) :
    w = [] ∧ nl = [10] := by
  cases w with
  | cons b w' =>
    simp only [List.cons_append, List.head?_cons, Option.some.injEq] at h
    rcases Blanks.head hw with e | e <;> (rw [e] at h; cases h)
  | nil =>
    refine ⟨rfl, ?_⟩
    cases hn with
    | lf => rfl
    | crlf => simp at h
    | cr => simp at h

theorem DelimW_of_trailer {t : List UInt8} (h : Trailer t) : DelimW t := by
  obtain ⟨hw, h1⟩ := h
  cases t with
  | nil => exact Or.inl rfl
  | cons b r =>
    have hb := hw b (by simp)
    by_cases hnl : b = 13 ∨ b = 10
    · exact .of_end r (by rcases hnl with rfl | rfl <;> decide)
    · have hbl : b = 32 ∨ b = 9 := by
        rcases hb with h | h | h | h
        · exact Or.inl h
        · exact Or.inr h
        · exact absurd (Or.inl h) hnl
        · exact absurd (Or.inr h) hnl
      cases r with
      | nil => exact absurd (h1 b rfl) hnl
      | cons x r' =>
        right; right
        refine ⟨b, x, r', rfl, hbl, ?_⟩
        rcases hw x (by simp) with h | h | h | h
        · exact Or.inl h
        · exact Or.inr (Or.inl h)
        · exact Or.inr (Or.inr (Or.inl (by rw [h]; decide)))
        · exact Or.inr (Or.inr (Or.inl (by rw [h]; decide)))

theorem GridOkW.of_parts {tlf : Bool} {md : OTags} {cols : Cols} {rows : Rows} {ver : List Char}
    {m w1 nl1 cl w2 nl2 rw : List UInt8} (hwf : wfS (.grid md cols rows ver) = true)
    (hT : tlf = true → (nl2 ++ rw).getLast? ≠ some 13)
    (hmeta : wfSO md = true → metaShape md = true → MetaOkD (RdTagsW dictParts 10) md m)
    (hcols : wfSC cols = true → colsShapeAux cols = true → ColsOkW cols cl)
    (hrows : wfSR rows = true → rowsShape cols.names (cols.length == 1) rows = true →
      (tlf = true → rw ≠ [] → rw.getLast? ≠ some 13) → RowsOkW cols.names (cols.length == 1) tlf rows rw)
    (hw1 : Blanks w1) (hn1 : Nl nl1) (hw2 : Blanks w2) (hn2 : Nl nl2) :
    GridOkW tlf md cols rows ver m w1 nl1 cl w2 nl2 rw := by
  simp only [wfS, Bool.and_eq_true, beq_iff_eq] at hwf
  obtain ⟨⟨⟨⟨⟨⟨hver, hms⟩, hcs⟩, hrs⟩, hwo⟩, hwc⟩, hwr⟩ := hwf
  simp only [colsShape, Bool.and_eq_true] at hcs
  obtain ⟨hcr, hT'⟩ := crOk_of_last (pre := []) hT
  exact ⟨hver, hmeta hwo hms, hcols hwc hcs.1.2, hrows hwr hrs hT', hw1, hn1, hw2, hn2, hcr⟩

/-! ### the mutual induction

The recursion is on the value (`termination_by structural`), not on the derivation: a derivation of `SpTag k v bs` holds
one of `Spells v vb` for the same `v`, so `spTag` is not a member and tags go through `TagOkW.of`. -/

mutual
theorem spV : ∀ (v : Val) (bs : List UInt8), wfS v = true → Spells v bs → SpOk v bs
  | v, bs, hwf, h => by
    by_cases hsc : Scalar v = true
    · exact have hl := leaf_of_spells v bs hsc hwf h; ⟨RdD_of_tok _ hl.1, hl.2⟩
    cases h with
    | null | marker | remove | na | true_ | false_ | num | str | uri | ref | refDis | sym | date | time | dateTime
    | coord | xstr => exact absurd rfl hsc
    | list xs w body hw h =>
      exact SpOk_list hw (spItems xs body hwf h)
    | dict d w1 body w2 h1 h h2 =>
      simp only [wfS, Bool.and_eq_true] at hwf
      refine SpOk_dict h1 h2 hwf.1.2 (spTags (tagLoop_dict (by decide)) true d body (fun _ => commaLoop_dict) hwf.2 hwf.1.1 h) ?_
      intro e; subst e; cases h; rfl
    | grid md cols rows ver w nl _ hw hn hg =>
      obtain ⟨_, _, _, _, m, w1, nl1, cl, w2, nl2, rw, hm, hw1, hn1, hc, hw2, hn2, hr⟩ := hg
      exact SpOk_grid (GridOkW.of_parts (tlf := false) hwf (fun e => by cases e)
        (fun a b => spMeta (tagLoop_dict (by decide)) md m a b hm) (fun a b => spCols cols cl a b hc)
        (fun a b c => spRows cols.names (cols.length == 1) false rows rw a b hr c) hw1 hn1 hw2 hn2) hw hn
termination_by structural v => v
theorem spItems : ∀ (xs : Vals) (body : List UInt8), wfSs xs = true → SpItems xs body → RdItems xs body
  | .nil, _, _, .nil => RdItems_nil
  | .cons v .nil, _, hwf, .last _ bs w h hw => RdItems_last (spV v bs (and_true_left hwf) h) hw
  | .cons v .nil, _, hwf, .lastComma _ bs w w' h hw hw' => RdItems_lastComma (spV v bs (and_true_left hwf) h) hw hw'
  | .cons v (.cons v2 vs), _, hwf, .cons _ _ _ bs w w' rest h hw hw' t =>
    RdItems_cons (spV v bs (and_true_left hwf) h) hw hw' (spItems (.cons v2 vs) rest (and_true_right hwf) t)
termination_by structural xs => xs
theorem spTags {loop : Nat → Nat → PS → Bool → KVs → Res (KVs × PS)} {term : UInt8} (hL : TagLoop loop term) :
    ∀ (br : Bool) (t : Tags) (body : List UInt8), (br = true → CommaLoop loop) → wfST t = true → keysIdent t = true →
      SpTags br t body → RdTagsW loop term t body
  | _, .nil, _, _, _, _, .nil _ => by intro k v t' e; cases e
  | _, .cons k v .nil, _, _, hwf, hk, .one _ _ _ bs h => by
    have := RdTagsW_ofTag hL (and_true_left hk) (TagOkW.of h fun vb => spV v vb (and_true_left hwf)) (NextOkD_nil hL EndOk.ends (by omega))
    simpa using this
  | br, .cons k v (.cons k2 v2 t), _, hC, hwf, hk, .space _ _ _ _ _ _ bs w rest h hw hne ht =>
    RdTagsW_ofTag hL (and_true_left hk) (TagOkW.of h fun vb => spV v vb (and_true_left hwf))
      (NextOkD_space hw hne (fun _ r hx => DelimW_blanks hw (Or.inr ⟨hne, hx⟩) r)
        (spTags hL br (.cons k2 v2 t) rest hC (and_true_right hwf) (and_true_right hk) ht))
  | _, .cons k v (.cons k2 v2 t), _, hC, hwf, hk, .comma _ _ _ _ _ bs w w' rest h hw hw' ht => by
    have := RdTagsW_ofTag hL (and_true_left hk) (TagOkW.of h fun vb => spV v vb (and_true_left hwf))
      (NextOkD_comma Around.spelled (hC rfl) hw hw'
        (spTags hL true (.cons k2 v2 t) rest hC (and_true_right hwf) (and_true_right hk) ht))
    simpa using this
termination_by structural _ t => t
theorem spMeta {loop : Nat → Nat → PS → Bool → KVs → Res (KVs × PS)} {term : UInt8} (hL : TagLoop loop term) :
    ∀ (md : OTags) (m : List UInt8), wfSO md = true → metaShape md = true → SpMeta md m →
      MetaOkD (RdTagsW loop term) md m
  | .none, _, _, _, .none => MetaOkD.none
  | .some .nil, _, _, hs, .some _ w body hw hne h => by simp [metaShape, Tags.isEmpty] at hs
  | .some (.cons k v t'), _, hwf, hs, .some _ w body hw hne h => by
    simp only [metaShape, Bool.and_eq_true] at hs
    exact MetaOkD.some k v t' w body hw hne hs.2 (spTags hL false (.cons k v t') body (fun e => by cases e) hwf hs.1.2 h)
termination_by structural md => md
theorem spCols : ∀ (cols : Cols) (cl : List UInt8), wfSC cols = true → colsShapeAux cols = true → SpCols cols cl →
    ColsOkW cols cl
  | .cons n md .nil, _, hwf, hs, .one _ _ m h =>
    ColsOkD.one n md m (colsShapeAux_tail hs).1 (spMeta (tagLoop_col 10) md m (and_true_left hwf) (colsShapeAux_tail hs).2.1 h)
  | .cons n md (.cons n2 md2 c), _, hwf, hs, .cons _ _ _ _ _ m w rest h hw t =>
    ColsOkD.cons n md n2 md2 c m w rest (colsShapeAux_tail hs).1
      (spMeta (tagLoop_col 44) md m (and_true_left hwf) (colsShapeAux_tail hs).2.1 h) hw
      (spCols (.cons n2 md2 c) rest (and_true_right hwf) (colsShapeAux_tail hs).2.2 t)
termination_by structural cols => cols
theorem spCells : ∀ (r : Tags) (cells : List (List Char × List UInt8)), wfST r = true → SpCells r cells → CellsW r cells
  | .nil, _, _, .nil => CellsW_nil
  | .cons k v t, _, hwf, .cons _ _ _ bs cells h ht =>
    CellsW_cons (spV v bs (and_true_left hwf) h) (spCells t cells (and_true_right hwf) ht)
termination_by structural r => r
theorem spRows (names : List (List Char)) (single tlf : Bool) : ∀ (rows : Rows) (rw : List UInt8), wfSR rows = true →
    rowsShape names single rows = true → SpRows names rows rw → (tlf = true → rw ≠ [] → rw.getLast? ≠ some 13) →
    RowsOkW names single tlf rows rw
  | .nil, _, _, _, .nil _, _ => RowsOkW.nil
  | .cons r rs, _, hwf, hs, .cons _ _ _ cells line w nl rest hc hl hw hn t, hT => by
    simp only [rowsShape, Bool.and_eq_true] at hs
    obtain ⟨p1, p2, p3⟩ := rowShape_parts hs.1
    obtain ⟨hcr, hT'⟩ := crOk_of_last (pre := line ++ w) fun e => hT e (by cases hn <;> simp)
    exact RowsOkW.cons r rs line w nl rest ⟨⟨cells, spCells r cells (and_true_left hwf) hc, hl⟩, p3, p1, p2⟩ hw hn hcr
      (spRows names single tlf rs rest (and_true_right hwf) hs.2 t hT')
termination_by structural rows => rows
end

theorem spTag : ∀ (k : List Char) (v : Val) (bs : List UInt8), wfS v = true → SpTag k v bs → TagOkW k v bs
  | _, v, _, hwf, h => TagOkW.of h fun vb => spV v vb hwf

/-! ### the top level -/

theorem fromBytes_of_SpOk {v : Val} {bs lead trail : List UInt8} (h : SpOk v bs) (hl : Blanks lead) (ht : Trailer trail)
    (hn : nestV v < 64) : fromBytes (lead ++ bs ++ trail) = .ok (lexImg v) := by
  have e : lead ++ bs ++ trail = lead ++ (bs ++ trail) := by simp
  rw [e]
  unfold fromBytes fuelFor
  have hat : At (Scan.make (lead ++ (bs ++ trail))) (lead ++ (bs ++ trail)) := At_make_all _
  have hs := make_stash (lead ++ (bs ++ trail))
  have hlen : (lead ++ (bs ++ trail)).length = lead.length + bs.length + trail.length := by simp; omega
  obtain ⟨p, p', e1, _, _, e2, _⟩ := RdD.skip h.rd lead hl (fun _ => h.first.noBlank) 0 (8 * (lead ++ (bs ++ trail)).length + 64)
    (8 * (lead ++ (bs ++ trail)).length + 64) (Scan.make (lead ++ (bs ++ trail))) trail (Pre.of_clean hat hs)
    (DelimW_of_trailer ht) (by omega) (by omega) (by omega)
  simp only [e1, e2]

theorem gridOkW_of {tlf : Bool} {md : OTags} {cols : Cols} {rows : Rows} {ver : List Char}
    {m w1 nl1 cl w2 nl2 rw : List UInt8}
    (hwf : wfS (.grid md cols rows ver) = true) (hm : SpMeta md m) (hw1 : Blanks w1) (hn1 : Nl nl1) (hc : SpCols cols cl)
    (hw2 : Blanks w2) (hn2 : Nl nl2) (hr : SpRows cols.names rows rw)
    (hT : tlf = true → (nl2 ++ rw).getLast? ≠ some 13) : GridOkW tlf md cols rows ver m w1 nl1 cl w2 nl2 rw :=
  GridOkW.of_parts hwf hT (fun a b => spMeta (tagLoop_dict (by decide)) md m a b hm) (fun a b => spCols cols cl a b hc)
    (fun a b c => spRows cols.names (cols.length == 1) tlf rows rw a b hr c) hw1 hn1 hw2 hn2

theorem SpellsTop_inv : ∀ {v : Val} {bs : List UInt8}, SpellsTop v bs →
    (∃ lead bs' trail, bs = lead ++ bs' ++ trail ∧ Blanks lead ∧ Spells v bs' ∧ Trailer trail) ∨
    ∃ md cols rows ver lead body tail, v = .grid md cols rows ver ∧ bs = lead ++ body ++ tail ∧ Blanks lead ∧
      SpGrid md cols rows ver body ∧ GridEnd false tail [] ∧ (tail.head? = some 10 → body.getLast? ≠ some 13)
  | _, _, .other _ lead bs' trail _ hl h ht => Or.inl ⟨lead, bs', trail, rfl, hl, h, ht⟩
  | .grid md cols rows ver, _, .grid _ _ _ _ lead body hl h =>
    Or.inr ⟨md, cols, rows, ver, lead, body, [], rfl, by simp, hl, h, GridEnd.top, by simp⟩
  | .grid md cols rows ver, _, .gridNl _ _ _ _ lead body w nl trail hl h hw hn ht hcr =>
    Or.inr ⟨md, cols, rows, ver, lead, body, w ++ (nl ++ trail), rfl, by simp, hl, h, GridEnd.topNl w nl trail hw hn ht,
      fun h10 => hcr (tail_head_lf hw hn h10).1 (tail_head_lf hw hn h10).2⟩

/-- **C04, read direction, for the model** (in the lemma files' vocabulary) -/
theorem read_of_spells (v : Val) (bs : List UInt8) (hwf : wfS v = true) (hn : nestV v < 64) (h : SpellsTop v bs) :
    fromBytes bs = .ok (lexImg v) := by
  rcases SpellsTop_inv h with ⟨lead, bs', trail, rfl, hl, h', ht⟩ |
      ⟨md, cols, rows, ver, lead, body, tail, rfl, rfl, hl, h', hE, hcr⟩
  · exact fromBytes_of_SpOk (spV v bs' hwf h') hl ht hn
  · obtain ⟨m, w1, nl1, cl, w2, nl2, rw, rfl, hm, hw1, hn1, hc, hw2, hn2, hr⟩ := SpGrid_inv h'
    have hnl2 : nl2 ++ rw ≠ [] := by cases hn2 <;> simp
    have hlast : (gridText m w1 nl1 cl w2 nl2 rw).getLast? = (nl2 ++ rw).getLast? := by
      have : gridText m w1 nl1 cl w2 nl2 rw = ([118, 101, 114, 58, 34, 51, 46, 48, 34] ++ m ++ w1 ++ nl1 ++ cl ++ w2) ++ (nl2 ++ rw) := by
        simp [gridText]
      rw [this, getLast?_append_ne _ _ hnl2]
    by_cases h10 : tail.head? = some 10
    · exact fromBytes_gridW (tlf := true) (gridOkW_of hwf hm hw1 hn1 hc hw2 hn2 hr (fun _ => by rw [← hlast]; exact hcr h10))
        hl hE (fun e => by cases e) hn
    · exact fromBytes_gridW (tlf := false) (gridOkW_of hwf hm hw1 hn1 hc hw2 hn2 hr (fun e => by cases e))
        hl hE (fun _ => h10) hn

end Hs.Zinc

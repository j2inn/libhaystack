/-
  C04 read direction, numbers: the shape facts of `Digits` / `Decimal`: a spelled decimal is a decimal text
  in the sense of `DecShape`.  On `ZincTexts` alone: the number reader's one walk (`ZincRtNum`, for the writer's numerals
  and the grammar's alike) takes `validDecimal_pos`, `vbody_int` and `Digits.head'` from here.
-/
import Hs.Lemmas.ZincTexts
namespace Hs.Zinc
open Hs Hs.Scan Hs.Spell

/-! ### digit runs -/

theorem _root_.Hs.Spell.Digits.digits {ds bs : List UInt8} (h : Digits ds bs) : ∀ d ∈ ds, isDigitB d = true := h.1
theorem _root_.Hs.Spell.Digits.filt {ds bs : List UInt8} (h : Digits ds bs) : bs.filter (· != 95) = ds := h.2.1

theorem _root_.Hs.Spell.Digits.cls {ds bs : List UInt8} (h : Digits ds bs) : ∀ b ∈ bs, isDigitB b = true ∨ b = 95 := by
  intro b hb
  by_cases h95 : b = 95
  · exact Or.inr h95
  · left
    apply h.1
    rw [← h.2.1]
    simp [hb, h95]

theorem _root_.Hs.Spell.Digits.dec {ds bs : List UInt8} (h : Digits ds bs) : ∀ b ∈ bs, isDecB b = true := by
  intro b hb
  rcases h.cls b hb with h' | rfl
  · simp [isDecB, h']
  · decide

theorem _root_.Hs.Spell.Digits.no45 {ds bs : List UInt8} (h : Digits ds bs) : ∀ b ∈ bs, b ≠ 45 := by
  intro b hb
  rcases h.cls b hb with h' | rfl
  · exact digit_ne_45 h'
  · decide

theorem _root_.Hs.Spell.Digits.head {ds bs : List UInt8} (h : Digits ds bs) :
    ∃ d r, bs = d :: r ∧ isDigitB d = true ∧ ds = d :: r.filter (· != 95) := by
  obtain ⟨_, hf, d, r, rfl, hd⟩ := h
  refine ⟨d, r, rfl, hd, ?_⟩
  rw [← hf]
  simp [ne_of_class hd (k := 95) (by decide)]

theorem _root_.Hs.Spell.Digits.head' {ds bs : List UInt8} (h : Digits ds bs) :
    ∃ d r, ds = d :: r ∧ isDigitB d = true := by
  obtain ⟨d, r, _, hd, e⟩ := h.head
  exact ⟨d, _, e, hd⟩

/-! ### `validDecimal` on a spelled decimal -/

/-- `validDecimal` without the sign -/
def vbody (body : List UInt8) : Bool :=
  match body.dropWhile isDigitB with
  | [] => !(body.takeWhile isDigitB).isEmpty
  | 46 :: fr => allDigits fr && (!(body.takeWhile isDigitB).isEmpty || !fr.isEmpty)
  | _ => false

theorem validDecimal_pos (d : UInt8) (body : List UInt8) (h : d ≠ 45) :
    validDecimal (d :: body) = vbody (d :: body) := by
  unfold validDecimal
  split
  · rename_i heq; cases heq; exact absurd rfl h
  · rfl

theorem vbody_int (ip : List UInt8) (hip : ∀ d ∈ ip, isDigitB d = true) (hne : ip ≠ []) : vbody ip = true := by
  obtain ⟨t, d⟩ := (Stop_nil isDigitB).takeWhile (run := ip) hip
  simp only [List.append_nil] at t d
  unfold vbody
  rw [d, t]
  simpa using hne

theorem vbody_frac (ip fp : List UInt8) (hip : ∀ d ∈ ip, isDigitB d = true) (hne : ip ≠ [])
    (hfp : ∀ d ∈ fp, isDigitB d = true) : vbody (ip ++ 46 :: fp) = true := by
  obtain ⟨t, d⟩ := (Stop_cons (P := isDigitB) (b := 46) (r := fp) (by decide)).takeWhile (run := ip) hip
  unfold vbody
  rw [d, t]
  have : allDigits fp = true := by simpa [allDigits] using hfp
  simp [this, hne]

/-! ### shape of a spelled decimal -/

theorem decShape_body (ip ipS : List UInt8) (hi : Digits ip ipS) (fl fS : List UInt8)
    (hf : (fl = [] ∧ fS = []) ∨ ∃ fp fpS, Digits fp fpS ∧ fl = 46 :: fp ∧ fS = 46 :: fpS) :
    (ipS ++ fS).filter (· != 95) = ip ++ fl ∧ (∀ b ∈ ipS ++ fS, isDecB b = true) ∧ vbody (ip ++ fl) = true ∧
      (∀ b ∈ ipS ++ fS, b ≠ 45) := by
  obtain ⟨d0, r0, e0, hd0, e0'⟩ := hi.head
  have hne : ip ≠ [] := by rw [e0']; simp
  rcases hf with ⟨rfl, rfl⟩ | ⟨fp, fpS, hfd, rfl, rfl⟩
  · simp only [List.append_nil]
    exact ⟨hi.filt, hi.dec, vbody_int ip hi.digits hne, hi.no45⟩
  · refine ⟨?_, ?_, vbody_frac ip fp hi.digits hne hfd.digits, ?_⟩
    · rw [List.filter_append, hi.filt]
      simp [hfd.filt]
    · intro b hb
      simp only [List.mem_append, List.mem_cons] at hb
      rcases hb with hb | rfl | hb
      · exact hi.dec b hb
      · decide
      · exact hfd.dec b hb
    · intro b hb
      simp only [List.mem_append, List.mem_cons] at hb
      rcases hb with hb | rfl | hb
      · exact hi.no45 b hb
      · decide
      · exact hfd.no45 b hb

theorem decShape_signed (neg : Bool) (ip ipS : List UInt8) (hi : Digits ip ipS) (fl fS : List UInt8)
    (hf : (fl = [] ∧ fS = []) ∨ ∃ fp fpS, Digits fp fpS ∧ fl = 46 :: fp ∧ fS = 46 :: fpS) :
    DecShape ((if neg then [45] else []) ++ (ip ++ fl)) ((if neg then [45] else []) ++ (ipS ++ fS)) := by
  obtain ⟨b1, b2, b3, b4⟩ := decShape_body ip ipS hi fl fS hf
  obtain ⟨d0, r0, e0, hd0, e0'⟩ := hi.head
  cases neg with
  | true =>
    simp only [if_true, List.cons_append, List.nil_append]
    refine ⟨⟨?_, ?_, ?_⟩, ?_, ?_⟩
    · rw [List.filter_cons]; simp [b1]
    · intro b hb
      simp only [List.mem_cons] at hb
      rcases hb with rfl | hb
      · decide
      · exact b2 b hb
    · exact b3
    · simpa using b4
    · exact ⟨45, ipS ++ fS, rfl, Or.inr ⟨rfl, by rw [e0]; simp⟩⟩
  | false =>
    simp only [Bool.false_eq_true, if_false, List.nil_append]
    refine ⟨⟨b1, b2, ?_⟩, ?_, ?_⟩
    · rw [e0', List.cons_append, validDecimal_pos _ _ (digit_ne_45 hd0), ← List.cons_append, ← e0']
      exact b3
    · intro b hb; exact b4 b (List.mem_of_mem_tail hb)
    · exact ⟨d0, r0 ++ fS, by rw [e0]; rfl, Or.inl hd0⟩

theorem _root_.Hs.Spell.Decimal.shape {lex bs : List UInt8} (h : Decimal lex bs) : DecShape lex bs := by
  cases h with
  | int neg ip ipS hi =>
    have := decShape_signed neg ip ipS hi [] [] (Or.inl ⟨rfl, rfl⟩)
    simpa using this
  | frac neg ip ipS fp fpS hi hf =>
    have := decShape_signed neg ip ipS hi (46 :: fp) (46 :: fpS) (Or.inr ⟨fp, fpS, hf, rfl, rfl⟩)
    simpa using this

end Hs.Zinc

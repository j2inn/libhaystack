/-
  Hs.Lemmas.NsCacheLib — the guard discipline `Safe` (`SafeTo`: with a guard handed on at the end) of a cached function,
  and the ladder over the programs of Hs.Model.NsCache:
  `Lib cfg p a`, "`p` is library code for `a`" = `p` is `Safe false` and `Returns` `a`.  Each program is its
  cache-free function with every call of a cached function replaced by a `bind` (`Lib.bind`), so one lemma per
  program gives both: the discipline is its first component, the answer its second.
-/
import Hs.Lemmas.NsCacheGood
namespace Hs.NsCache
open Hs Hs.Ns

/-- Guard discipline.  `Safe h p`: a thread holding `h` guards (`false` = none, `true` = one) that runs `p`
performs `get` / `contains_key` / `insert` only while it holds NO guard, drops only a guard it holds, never
holds two, and finishes holding none. -/
inductive Safe {α : Type} : Bool → Prog α → Prop
  | ret {a : α} : Safe false (.ret a)
  | get {c : CacheId} {k : Name} {cont : Option V → Prog α} :
      Safe false (cont none) → (∀ v, Safe true (cont (some v))) → Safe false (.get c k cont)
  | has {c : CacheId} {k : Name} {cont : Bool → Prog α} : (∀ b, Safe false (cont b)) → Safe false (.has c k cont)
  | ins {c : CacheId} {k : Name} {v : V} {cont : Prog α} : Safe false cont → Safe false (.ins c k v cont)
  | drop {cont : Prog α} : Safe false cont → Safe true (.drop cont)

theorem safe_bind {α β : Type} {h : Bool} {p : Prog α} {f : α → Prog β} (hp : Safe h p)
    (hf : ∀ a, Safe false (f a)) : Safe h (p.bind f) := by
  induction hp with
  | ret => exact hf _
  | get _ _ ih1 ih2 => exact .get ih1 ih2
  | has _ ih => exact .has ih
  | ins _ ih => exact .ins ih
  | drop _ ih => exact .drop ih

/-- Like `Safe`, but the program ends holding a guard exactly when `g` of its result is true (the public `supertypes_of` /
`inheritance` hand their guard to the caller: `g = isOkB`). -/
inductive SafeTo {α : Type} (g : α → Bool) : Bool → Prog α → Prop
  | ret {a : α} {h : Bool} : h = g a → SafeTo g h (.ret a)
  | get {c : CacheId} {k : Name} {cont : Option V → Prog α} :
      SafeTo g false (cont none) → (∀ v, SafeTo g true (cont (some v))) → SafeTo g false (.get c k cont)
  | has {c : CacheId} {k : Name} {cont : Bool → Prog α} :
      (∀ b, SafeTo g false (cont b)) → SafeTo g false (.has c k cont)
  | ins {c : CacheId} {k : Name} {v : V} {cont : Prog α} : SafeTo g false cont → SafeTo g false (.ins c k v cont)
  | drop {cont : Prog α} : SafeTo g false cont → SafeTo g true (.drop cont)

theorem safeTo_bind {α β : Type} {g : α → Bool} {h : Bool} {p : Prog α} {f : α → Prog β}
    (hp : SafeTo g h p) (hf : ∀ a, Safe (g a) (f a)) : Safe h (p.bind f) := by
  induction hp with
  | ret e => subst e; exact hf _
  | get _ _ ih1 ih2 => exact .get ih1 ih2
  | has _ ih => exact .has ih
  | ins _ ih => exact .ins ih
  | drop _ ih => exact .drop ih

theorem safe_bind_to {α β : Type} {g : β → Bool} {h : Bool} {p : Prog α} {f : α → Prog β}
    (hp : Safe h p) (hf : ∀ a, SafeTo g false (f a)) : SafeTo g h (p.bind f) := by
  induction hp with
  | ret => exact hf _
  | get _ _ ih1 ih2 => exact .get ih1 ih2
  | has _ ih => exact .has ih
  | ins _ ih => exact .ins ih
  | drop _ ih => exact .drop ih

theorem safe_of_safeTo {α : Type} {h : Bool} {p : Prog α} (hp : SafeTo (fun _ => false) h p) : Safe h p := by
  induction hp with
  | ret e => subst e; exact .ret
  | get _ _ ih1 ih2 => exact .get ih1 ih2
  | has _ ih => exact .has ih
  | ins _ ih => exact .ins ih
  | drop _ ih => exact .drop ih

theorem safeTo_cachedW {g : Res V → Bool} {fin : V → Prog (Res V)} {c : CacheId} {k : Name}
    {compute : Prog (Res V)} (hfin : ∀ v, SafeTo g true (fin v)) (hcomp : Safe false compute)
    (hg : ∀ e : Res V, (∀ v, e ≠ .ok v) → g e = false) : SafeTo g false (cachedW fin c k compute) := by
  have hread : SafeTo g false (.get c k fun r => match r with | some v => fin v | none => .ret .panic) :=
    .get (.ret (Eq.symm (hg _ fun _ h => by cases h))) hfin
  refine .get (safe_bind_to hcomp fun rv => ?_) hfin
  cases rv with
  | ok val => exact .has fun b => by cases b <;> first | exact .ins hread | exact hread
  | _ => exact .ret (Eq.symm (hg _ fun _ h => by cases h))

theorem safe_cachedG (c : CacheId) (k : Name) {compute : Prog (Res V)} (hcomp : Safe false compute) :
    Safe false (cachedW (fun v => .drop (.ret (.ok v))) c k compute) :=
  safe_of_safeTo (safeTo_cachedW (fun _ => .drop (.ret rfl)) hcomp fun _ _ => rfl)

theorem safe_supG (g : Defs) (k : Name) : Safe false (supG g k) :=
  supG_eq_cachedW g k ▸ safe_cachedG .sup k .ret

variable {cfg : Cfg}

def Lib (cfg : Cfg) {α : Type} (p : Prog α) (a : α) : Prop := Safe false p ∧ Returns cfg p a

theorem Lib.ret {α : Type} (a : α) : Lib cfg (.ret a) a := ⟨.ret, .ret a⟩

/-- The discipline speaks of every branch, the answer of the branch taken: the continuation has to be library code
for SOME value on every input `x`, and for `b` on the value `a` that `p` returns. -/
theorem Lib.bind {α β : Type} {p : Prog α} {a : α} {f : α → Prog β} {b : β}
    (hp : Lib cfg p a) (hf : ∀ x, ∃ y, Lib cfg (f x) y ∧ (x = a → y = b)) : Lib cfg (p.bind f) b := by
  obtain ⟨y, hy, e⟩ := hf a
  cases e rfl
  exact ⟨safe_bind hp.1 (fun x => (hf x).elim fun _ h => h.1.1), hp.2.bind hy.2⟩

theorem lib_supG (k : Name) : Lib cfg (supG cfg.ns.defs k) (.ok (supertypesOf cfg.ns.defs k)) :=
  ⟨safe_supG _ k, supG_eq_cachedW _ k ▸ returns_supW (fun _ _ => .drop (.ret rfl)) k⟩

theorem lib_forBodyP : ∀ (ds : List Name) (st : List (List Name)) (acc : List Name),
    Lib cfg (forBodyP cfg.ns.defs ds st acc) (.ok (forBody (supertypesOf cfg.ns.defs) false ds st acc))
  | [], _, _ => .ret _
  | d :: ds, st, acc => by
    by_cases hd : d ∈ acc
    · simp only [forBodyP, forBody, hd, if_true]
      exact lib_forBodyP ds st acc
    · simp only [forBodyP, forBody, hd, if_false, Bool.not_false, Bool.and_true]
      refine (lib_supG d).bind fun x => ?_
      cases x with
      | ok _ => exact ⟨_, lib_forBodyP ds _ _, fun h => by cases h; rfl⟩
      | _ => exact ⟨_, .ret _, fun h => nomatch h⟩

theorem lib_wlP : ∀ (fuel : Nat) (st : List (List Name)) (acc : List Name),
    Lib cfg (wlP cfg.ns.defs fuel st acc) (wl (supertypesOf cfg.ns.defs) false fuel st acc)
  | 0, [], _ => .ret _
  | 0, _ :: _, _ => .ret _
  | _ + 1, [], _ => .ret _
  | fuel + 1, v :: st, acc => (lib_forBodyP v st acc).bind fun x => by
      cases x with
      | ok _ => exact ⟨_, lib_wlP fuel _ _, fun h => by cases h; rfl⟩
      | _ => exact ⟨_, .ret _, fun h => nomatch h⟩

theorem lib_allSupP (s : Name) : Lib cfg (allSupP cfg.fuel cfg.ns.defs s) (allSupertypesOf cfg.fuel cfg.ns s) :=
  (lib_supG s).bind fun x => by
    cases x with
    | ok _ => exact ⟨_, lib_wlP _ _ _, fun h => by cases h; rfl⟩
    | _ => exact ⟨_, .ret _, fun h => nomatch h⟩

theorem lib_computeInhP (k : Name) :
    Lib cfg (computeInhP cfg.fuel cfg.ns k) (inheritance cfg.fuel cfg.ns k) := by
  unfold computeInhP inheritance
  split
  · exact (lib_allSupP k).bind fun x => by cases x <;> exact ⟨_, .ret _, fun h => h ▸ rfl⟩
  · exact .ret _

theorem returns_inhW {fin : V → Prog (Res V)} (hfin : ∀ v, Returns cfg (fin v) (.ok v)) (k : Name) :
    Returns cfg (cachedW fin .inh k (computeInhP cfg.fuel cfg.ns k)) (inheritance cfg.fuel cfg.ns k) :=
  returns_cachedW hfin (lib_computeInhP k).2 fun _ => Iff.rfl

theorem lib_inhG (k : Name) : Lib cfg (inhG cfg.fuel cfg.ns k) (inheritance cfg.fuel cfg.ns k) :=
  inhG_eq_cachedW _ _ k ▸ ⟨safe_cachedG .inh k (lib_computeInhP k).1, returns_inhW (fun _ _ => .drop (.ret rfl)) k⟩

theorem lib_fitsP (a b : Name) : Lib cfg (fitsP cfg.fuel cfg.ns a b) (fits cfg.fuel cfg.ns a b) := by
  unfold fitsP fits
  split
  · exact (lib_inhG a).bind fun x => by cases x <;> exact ⟨_, .ret _, fun h => h ▸ rfl⟩
  · exact .ret _

theorem lib_findSupP : ∀ (ds acc : List Name),
    Lib cfg (findSupP cfg.fuel cfg.ns.defs ds acc) (findSupertypesFromDefs cfg.fuel cfg.ns ds acc)
  | [], _ => .ret _
  | d :: ds, acc => (lib_allSupP d).bind fun x => by
      cases x with
      | ok _ => exact ⟨_, lib_findSupP ds _, fun h => by simp only [findSupertypesFromDefs, ← h]⟩
      | _ => exact ⟨_, .ret _, fun h => by simp only [findSupertypesFromDefs, ← h]⟩

theorem lib_entityP : ∀ ds : List Name, Lib cfg (entityP cfg.fuel cfg.ns ds) (entityLoop cfg.fuel cfg.ns ds)
  | [] => .ret _
  | d :: ds => (lib_inhG d).bind fun x => by
      cases x with
      | ok _ => exact ⟨_, lib_entityP ds, fun h => by simp only [entityLoop, ← h]⟩
      | _ => exact ⟨_, .ret _, fun h => by simp only [entityLoop, ← h]⟩

theorem lib_reflectP (r : Rec) : Lib cfg (reflectP cfg.fuel cfg.ns r) (reflectFull cfg.fuel cfg.ns r) := by
  unfold reflectP reflectFull reflect
  refine (lib_findSupP _ _).bind fun x => ?_
  cases x with
  | ok ds =>
    refine ⟨if defined cfg.ns.defs entityName then
        match entityLoop cfg.fuel cfg.ns ds with | .ok _ => .ok ds | e => e.cast else .ok ds, ?_, fun h => h ▸ rfl⟩
    dsimp only
    split
    · exact (lib_entityP ds).bind fun e => by cases e <;> exact ⟨_, .ret _, fun h => h ▸ rfl⟩
    · exact .ret _
  | _ => exact ⟨_, .ret _, fun h => h ▸ rfl⟩

theorem lib_anyFitsP (base : Name) : ∀ ds : List Name,
    Lib cfg (anyFitsP cfg.fuel cfg.ns base ds) (anyFits cfg.fuel cfg.ns base ds)
  | [] => .ret _
  | d :: ds => (lib_fitsP d base).bind fun x => by
      cases x with
      | ok b =>
        cases b with
        | false => exact ⟨_, lib_anyFitsP base ds, fun h => by simp only [anyFits, ← h]⟩
        | true => exact ⟨_, .ret _, fun h => by simp only [anyFits, ← h]⟩
      | _ => exact ⟨_, .ret _, fun h => by simp only [anyFits, ← h]⟩

theorem lib_reflFitsP (r : Rec) (base : Name) :
    Lib cfg (reflFitsP cfg.fuel cfg.ns r base) (reflFitsFull cfg.fuel cfg.ns r base) :=
  (lib_reflectP r).bind fun x => by
    cases x with
    | ok _ => exact ⟨_, lib_anyFitsP base _, fun h => by simp only [reflFitsFull, ← h]⟩
    | _ => exact ⟨_, .ret _, fun h => by simp only [reflFitsFull, ← h]⟩

section assoc
open Hs.NsA

theorem lib_findReciprocalP (p r : Name) :
    Lib cfg (findReciprocalP cfg.fuel cfg.x p r) (findReciprocal cfg.fuel cfg.x p r) :=
  (lib_inhG (cfg := cfg) p).bind fun x => by
    cases x <;> exact ⟨_, .ret _, fun h => by simp only [findReciprocal, Cfg.x_ns, ← h] <;> rfl⟩

theorem lib_associationsP (p a : Name) :
    Lib cfg (associationsP cfg.fuel cfg.x p a) (associations cfg.fuel cfg.x p a) := by
  unfold associationsP associations
  cases getX cfg.x.xd a with
  | none => exact .ret _
  | some ad =>
    dsimp only
    split
    · exact .ret _
    split
    · cases getX cfg.x.xd p with
      | none => exact .ret _
      | some pd => dsimp only; cases pd.getList a <;> exact .ret _
    cases ad.getSymbol nReciprocalOf with
    | none => exact .ret _
    | some r =>
      dsimp only
      split
      · exact lib_findReciprocalP p r
      · exact .ret _

theorem lib_supersOfAllP : ∀ (ds acc : List Name),
    Lib cfg (supersOfAllP cfg.fuel cfg.ns ds acc) (supersOfAll cfg.fuel cfg.ns ds acc)
  | [], _ => .ret _
  | d :: ds, acc => (lib_allSupP d).bind fun x => by
      cases x with
      | ok _ => exact ⟨_, lib_supersOfAllP ds _, fun h => by simp only [supersOfAll, ← h]⟩
      | _ => exact ⟨_, .ret _, fun h => by simp only [supersOfAll, ← h]⟩

theorem lib_implementationP (s : Name) :
    Lib cfg (implementationP cfg.fuel cfg.x s) (implementation cfg.fuel cfg.x s) :=
  (lib_supersOfAllP (cfg := cfg) _ _).bind fun x => by
    cases x <;> exact ⟨_, .ret _, fun h => by simp only [Cfg.x_ns] at h; simp only [implementation, Cfg.x_ns, ← h]⟩

theorem lib_fitsTermP (term : Option Name) (s : Name) :
    Lib cfg (fitsTermP cfg.fuel cfg.ns term s) (fitsTermL cfg.fuel cfg.ns term s) := by
  cases term with
  | none => exact .ret _
  | some tm => exact lib_fitsP s tm

theorem lib_relInnerP (recs : List RecX) (rel : Name) (recip term : Option Name) (tr : Bool) (id : Option Name) :
    ∀ (ts : List SubjTag) (q : List Name) (rt : Option Name),
      Lib cfg (relInnerP cfg.fuel cfg.x recs rel recip term tr id ts q rt)
        (relInnerL cfg.fuel cfg.x recs rel recip term tr id ts q rt)
  | [], _, _ => .ret _
  | t :: rest, q, rt => by
    simp only [relInnerP, relInnerL, Cfg.x_ns]
    split
    · rename_i s _
      refine (lib_fitsTermP (cfg := cfg) term s).bind fun x => ?_
      cases x with
      | ok f =>
        refine ⟨_, ?_, fun h => by rw [← h]⟩
        dsimp only
        cases relDecide recs tr t q _ f with
        | inl st => exact .ret _
        | inr p => exact lib_relInnerP recs rel recip term tr id rest _ _
      | _ => exact ⟨_, .ret _, fun h => by rw [← h]⟩
    · exact lib_relInnerP recs rel recip term tr id rest _ _

theorem lib_relLoopP (recs : List RecX) (rel : Name) (recip term : Option Name) (tr : Bool) :
    ∀ (lf : Nat) (s : RecX) (q : List Name) (rt : Option Name),
      Lib cfg (relLoopP cfg.fuel cfg.x recs rel recip term tr lf s q rt)
        (relLoopL cfg.fuel cfg.x recs rel recip term tr lf s q rt)
  | 0, _, _, _ => .ret _
  | n + 1, s, q, rt => (lib_relInnerP recs rel recip term tr s.id s.tags q rt).bind fun x => by
      cases x with
      | ok st =>
        cases st with
        | next s' q' rt' => exact ⟨_, lib_relLoopP recs rel recip term tr n _ _ _, fun h => by simp only [relLoopL, ← h]⟩
        | _ => exact ⟨_, .ret _, fun h => by simp only [relLoopL, ← h]⟩
      | _ => exact ⟨_, .ret _, fun h => by simp only [relLoopL, ← h]⟩

theorem lib_hasRelationshipP (lf : Nat) (recs : List RecX) (rel : Name) (term target : Option Name) (s : RecX) :
    Lib cfg (hasRelationshipP cfg.fuel lf cfg.x recs rel term target s)
      (hasRelationshipL cfg.fuel lf cfg.x recs rel term target s) := by
  unfold hasRelationshipP hasRelationshipL
  simp only [Cfg.x_ns]
  cases getX cfg.x.xd rel with
  | none => exact .ret _
  | some rd =>
    refine (lib_inhG (cfg := cfg) rel).bind fun x => ?_
    cases x with
    | ok inh =>
      refine ⟨_, ?_, fun h => by rw [← h]⟩
      dsimp only
      split
      · exact .ret _
      · exact lib_relLoopP recs rel _ term _ lf s [] target
    | _ => exact ⟨_, .ret _, fun h => by rw [← h]⟩
end assoc

theorem lib_queryP (q : Query) : Lib cfg (queryP cfg q) (pureAns cfg q) := by
  cases q with
  | sup k => exact (lib_supG k).bind fun _ => ⟨_, .ret _, fun h => h ▸ rfl⟩
  | allSup k => exact (lib_allSupP k).bind fun _ => ⟨_, .ret _, fun h => h ▸ rfl⟩
  | inh k => exact (lib_inhG k).bind fun _ => ⟨_, .ret _, fun h => h ▸ rfl⟩
  | fits a b => exact (lib_fitsP a b).bind fun _ => ⟨_, .ret _, fun h => h ▸ rfl⟩
  | reflect r => exact (lib_reflectP r).bind fun _ => ⟨_, .ret _, fun h => h ▸ rfl⟩
  | reflFits r b => exact (lib_reflFitsP r b).bind fun _ => ⟨_, .ret _, fun h => h ▸ rfl⟩
  | assoc p a => exact (lib_associationsP p a).bind fun _ => ⟨_, .ret _, fun h => h ▸ rfl⟩
  | impl k => exact (lib_implementationP k).bind fun _ => ⟨_, .ret _, fun h => h ▸ rfl⟩
  | fitsRoot w k => exact (lib_fitsP k (NsA.rootName w)).bind fun _ => ⟨_, .ret _, fun h => h ▸ rfl⟩
  | rel recs r term target s =>
    exact (lib_hasRelationshipP _ recs r term target s).bind fun _ => ⟨_, .ret _, fun h => h ▸ rfl⟩

theorem lib_runQs : ∀ qs : List Query, Lib cfg (runQs cfg qs) (qs.map (pureAns cfg))
  | [] => .ret _
  | q :: qs => (lib_queryP q).bind fun _ =>
      ⟨_, (lib_runQs qs).bind fun _ => ⟨_, .ret _, fun h => by cases h; rfl⟩, fun h => by cases h; rfl⟩

end Hs.NsCache

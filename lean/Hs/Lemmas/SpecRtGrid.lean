/-
  C04 (write direction): the grid.  The column line through `cols`; one row through `cells`, with the row dict (`dictOf`
  of the cells in column order is the image of the row: the instance `specImg` of `dictOf_cells_img`); all rows through
  `rows`; the grid through `grid`, at top level and nested in `<<` … `>>`.  `RowOkS`, `GridOkS` say what these
  need, and the shape predicates inside `wfV` provide it (`S` for `Hs.Spec`: the library reader's ladder has `CellsOk`,
  `RowOk`, `GridOkG` on writer output and `RowOkW`, `GridOkW` on sentences).
-/
import Hs.Lemmas.SpecRtSeq
namespace Hs.Spec
open Hs Hs.Zinc Hs.Scan

theorem specImgC_toList_cons (n : List Char) (md : OTags) (c : Cols) :
    (specImgC (.cons n md c)).toList = (n, specImgO md) :: (specImgC c).toList := by
  simp [specImgC, Cols.toList]

theorem metaPart_stop (md : OTags) (term : UInt8) (hterm : isLitB term = false) (after : List UInt8) :
    Stop isLitB (metaPart md ++ term :: after) := by
  cases md with
  | none => exact Stop_cons hterm
  | some t =>
    cases t with
    | nil => simpa [metaPart, Tags.isEmpty] using Stop_cons (P := isLitB) (r := after) hterm
    | cons k v t' => simp only [metaPart, Tags.isEmpty]; exact Stop_cons (by decide)

theorem cols_step {term : UInt8} (st : TermC term) (n : List Char) (md : OTags) (hn : isIdent n = true)
    (hs : metaShape md = true) (hr : RdO md) (f : Nat) (after : List UInt8)
    (acc : List (List Char × OTags)) (hf : (metaPart md).length + 3 ≤ f) :
    cols (f + 1) (encChars n ++ metaPart md ++ term :: after) acc =
      if term = 44 then cols f after (acc ++ [(n, specImgO md)])
      else (nl (term :: after)).map fun r4 => (acc ++ [(n, specImgO md)], r4) := by
  have hterm : term ≠ 32 ∧ term ≠ 9 ∧ isLitB term = false := by
    rcases st with rfl | rfl <;> decide
  have hnw : skipWs (encChars n ++ metaPart md ++ term :: after) = encChars n ++ (metaPart md ++ term :: after) := by
    rw [List.append_assoc, skipWs_ident hn]
  have hid := ident_rt n hn _ (metaPart_stop md term hterm.2.2 after)
  obtain ⟨kvs, hk, hmd⟩ := meta_rt st md hs hr f after hf
  rw [cols.eq_def]
  simp only [hnw, hid, hk, hmd, skipWs_cons hterm.1 hterm.2.1]
  rcases st with rfl | rfl
  · simp
  · simp [nl]

theorem cols_rt : ∀ (n : List Char) (md : OTags) (c : Cols), colsShapeAux (.cons n md c) = true → RdC (.cons n md c) →
    ∀ (fuel : Nat) (rest : List UInt8) (acc : List (List Char × OTags)), colsLen (.cons n md c) + 3 ≤ fuel →
    cols fuel (encCols (.cons n md c) ++ 10 :: rest) acc = some (acc ++ (specImgC (.cons n md c)).toList, rest)
  | n, md, .nil, hok, hr, fuel, rest, acc, hf => by
    obtain ⟨f, rfl⟩ : ∃ f, fuel = f + 1 := ⟨fuel - 1, by omega⟩
    obtain ⟨hn, hm, _⟩ := colsShapeAux_tail hok
    simp only [colsLen, List.length_append] at hf
    rw [encCols_one, cols_step (Or.inr rfl) n md hn hm hr.1 f rest acc (by omega)]
    simp [nl, specImgC, Cols.toList]
  | n, md, .cons n2 md2 c, hok, hr, fuel, rest, acc, hf => by
    obtain ⟨f, rfl⟩ : ∃ f, fuel = f + 1 := ⟨fuel - 1, by omega⟩
    obtain ⟨hn, hm, hc⟩ := colsShapeAux_tail hok
    simp only [colsLen, List.length_append] at hf
    rw [encCols_cons2]
    simp only [List.append_assoc, List.cons_append]
    rw [← List.append_assoc, cols_step (Or.inl rfl) n md hn hm hr.1 f _ acc (by omega)]
    simp only [if_true]
    rw [cols_rt n2 md2 c hc hr.2 f rest _ (by simp only [colsLen, List.length_append]; omega),
      specImgC_toList_cons n md]
    simp

def cellsOfS (r : Tags) (ns : List (List Char)) : List (List Char × Val) :=
  ns.filterMap (fun n => (r.get? n).map (fun v => (n, specImg v)))

theorem dictOf_cellsOfS (r : Tags) (names : List (List Char))
    (hsub : ∀ k ∈ r.keys, k ∈ names) (hsort : keysSorted r.keys = true) :
    Hs.Spec.dictOf (cellsOfS r names) = specImgT r := by
  rw [dictOf_eq]
  exact dictOf_cells_img specImg r _ (specImgT_toList r) names hsub hsort

theorem cells_step_empty (f : Nat) (c : UInt8) (r : In) (hc : c = 44 ∨ c = 10) (n : List Char)
    (ns : List (List Char)) (acc : List (List Char × Val)) :
    cells (f + 1) (c :: r) (n :: ns) acc =
      if c = 44 then (if ns.isEmpty then none else cells f r ns acc) else some (acc, r) := by
  rw [cells.eq_def]
  rcases hc with rfl | rfl
  · simp [skipWs_cons]
  · simp [skipWs_cons, nl]

theorem cells_step_val (f : Nat) (i : In) (hst : Start i) (v : Val) (c : UInt8) (r : In) (hc : c = 44 ∨ c = 10)
    (hv : value f i = some (v, c :: r)) (n : List Char) (ns : List (List Char)) (acc : List (List Char × Val)) :
    cells (f + 1) i (n :: ns) acc =
      if c = 44 then (if ns.isEmpty then none else cells f r ns (acc ++ [(n, v)])) else some (acc ++ [(n, v)], r) := by
  obtain ⟨b, t, rfl, hb⟩ := hst
  have ne : ∀ c, isStartB c = false → b ≠ c := fun _ => ne_of_class hb
  rw [cells.eq_def]
  simp [skipWs_cons (ne 32 (by decide)) (ne 9 (by decide)), hv, ne 44 (by decide), ne 10 (by decide), ne 13 (by decide)]
  rcases hc with rfl | rfl
  · simp [skipWs_cons]
  · simp [skipWs_cons, nl]

def CellsOkS (r : Tags) (ns : List (List Char)) (single : Bool) : Prop :=
  ∀ n ∈ ns, (∀ v, r.get? n = some v → Rd v) ∧ (single = true → r.get? n ≠ none)

theorem cellsOfS_cons (r : Tags) (n : List Char) (ns : List (List Char)) :
    cellsOfS r (n :: ns) = cellsOfS r [n] ++ cellsOfS r ns := by
  rw [cellsOfS, ← List.singleton_append, List.filterMap_append]; rfl

theorem cells_cell (r : Tags) (single : Bool) (n : List Char) (hcell : ∀ v, r.get? n = some v → Rd v)
    (hsingle : single = true → r.get? n ≠ none) (f : Nat) (c : UInt8) (hc : c = 44 ∨ c = 10) (tl : List UInt8)
    (ns : List (List Char)) (acc : List (List Char × Val)) (hf : (cellBytes r n single).length + 2 ≤ f) :
    cells (f + 1) (cellBytes r n single ++ c :: tl) (n :: ns) acc =
      if c = 44 then (if ns.isEmpty then none else cells f tl ns (acc ++ cellsOfS r [n]))
      else some (acc ++ cellsOfS r [n], tl) := by
  cases hget : r.get? n with
  | none =>
    have hsf : single = false := by
      cases single with
      | false => rfl
      | true => exact absurd hget (hsingle rfl)
    simp only [cellBytes, hget, hsf, Bool.false_eq_true, if_false, List.nil_append]
    rw [cells_step_empty f c tl hc]
    simp [cellsOfS, hget]
  | some v =>
    simp only [cellBytes, hget] at hf ⊢
    have hrd := hcell v hget
    have hv := hrd.reads f (c :: tl) (.of_end tl (by rcases hc with h | h <;> simp [h])) hf
    rw [cells_step_val f _ (hrd.start.append _) _ c tl hc hv]
    simp [cellsOfS, hget]

theorem cells_rt (r : Tags) (single : Bool) : ∀ (ns : List (List Char)), ns ≠ [] → CellsOkS r ns single →
    ∀ (fuel : Nat) (rest : List UInt8) (acc : List (List Char × Val)),
    (rowBytes r ns single).length + 3 ≤ fuel →
    cells fuel (rowBytes r ns single ++ 10 :: rest) ns acc = some (acc ++ cellsOfS r ns, rest)
  | [], h, _, _, _, _, _ => absurd rfl h
  | [n], _, hok, fuel, rest, acc, hf => by
    obtain ⟨f, rfl⟩ : ∃ f, fuel = f + 1 := ⟨fuel - 1, by omega⟩
    obtain ⟨hcell, hsingle⟩ := hok n (by simp)
    simp only [rowBytes] at hf ⊢
    rw [cells_cell r single n hcell hsingle f 10 (Or.inr rfl) rest [] acc (by omega)]
    simp
  | n :: n2 :: ns, _, hok, fuel, rest, acc, hf => by
    obtain ⟨f, rfl⟩ : ∃ f, fuel = f + 1 := ⟨fuel - 1, by omega⟩
    obtain ⟨hcell, hsingle⟩ := hok n (by simp)
    simp only [rowBytes, List.length_append, List.length_cons] at hf
    simp only [rowBytes, List.append_assoc, List.cons_append]
    rw [cells_cell r single n hcell hsingle f 44 (Or.inl rfl) _ (n2 :: ns) acc (by omega)]
    simp only [if_true, List.isEmpty_cons, Bool.false_eq_true, if_false]
    rw [cells_rt r single (n2 :: ns) (by simp) (fun x hx => hok x (by simp [hx])) f rest _ (by omega),
      cellsOfS_cons r n (n2 :: ns)]
    simp

structure RowOkS (r : Tags) (names : List (List Char)) (single : Bool) : Prop where
  cells : CellsOkS r names single
  sorted : keysSorted r.keys = true
  sub : ∀ k ∈ r.keys, k ∈ names

def RowsOkS (names : List (List Char)) (single : Bool) : Rows → Prop
  | .nil => True
  | .cons r rs => RowOkS r names single ∧ RowsOkS names single rs

theorem rowOkS_of_shape (names : List (List Char)) (single : Bool) (r : Tags)
    (hs : rowShape names single r = true) (hr : RdT r) : RowOkS r names single :=
  have ⟨h1, h2, h3⟩ := rowShape_parts hs
  ⟨fun n hn => ⟨fun v hv => get?_all (P := Rd) (Q := RdT) (fun _ _ _ h => h) r hr n v hv, fun hsingle => h3 hsingle n hn⟩, h1, h2⟩

theorem rowsOkS_of_shape (names : List (List Char)) (single : Bool) : ∀ rws : Rows,
    rowsShape names single rws = true → RdR rws → RowsOkS names single rws
  | .nil, _, _ => trivial
  | .cons r rs, hs, hr =>
    ⟨rowOkS_of_shape names single r (and_true_left hs) hr.1, rowsOkS_of_shape names single rs (and_true_right hs) hr.2⟩

theorem rows_step (f : Nat) (b : UInt8) (t : In) (hb : isStartB b = true ∨ b = 44) (names : List (List Char))
    (acc : List Tags) (kvs : List (List Char × Val)) (r1 : In)
    (hc : cells f (b :: t) names [] = some (kvs, r1)) :
    rows (f + 1) (b :: t) names acc = rows f r1 names (acc ++ [Hs.Spec.dictOf kvs]) := by
  have hcl : b ≠ 62 ∧ b ≠ 10 ∧ b ≠ 13 := by
    rcases hb with hb | rfl
    · exact ⟨ne_of_class hb (by decide), ne_of_class hb (by decide), ne_of_class hb (by decide)⟩
    · decide
  have hnl : nl (b :: t) = none := by
    unfold nl
    split
    · rename_i heq; cases heq; exact absurd rfl hcl.2.1
    · rename_i heq; cases heq; exact absurd rfl hcl.2.2
    · rename_i heq; cases heq; exact absurd rfl hcl.2.2
    · rfl
  rw [rows.eq_def]
  simp [hcl.1, hnl, hc]

theorem rows_end_nested (f : Nat) (rest : In) (names : List (List Char)) (acc : List Tags) :
    rows (f + 1) (62 :: 62 :: rest) names acc = some (acc, 62 :: 62 :: rest) := by
  rw [rows.eq_def]; simp

theorem rows_end_top (f : Nat) (names : List (List Char)) (acc : List Tags) :
    rows (f + 1) [10] names acc = some (acc, []) := by
  rw [rows.eq_def]; simp [nl]

def afterRows (nested : Bool) (rest : List UInt8) : List UInt8 := if nested then 62 :: 62 :: rest else []

theorem specImgR_toList_cons (r : Tags) (rs : Rows) :
    (specImgR (.cons r rs)).toList = specImgT r :: (specImgR rs).toList := by
  simp [specImgR, Rows.toList]

theorem rows_rt (names : List (List Char)) (single nested : Bool) (rest : List UInt8) (hne : names ≠ [])
    (hsingle : names.length = 1 → single = true) :
    ∀ (rws : Rows), RowsOkS names single rws → ∀ (fuel : Nat) (acc : List Tags),
    (encRows rws names single).length + 3 ≤ fuel →
    rows fuel (encRows rws names single ++ tailR nested rest) names acc =
      some (acc ++ (specImgR rws).toList, afterRows nested rest)
  | .nil, _, fuel, acc, hf => by
    obtain ⟨f, rfl⟩ : ∃ f, fuel = f + 1 := ⟨fuel - 1, by omega⟩
    simp only [encRows, List.nil_append, tailR, afterRows]
    cases nested with
    | true => simp [rows_end_nested, specImgR, Rows.toList]
    | false => simp [rows_end_top, specImgR, Rows.toList]
  | .cons r rs, hok, fuel, acc, hf => by
    obtain ⟨f, rfl⟩ : ∃ f, fuel = f + 1 := ⟨fuel - 1, by omega⟩
    rw [encRows_cons] at hf ⊢
    simp only [List.length_append, List.length_cons] at hf
    simp only [List.append_assoc, List.cons_append]
    obtain ⟨b, t, e, hb⟩ := rowBytes_head (fun b => isStartB b = true ∨ b = 44) (Or.inr rfl) r names single
      (encRows rs names single ++ tailR nested rest) hne
      hsingle (fun n hn v hget => let ⟨b, t, e, hb⟩ := ((hok.1.cells n hn).1 v hget).start; ⟨b, t, e, Or.inl hb⟩)
      (fun h n hn => (hok.1.cells n hn).2 h)
    have hc := cells_rt r single names hne hok.1.cells f (encRows rs names single ++ tailR nested rest) [] (by omega)
    rw [e] at hc ⊢
    rw [rows_step f b t hb names acc _ _ hc]
    simp only [List.nil_append]
    rw [dictOf_cellsOfS r names hok.1.sub hok.1.sorted, rows_rt names single nested rest hne hsingle rs hok.2 f _ (by omega),
      specImgR_toList_cons]
    simp

structure GridOkS (md : OTags) (cols : Cols) (rws : Rows) (ver : List Char) : Prop where
  okVer : ver = ['3', '.', '0']
  okMeta : metaShape md = true
  rdMeta : RdO md
  okCols : colsShapeAux cols = true
  rdCols : RdC cols
  okRows : RowsOkS cols.names (cols.length == 1) rws

theorem gridOkS_of_wf {md : OTags} {cols : Cols} {rws : Rows} {ver : List Char}
    (h : wfV (.grid md cols rws ver) = true) (hs : strictV (.grid md cols rws ver) = true)
    (hO : wfO md = true → strictO md = true → RdO md) (hC : wfC cols = true → strictC cols = true → RdC cols)
    (hR : wfR rws = true → strictR rws = true → RdR rws) :
    ∃ n cm c, cols = .cons n cm c ∧ GridOkS md cols rws ver := by
  simp only [strictV, Bool.and_eq_true] at hs
  obtain ⟨hver, hms, hcs, hrs, ho, hc, hr⟩ := wfV_grid_parts h
  obtain ⟨⟨n, cm, c, rfl⟩, hca⟩ := colsShape_parts hcs
  exact ⟨n, cm, c, rfl, hver, hms, hO ho hs.1.1, hca, hC hc hs.1.2,
    rowsOkS_of_shape _ _ rws hrs (hR hr hs.2)⟩

theorem specImgC_names : ∀ c : Cols, (specImgC c).toList.map (·.1) = c.names
  | .nil => rfl
  | .cons n md c => by simp [specImgC, Cols.toList, Cols.names, specImgC_names c]

/-- the grid from `ver` on: both the nested and the top-level entry end up here -/
theorem grid_rt (md : OTags) (n : List Char) (cm : OTags) (c : Cols) (rws : Rows) (ver : List Char)
    (hok : GridOkS md (.cons n cm c) rws ver) (nested : Bool) (rest : List UInt8) (fuel : Nat)
    (hf : (metaPart md).length + colsLen (.cons n cm c)
      + (encRows rws (Cols.names (.cons n cm c)) (Cols.length (.cons n cm c) == 1)).length + 4 ≤ fuel) :
    grid fuel (gridBody md (.cons n cm c) rws nested rest) =
      some (specImg (.grid md (.cons n cm c) rws ver), afterRows nested rest) := by
  obtain ⟨f, rfl⟩ : ∃ f, fuel = f + 1 := ⟨fuel - 1, by omega⟩
  have hne : Cols.names (.cons n cm c) ≠ [] := by simp [Cols.names]
  obtain ⟨mkvs, hm1, hm2⟩ := meta_rt (Or.inr rfl) md hok.okMeta hok.rdMeta f
    (encCols (.cons n cm c) ++ 10 :: (encRows rws (Cols.names (.cons n cm c)) (Cols.length (.cons n cm c) == 1)
      ++ tailR nested rest)) (by omega)
  have hc := cols_rt n cm c hok.okCols hok.rdCols f
    (encRows rws (Cols.names (.cons n cm c)) (Cols.length (.cons n cm c) == 1) ++ tailR nested rest) [] (by omega)
  have hr := rows_rt (Cols.names (.cons n cm c)) (Cols.length (.cons n cm c) == 1) nested rest hne
    (cols_singleW _) rws hok.okRows f [] (by omega)
  have str_ver : ∀ tl, str (34 :: 51 :: 46 :: 48 :: 34 :: tl) = some (['3', '.', '0'], tl) := str_quoted ['3', '.', '0']
  simp only [gridBody, verBytes, List.cons_append, List.nil_append]
  rw [grid.eq_def]
  simp only [skipWs_cons (show (34 : UInt8) ≠ 32 by decide) (show (34 : UInt8) ≠ 9 by decide), str_ver, hm1,
    skipWs_cons (show (10 : UInt8) ≠ 32 by decide) (show (10 : UInt8) ≠ 9 by decide), nl_lf, hc, List.nil_append,
    specImgC_names, hr, hm2]
  simp [specImg, Cols.ofList_toList, Rows.ofList_toList, hok.okVer]

theorem rd_grid (md : OTags) (n : List Char) (cm : OTags) (c : Cols) (rws : Rows) (ver : List Char)
    (hok : GridOkS md (.cons n cm c) rws ver) : Rd (.grid md (.cons n cm c) rws ver) := by
  have he := enc_grid_nested md n cm c rws ver []
  simp only [List.append_nil] at he
  refine ⟨⟨60, _, he, by decide⟩, ?_⟩
  intro fuel rest _ hf
  rw [enc_grid_length] at hf
  rw [enc_grid_nested]
  obtain ⟨f, rfl⟩ : ∃ f, fuel = f + 1 := ⟨fuel - 1, by omega⟩
  have hg := grid_rt md n cm c rws ver hok true rest f (by omega)
  rw [value.eq_def]
  simp [skipWs_cons, nl_lf, hg, afterRows]

end Hs.Spec

/-
  The coded evaluation (`Hs.Model.Filter`) against the specification (`Hs.Model.FilterSpec`): path resolution,
  comparisons, grid filtering.
-/
import Hs.Model.FilterSpec
import Hs.Lemmas.ValRec
namespace Hs

/-! ### path resolution -/

theorem Val.asValue_ne_null (v x : Val) (h : v.asValue = some x) : x ≠ .null := by
  cases v <;> simp [Val.asValue] at h <;> subst h <;> simp

theorem Val.asValue_of_not_null (v : Val) (h : v.isNull = false) : v.asValue = some v := by
  cases v <;> simp [Val.asValue, Val.isNull] at h ⊢

theorem lookupSpec_ne_null (deref : List Char → Option Tags) :
    ∀ (p : FPath) (d : Tags) (x : Val), lookupSpec deref d p = some x → x ≠ .null
  | [], d, x, h => by simp [lookupSpec] at h
  | seg :: rest, d, x, h => by
    rw [lookupSpec] at h
    cases hg : d.get? seg with
    | none => simp [hg] at h
    | some v =>
      simp only [hg] at h
      cases rest with
      | nil => exact Val.asValue_ne_null v x h
      | cons s2 r2 =>
        cases v <;> simp only [] at h <;> try (exact absurd h (by simp))
        case dict d' => exact lookupSpec_ne_null deref (s2 :: r2) d' x h
        case ref id dis =>
          cases hd : deref id with
          | none => simp [hd] at h
          | some d' =>
            simp only [hd] at h
            exact lookupSpec_ne_null deref (s2 :: r2) d' x h

/-- the value `resolve_for` hands back for what the specification's look-up finds -/
def orNull : Option Val → Val
  | some v => v
  | none => .null

theorem orNull_isNull (deref : List Char → Option Tags) (d : Tags) (p : FPath) :
    (orNull (lookupSpec deref d p)).isNull = (lookupSpec deref d p).isNone := by
  cases h : lookupSpec deref d p with
  | none => rfl
  | some x =>
    have := lookupSpec_ne_null deref p d x h
    cases x <;> simp [orNull, Val.isNull] at this ⊢

theorem walk_ref (recs : List Tags) (id : List Char) (dis : Option (List Char)) (seg : List Char)
    (rest : FPath) :
    walkPath (recsStep recs) (.ref id dis) (seg :: rest) =
      match recsResolveRef recs id with
      | some d => walkPath (recsStep recs) (.dict d) (seg :: rest)
      | none => .null := by
  rw [walkPath]
  cases h : recsResolveRef recs id with
  | none => simp [recsStep, h, Val.isNull]
  | some d =>
    simp only []
    rw [walkPath]
    simp only [recsStep, h]
    rfl

theorem lookupSpec_nil (deref : List Char → Option Tags) (d : Tags) : lookupSpec deref d [] = none := by
  simp [lookupSpec]
theorem lookupSpec_none (deref : List Char → Option Tags) (d : Tags) (seg : List Char) (rest : FPath)
    (h : d.get? seg = none) : lookupSpec deref d (seg :: rest) = none := by
  rw [lookupSpec]; simp [h]
theorem lookupSpec_last (deref : List Char → Option Tags) (d : Tags) (seg : List Char) (v : Val)
    (h : d.get? seg = some v) : lookupSpec deref d [seg] = v.asValue := by
  rw [lookupSpec]; simp [h]
theorem lookupSpec_dict (deref : List Char → Option Tags) (d : Tags) (seg s2 : List Char) (r2 : FPath)
    (d' : Tags) (h : d.get? seg = some (.dict d')) :
    lookupSpec deref d (seg :: s2 :: r2) = lookupSpec deref d' (s2 :: r2) := by
  rw [lookupSpec]; simp only [h]
theorem lookupSpec_ref (deref : List Char → Option Tags) (d : Tags) (seg s2 : List Char) (r2 : FPath)
    (id : List Char) (dis : Option (List Char)) (h : d.get? seg = some (.ref id dis)) :
    lookupSpec deref d (seg :: s2 :: r2) =
      match deref id with
      | some d' => lookupSpec deref d' (s2 :: r2)
      | none => none := by
  rw [lookupSpec]; simp only [h]; rfl
theorem lookupSpec_other (deref : List Char → Option Tags) (d : Tags) (seg s2 : List Char) (r2 : FPath)
    (v : Val) (h : d.get? seg = some v) (hd : ∀ d', v ≠ .dict d') (hr : ∀ i ds, v ≠ .ref i ds) :
    lookupSpec deref d (seg :: s2 :: r2) = none := by
  rw [lookupSpec]; simp only [h]

theorem walk_dict (recs : List Tags) :
    ∀ (p : FPath) (d : Tags), p ≠ [] →
      walkPath (recsStep recs) (.dict d) p = orNull (lookupSpec (recsResolveRef recs) d p)
  | [], _, h => absurd rfl h
  | seg :: rest, d, _ => by
    cases hg : d.get? seg with
    | none =>
      rw [lookupSpec_none _ _ _ _ hg, walkPath]
      simp [recsStep, Tags.getOrNull, hg, Val.isNull, orNull]
    | some v =>
      have hstep : recsStep recs (.dict d) seg = v := by simp [recsStep, Tags.getOrNull, hg]
      rw [walkPath]
      simp only [hstep]
      cases rest with
      | nil =>
        rw [lookupSpec_last _ _ _ _ hg]
        cases v <;> simp [walkPath, Val.isNull, Val.asValue, orNull]
      | cons s2 r2 =>
        cases v
        case null => simp [lookupSpec_other _ _ _ _ _ _ hg, Val.isNull, orNull]
        case dict d' =>
          rw [lookupSpec_dict _ _ _ _ _ _ hg]
          simp only [Val.isNull, Bool.false_eq_true, if_false]
          exact walk_dict recs (s2 :: r2) d' (by simp)
        case ref id dis =>
          rw [lookupSpec_ref _ _ _ _ _ _ _ hg, walk_ref]
          simp only [Val.isNull, Bool.false_eq_true, if_false]
          cases hd : recsResolveRef recs id with
          | none => simp [orNull]
          | some d' => exact walk_dict recs (s2 :: r2) d' (by simp)
        -- a value of any other kind can be neither indexed nor dereferenced: the walk breaks with Null at the next
        -- segment, where the look-up answers `none`
        all_goals simp [lookupSpec_other _ _ _ _ _ _ hg, walkPath, recsStep, Val.isNull, orNull]

/-- `Recs::resolve_for` is the specification's look-up (`Null` for "does not resolve") -/
theorem recsResolveFor_spec (recs : List Tags) (root : Tags) (p : FPath) :
    recsResolveFor recs root p = orNull (lookupSpec (recsResolveRef recs) root p) := by
  unfold recsResolveFor
  cases p with
  | nil => simp [lookupSpec, orNull]
  | cons seg rest =>
    cases root with
    | nil => simp [Tags.isEmpty, lookupSpec, Tags.get?, orNull]
    | cons k v t =>
      simp only [List.isEmpty_cons, Tags.isEmpty, Bool.or_self, Bool.false_eq_true, if_false]
      exact walk_dict recs (seg :: rest) (.cons k v t) (by simp)

theorem dictStep_eq : dictStep = recsStep [] := by
  funext cur seg
  cases cur <;> simp [dictStep, recsStep, recsResolveRef]

/-- `impl PathResolver for Dict` is the record resolver without records -/
theorem dictResolver_eq : dictResolver = recsResolver [] := by
  simp only [dictResolver, recsResolver, List.length_nil, Nat.zero_add, Resolver.mk.injEq, and_true]
  constructor
  · funext root p
    simp [dictResolveFor, recsResolveFor, dictStep_eq]
  · funext id
    simp [recsResolveRef]

/-! ### comparisons -/

/-- an ordering operator is "of the same kind, and ordered as stated": the four closures `ordLt` … `ordGe` are
`CmpOp.ordered` at their operator, and on one kind `Val.pcmp` compares the payloads -/
theorem apply_order (op : CmpOp) (h : op.isOrder = true) (a b : Val) :
    op.apply a b = (sameKind a b && op.ordered (Val.pcmpSame a b)) := by
  cases hs : sameKind a b with
  | false => cases op <;> simp [CmpOp.isOrder] at h <;> simp [CmpOp.apply, hs]
  | true =>
    have hk : Val.pcmp a b = Val.pcmpSame a b := Val.pcmp_of_kind_eq (beq_iff_eq.1 hs)
    cases op <;> simp [CmpOp.isOrder] at h <;> simp only [CmpOp.apply, hs, hk, Bool.true_and] <;>
      cases Val.pcmpSame a b with
      | none => rfl
      | some x => cases x <;> rfl

theorem apply_eq_stands (env : SpecEnv) (op : CmpOp) (v lit : Val)
    (h : ∀ a b, v = .num a → lit = .num b → op.isOrder = true → a.unit = b.unit) :
    op.apply v lit = stands env op v lit := by
  cases hop : op.isOrder with
  | false => cases op <;> simp [CmpOp.isOrder] at hop <;> simp [CmpOp.apply, stands]
  | true =>
    rw [apply_order op hop]
    have hst : stands env op v lit = (v.kindIdx == lit.kindIdx && orderedSame env op v lit) := by
      cases op <;> simp [CmpOp.isOrder] at hop <;> rfl
    rw [hst, sameKind]
    cases hk : (v.kindIdx == lit.kindIdx) with
    | false => rfl
    | true =>
      simp only [Bool.true_and]
      cases v <;> simp only [orderedSame]
      case num a =>
        cases lit <;> simp [Val.kindIdx] at hk
        case num b =>
          have hu : a.unit = b.unit := h a b rfl rfl hop
          simp [Val.pcmpSame, Num.pcmp, hu]

theorem mixedIn_num (n a : Num) : mixedIn n (.num a) = (a.unit != n.unit) := by
  simp [mixedIn]

theorem holdsOf_null (env : SpecEnv) (op : CmpOp) (lit : Val) : holdsOf env op lit .null = false := by
  simp [holdsOf]

theorem cmpDispatch_other (op : CmpOp) (v lit : Val) (h1 : v.isNull = false) (h2 : v.isList = false) :
    cmpDispatch op v lit = op.apply v lit := by
  cases v <;> simp [Val.isNull, Val.isList] at h1 h2 <;> simp [cmpDispatch]

theorem holdsOf_other (env : SpecEnv) (op : CmpOp) (lit v : Val) (h1 : v.isNull = false)
    (h2 : v.isList = false) : holdsOf env op lit v = stands env op v lit := by
  cases v <;> simp [Val.isNull, Val.isList] at h1 h2 <;> simp [holdsOf]

theorem cmpDispatch_direct (env : SpecEnv) (op : CmpOp) (lit v : Val) (h1 : v.isNull = false)
    (h2 : v.isList = false) (hm : mixedVal op lit v = false) :
    cmpDispatch op v lit = holdsOf env op lit v := by
  rw [cmpDispatch_other op v lit h1 h2, holdsOf_other env op lit v h1 h2]
  refine apply_eq_stands env op _ lit ?_
  intro a b e1 e2 h3
  subst e1; subst e2
  simpa [mixedVal, h3, mixedIn] using hm

mutual
theorem cmpDispatch_spec (env : SpecEnv) (op : CmpOp) (lit : Val) (v : Val) (hm : mixedVal op lit v = false) :
    cmpDispatch op v lit = holdsOf env op lit v := by
  cases v with
  | null => simp [cmpDispatch, holdsOf]
  | list xs =>
    rw [cmpDispatch, holdsOf]
    cases hl : lit.isList with
    | true =>
      simp only [Bool.not_true, Bool.false_eq_true, if_false, if_true]
      exact apply_eq_stands env op _ lit (by intro a b h; cases h)
    | false =>
      simp only [Bool.not_false, if_true, Bool.false_eq_true, if_false]
      refine cmpDispatchAny_spec env op lit xs ?_
      cases lit <;> simp [mixedVal] at hm ⊢
      case num n => simpa [mixedIn] using hm
  | _ => exact cmpDispatch_direct env op lit _ rfl rfl hm
termination_by structural v
theorem cmpDispatchAny_spec (env : SpecEnv) (op : CmpOp) (lit : Val) :
    (xs : Vals) → (∀ n, lit = .num n → op.isOrder = true → mixedInSome n xs = false) →
      cmpDispatchAny op xs lit = holdsSome env op lit xs
  | .nil, _ => by simp [cmpDispatchAny, holdsSome]
  | .cons x xs, hm => by
    rw [cmpDispatchAny, holdsSome]
    have h1 : mixedVal op lit x = false := by
      cases lit <;> simp [mixedVal]
      case num n =>
        intro ho
        have := hm n rfl ho
        simp [mixedInSome] at this
        exact this.1
    have h2 : ∀ n, lit = .num n → op.isOrder = true → mixedInSome n xs = false := by
      intro n hn ho
      have := hm n hn ho
      simp [mixedInSome] at this
      exact this.2
    rw [cmpDispatch_spec env op lit x h1, cmpDispatchAny_spec env op lit xs h2]
termination_by structural xs => xs
end

/-! ### grids -/

theorem filterAllLoop_eq (flt : Tags → Bool) :
    ∀ (rows : Rows) (acc : List Tags), filterAllLoop flt rows acc = acc ++ rows.toList.filter flt
  | .nil, acc => by simp [filterAllLoop, Rows.toList]
  | .cons r rs, acc => by
    rw [filterAllLoop]
    cases h : flt r <;> simp [filterAllLoop_eq flt rs, Rows.toList, h]

end Hs

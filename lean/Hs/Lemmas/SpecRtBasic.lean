/-
  C04 (write direction): the reference reader's elementary functions (`span`, `skipWs`, `nl`,
  `ident`, byte classes) on writer output.  Parsers of `Hs.Spec` are plain functions
  `In → Option (α × In)`: every lemma `p_rt` has the shape `p (text ++ rest) = some (x, rest)`.
  In this ladder a definition whose docstring begins "piece of `f`" copies a part of the reader function `f`, so that
  `f` can be followed in stages; the equation that says so comes right after it (`decimal_eq`, `timeP_eq`, `scalar_kw`,
  `tags_step_marker` / `tags_step_val`).
-/
import Hs.Spec.ZincRead
import Hs.Lemmas.ZincFollow
namespace Hs.Spec
open Hs Hs.Zinc Hs.Scan

theorem isDigit_eq (b : UInt8) : isDigit b = isDigitB b := rfl
theorem isLower_eq (b : UInt8) : isLower b = isLowerB b := rfl
theorem isUpper_eq (b : UInt8) : isUpper b = isUpperB b := rfl
theorem isAlnum_eq (b : UInt8) : isAlnum b = isAlnumB b := rfl
theorem isIdChar_eq (b : UInt8) : isIdChar b = isLitB b := rfl
theorem isRefChar_eq (b : UInt8) : isRefChar b = isRefB b := by
  simp only [isRefChar, isRefB, isRefPunct, isAlnum_eq, Bool.or_assoc, Bool.or_comm, Bool.or_left_comm]
theorem isTzChar_eq (b : UInt8) : isTzChar b = isTzB b := rfl
theorem isHex_eq (b : UInt8) : isHex b = isHexB b := rfl
theorem hexVal_lower (n : Nat) (h : n < 16) : isHex (hexDigitLower n) = true ∧ Hs.Spec.hexVal (hexDigitLower n) = n := by
  have : ∀ n : Fin 16, isHex (hexDigitLower n.1) = true ∧ Hs.Spec.hexVal (hexDigitLower n.1) = n.1 := by decide
  exact this ⟨n, h⟩

theorem isRefChar_fun : isRefChar = isRefB := funext isRefChar_eq
theorem isIdChar_fun : isIdChar = isLitB := funext isIdChar_eq

theorem chars_eq (bs : List UInt8) : chars bs = asciiChars bs := rfl

theorem chars_map_byteOf {cs : List Char} (h : ∀ c ∈ cs, c.toNat < 128) : chars (cs.map byteOf) = cs := by
  rw [chars_eq]; exact asciiChars_map_byteOf h

theorem span_all (p : UInt8 → Bool) : ∀ (bs rest : List UInt8), (∀ b ∈ bs, p b = true) → Stop p rest →
    span p (bs ++ rest) = (bs, rest)
  | [], [], _, _ => by simp [span]
  | [], b :: r, _, hst => by simp [span, hst b r rfl]
  | b :: bs, rest, h, hst => by
    have ih := span_all p bs rest (fun x hx => h x (by simp [hx])) hst
    simp [span, h b (by simp), ih]

theorem span_unique {p : UInt8 → Bool} {a a' r r' : List UInt8} (ha : ∀ b ∈ a, p b = true) (hr : Stop p r)
    (ha' : ∀ b ∈ a', p b = true) (hr' : Stop p r') (e : a ++ r = a' ++ r') : a = a' ∧ r = r' := by
  have h := span_all p a r ha hr
  rw [e, span_all p a' r' ha' hr'] at h
  exact ⟨(congrArg Prod.fst h).symm, (congrArg Prod.snd h).symm⟩

theorem span_chars {P : UInt8 → Bool} {cs : List Char} (h : AllB P cs = true) (rest : List UInt8)
    (hst : Stop P rest) : span P (encChars cs ++ rest) = (cs.map byteOf, rest) := by
  obtain ⟨e, hp⟩ := encChars_ascii h
  rw [e]; exact span_all P _ rest hp hst

def NoWs (l : List UInt8) : Prop := ∀ b r, l = b :: r → b ≠ 32 ∧ b ≠ 9

theorem skipWs_noop : ∀ {l : List UInt8}, NoWs l → skipWs l = l
  | [], _ => by simp [skipWs]
  | b :: r, h => by
    obtain ⟨h1, h2⟩ := h b r rfl
    unfold skipWs
    split
    · rename_i heq; cases heq; exact absurd rfl h1
    · rename_i heq; cases heq; exact absurd rfl h2
    · rfl

theorem NoWs_cons {b : UInt8} {r : List UInt8} (h1 : b ≠ 32) (h2 : b ≠ 9) : NoWs (b :: r) := by
  intro b' r' e; cases e; exact ⟨h1, h2⟩

theorem NoWs_nil : NoWs [] := by intro b r e; cases e

theorem skipWs_cons {b : UInt8} {r : List UInt8} (h1 : b ≠ 32) (h2 : b ≠ 9) : skipWs (b :: r) = b :: r :=
  skipWs_noop (NoWs_cons h1 h2)

theorem skipWs_lower {b : UInt8} (h : isLowerB b = true) (r : List UInt8) : skipWs (b :: r) = b :: r :=
  skipWs_cons (ne_of_class h (by decide)) (ne_of_class h (by decide))

theorem skipWs_space (r : List UInt8) : skipWs (32 :: r) = skipWs r := by rw [skipWs]

theorem nl_lf (r : List UInt8) : nl (10 :: r) = some r := by simp [nl]

theorem ident_rt (k : List Char) (hk : isIdent k = true) (rest : List UInt8) (hst : Stop isLitB rest) :
    ident (encChars k ++ rest) = some (k, rest) := by
  obtain ⟨hl, hne⟩ := isIdent_lit hk
  have hsp := span_chars hl rest hst
  obtain ⟨b, r, e, hb⟩ := isIdent_head hk
  have hsp' : span isIdChar (b :: (r ++ rest)) = (k.map byteOf, rest) := by
    rw [isIdChar_fun, ← hsp, e]; rfl
  unfold ident
  rw [e]
  simp only [List.cons_append, isLower_eq, hb, if_true, hsp']
  rw [chars_map_byteOf (AllB_ascii hl)]

theorem skipWs_ident {k : List Char} (hk : isIdent k = true) (tl : List UInt8) :
    skipWs (encChars k ++ tl) = encChars k ++ tl := by
  obtain ⟨b, r, e, hb⟩ := isIdent_head hk
  rw [e]; exact skipWs_lower hb _

theorem ident_none {l : List UInt8} (h : ∀ b r, l = b :: r → isLowerB b = false) : ident l = none := by
  cases l with
  | nil => rfl
  | cons b r => simp [ident, isLower_eq, h b r rfl]

end Hs.Spec

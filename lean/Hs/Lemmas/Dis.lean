/-
  Hs.Lemmas.Dis — helper lemmas for C20 (display names): the identifier classes of the macro regex as bounds on the
  code point (`isHead1_eq` … `isTail2_eq`), what each alternative accepts, that a match is a prefix of the text at the `$`, the scan as a relation without fuel (`Segm`), and
  the first tag of the precedence chain that a record has (`firstPresent`).
-/
import Hs.Model.Dis
namespace Hs.Dis
open Hs

theorem mem_takeWhile {p : Char → Bool} {l : List Char} {x : Char} (h : x ∈ l.takeWhile p) : p x = true := by
  have := List.all_takeWhile (p := p) (l := l)
  exact (List.all_eq_true.1 this) x h

theorem head_dropWhile_false (p : Char → Bool) (l : List Char) (x : Char)
    (h : (l.dropWhile p).head? = some x) : p x = false := by
  have := List.head?_dropWhile_not p l
  rw [h] at this
  simpa using this

theorem takeWhile_run {p : Char → Bool} {run after : List Char}
    (hrun : ∀ x ∈ run, p x = true) (hstop : ∀ x, after.head? = some x → p x = false) :
    (run ++ after).takeWhile p = run ∧ (run ++ after).dropWhile p = after := by
  have h1 : (run ++ after).takeWhile p = run ++ after.takeWhile p := List.takeWhile_append_of_pos hrun
  have h2 : (run ++ after).dropWhile p = after.dropWhile p := List.dropWhile_append_of_pos hrun
  cases after with
  | nil =>
    simp only [List.append_nil, List.takeWhile_nil, List.dropWhile_nil] at h1 h2 ⊢
    exact ⟨h1, h2⟩
  | cons a as =>
    have ha : p a = false := hstop a rfl
    simp [h1, h2, ha]

/-! ### the identifier classes of the translated regex, as bounds on the code point

Whatever order the ranges are listed in: both sides are propositional combinations of bounds on `c.toNat`. -/

theorem isHead1_eq (c : Char) : isHead1 c = (97 ≤ c.toNat && c.toNat ≤ 122) := by
  rw [Bool.eq_iff_iff]
  simp [isHead1, inRanges, Gen.Dis.head1]

theorem isTail1_eq (c : Char) : isTail1 c =
    ((97 ≤ c.toNat && c.toNat ≤ 122) || (65 ≤ c.toNat && c.toNat ≤ 90) || (48 ≤ c.toNat && c.toNat ≤ 57) || c.toNat == 95) := by
  rw [Bool.eq_iff_iff]
  simp [isTail1, inRanges, Gen.Dis.tail1]
  omega

/-- the tables of alternative 2 are those of alternative 1 -/
theorem isHead2_eq (c : Char) : isHead2 c = (97 ≤ c.toNat && c.toNat ≤ 122) := isHead1_eq c

theorem isTail2_eq (c : Char) : isTail2 c =
    ((97 ≤ c.toNat && c.toNat ≤ 122) || (65 ≤ c.toNat && c.toNat ≤ 90) || (48 ≤ c.toNat && c.toNat ≤ 57) || c.toNat == 95) :=
  isTail1_eq c

/-! ### the three alternatives, declaratively -/

def IsTag (rest name after : List Char) : Prop :=
  rest = name ++ after ∧
  (∃ c run, name = c :: run ∧ isHead1 c = true ∧ (∀ x ∈ run, isTail1 x = true) ∧ Gen.Dis.tailMin1 ≤ run.length) ∧
  (∀ x, after.head? = some x → isTail1 x = false)

def IsBrace (rest name after : List Char) : Prop :=
  rest = '{' :: (name ++ '}' :: after) ∧
  (∃ c run, name = c :: run ∧ isHead2 c = true ∧ (∀ x ∈ run, isTail2 x = true) ∧ Gen.Dis.tailMin2 ≤ run.length)

def IsKey (rest k after : List Char) : Prop :=
  rest = '<' :: (k ++ keyStop :: after) ∧ (∀ x ∈ k, x ≠ keyStop) ∧ Gen.Dis.keyMin ≤ k.length

theorem IsTag.head {b : Char} {r name after : List Char} (h : IsTag (b :: r) name after) : isHead1 b = true := by
  obtain ⟨hs, ⟨c, run, rfl, hc, _⟩, _⟩ := h
  cases hs
  exact hc

theorem alt1_iff (rest : List Char) (t : Tok) (after : List Char) :
    alt1 rest = some (t, after) ↔ ∃ name, t = .tag name ∧ IsTag rest name after := by
  constructor
  · intro h
    cases rest with
    | nil => simp [alt1] at h
    | cons c cs =>
      simp only [alt1] at h
      split at h
      · rename_i hc
        split at h
        · rename_i hmin
          simp only [Option.some.injEq, Prod.mk.injEq] at h
          obtain ⟨ht, ha⟩ := h
          refine ⟨c :: cs.takeWhile isTail1, ht.symm, ?_, ⟨c, cs.takeWhile isTail1, rfl, hc, fun x hx => mem_takeWhile hx, hmin⟩, ?_⟩
          · rw [← ha]; simp
          · intro x hx; rw [← ha] at hx; exact head_dropWhile_false _ _ _ hx
        · simp at h
      · simp at h
  · rintro ⟨name, rfl, hsplit, ⟨c, run, rfl, hc, hrun, hmin⟩, hmax⟩
    subst hsplit
    obtain ⟨h1, h2⟩ := takeWhile_run hrun hmax
    simp only [alt1, List.cons_append, hc, if_true, h1, h2, hmin]

/-- table fact: the closer of `${…}` is outside the identifier class (greedy = exact) -/
theorem brace_not_tail : isTail2 '}' = false := by decide

theorem alt2_iff (rest : List Char) (t : Tok) (after : List Char) :
    alt2 rest = some (t, after) ↔ ∃ name, t = .brace name ∧ IsBrace rest name after := by
  constructor
  · intro h
    cases rest with
    | nil => simp [alt2] at h
    | cons b r1 =>
      simp only [alt2] at h
      split at h
      · rename_i hb
        cases r1 with
        | nil => simp at h
        | cons c cs =>
          simp only at h
          split at h
          · rename_i hc
            split at h
            · rename_i hmin
              split at h
              · simp at h
              · rename_i e aft hdrop
                split at h
                · rename_i he
                  simp only [Option.some.injEq, Prod.mk.injEq] at h
                  obtain ⟨ht, ha⟩ := h
                  refine ⟨c :: cs.takeWhile isTail2, ht.symm, ?_, ⟨c, cs.takeWhile isTail2, rfl, hc, fun x hx => mem_takeWhile hx, hmin⟩⟩
                  have := List.takeWhile_append_dropWhile (p := isTail2) (l := cs)
                  rw [hdrop, he, ha] at this
                  rw [hb]; simp [this]
                · simp at h
            · simp at h
          · simp at h
      · simp at h
  · rintro ⟨name, rfl, hsplit, ⟨c, run, rfl, hc, hrun, hmin⟩⟩
    subst hsplit
    have hstop : ∀ x, ('}' :: after).head? = some x → isTail2 x = false := by
      intro x hx; simp at hx; rw [← hx]; exact brace_not_tail
    obtain ⟨h1, h2⟩ := takeWhile_run hrun hstop
    simp only [alt2, List.cons_append, if_true, hc, h1, h2, hmin]

theorem isKeyChar_iff (x : Char) : isKeyChar x = true ↔ x ≠ keyStop := by
  simp [isKeyChar]

theorem alt3_iff (rest : List Char) (t : Tok) (after : List Char) :
    alt3 rest = some (t, after) ↔ ∃ k, t = .key k ∧ IsKey rest k after := by
  constructor
  · intro h
    cases rest with
    | nil => simp [alt3] at h
    | cons b cs =>
      simp only [alt3] at h
      split at h
      · rename_i hb
        split at h
        · rename_i hmin
          split at h
          · simp at h
          · rename_i e aft hdrop
            simp only [Option.some.injEq, Prod.mk.injEq] at h
            obtain ⟨ht, ha⟩ := h
            have he : e = keyStop := by
              have := head_dropWhile_false isKeyChar cs e (by rw [hdrop]; rfl)
              simpa [isKeyChar] using this
            refine ⟨cs.takeWhile isKeyChar, ht.symm, ?_, fun x hx => (isKeyChar_iff x).1 (mem_takeWhile hx), hmin⟩
            have := List.takeWhile_append_dropWhile (p := isKeyChar) (l := cs)
            rw [hdrop, he, ha] at this
            rw [hb]; simp [this]
        · simp at h
      · simp at h
  · rintro ⟨k, rfl, hsplit, hk, hmin⟩
    subst hsplit
    have hrun : ∀ x ∈ k, isKeyChar x = true := fun x hx => (isKeyChar_iff x).2 (hk x hx)
    have hstop : ∀ x, (keyStop :: after).head? = some x → isKeyChar x = false := by
      intro x hx; simp at hx; rw [← hx]; simp [isKeyChar]
    obtain ⟨h1, h2⟩ := takeWhile_run hrun hstop
    simp only [alt3, if_true, h1, h2, hmin]

/-! ### leftmost-first over the three alternatives -/

theorem alt_none_iff {o : Option (Tok × List Char)} {mk : List Char → Tok} {P : List Char → List Char → Prop}
    (h : ∀ t a, o = some (t, a) ↔ ∃ n, t = mk n ∧ P n a) : o = none ↔ ¬ ∃ n a, P n a := by
  constructor
  · rintro ho ⟨n, a, hn⟩
    have := (h (mk n) a).2 ⟨n, rfl, hn⟩
    rw [ho] at this
    cases this
  · intro hno
    cases hm : o with
    | none => rfl
    | some m =>
      obtain ⟨n, _, hn⟩ := (h m.1 m.2).1 hm
      exact absurd ⟨n, m.2, hn⟩ hno

theorem matchAt_iff (rest : List Char) (m : Tok × List Char) :
    matchAt rest = some m ↔ alt1 rest = some m ∨ (alt1 rest = none ∧ alt2 rest = some m) ∨
      (alt1 rest = none ∧ alt2 rest = none ∧ alt3 rest = some m) := by
  unfold matchAt
  cases alt1 rest with
  | some m1 => simp
  | none =>
    cases alt2 rest with
    | some m2 => simp
    | none => simp

theorem matchAt_sound {rest : List Char} {t : Tok} {after : List Char} (h : matchAt rest = some (t, after)) :
    (∃ n, t = .tag n ∧ IsTag rest n after) ∨ (∃ n, t = .brace n ∧ IsBrace rest n after) ∨
      (∃ k, t = .key k ∧ IsKey rest k after) := by
  rcases (matchAt_iff rest (t, after)).1 h with h | ⟨_, h⟩ | ⟨_, _, h⟩
  · exact .inl ((alt1_iff _ _ _).1 h)
  · exact .inr (.inl ((alt2_iff _ _ _).1 h))
  · exact .inr (.inr ((alt3_iff _ _ _).1 h))

/-! ### a match is a prefix of the text at the `$` -/

theorem matchAt_text {rest : List Char} {t : Tok} {after : List Char} (h : matchAt rest = some (t, after)) :
    '$' :: rest = t.text ++ after := by
  rcases matchAt_sound h with ⟨n, rfl, hs, _⟩ | ⟨n, rfl, hs, _⟩ | ⟨k, rfl, hs, _⟩ <;> simp [Tok.text, hs]

theorem matchAt_shorter {rest : List Char} {t : Tok} {after : List Char} (h : matchAt rest = some (t, after)) :
    after.length < rest.length := by
  rcases matchAt_sound h with ⟨n, rfl, rfl, ⟨c, run, rfl, _⟩, _⟩ | ⟨n, rfl, rfl, _⟩ | ⟨k, rfl, rfl, _⟩ <;>
    simp only [List.length_cons, List.length_append] <;> omega

def srcOf : List Seg → List Char
  | [] => []
  | s :: ss => s.src ++ srcOf ss

/-- the segmentation `Regex::replace_all` performs, as a relation without fuel -/
inductive Segm : List Char → List Seg → Prop where
  | nil : Segm [] []
  | lit (c : Char) (cs : List Char) (segs : List Seg) :
      (c ≠ '$' ∨ matchAt cs = none) → Segm cs segs → Segm (c :: cs) (.lit c :: segs)
  | mac (cs : List Char) (t : Tok) (after : List Char) (segs : List Seg) :
      matchAt cs = some (t, after) → Segm after segs → Segm ('$' :: cs) (.mac t :: segs)

theorem lex_total : ∀ (fuel : Nat) (s : List Char), s.length < fuel → ∃ segs, lex fuel s = .ok segs ∧ Segm s segs := by
  intro fuel
  induction fuel with
  | zero => intro s h; omega
  | succ fuel ih =>
    intro s h
    cases s with
    | nil => exact ⟨[], by rw [lex], .nil⟩
    | cons c cs =>
      rw [lex]
      simp only [List.length_cons] at h
      by_cases hc : c = '$'
      · rw [if_pos hc]
        cases hm : matchAt cs with
        | none =>
          obtain ⟨segs, hs, hsg⟩ := ih cs (by omega)
          exact ⟨.lit c :: segs, by simp [hs, pushSeg], .lit c cs segs (.inr hm) hsg⟩
        | some m =>
          obtain ⟨t, after⟩ := m
          have := matchAt_shorter hm
          obtain ⟨segs, hs, hsg⟩ := ih after (by omega)
          refine ⟨.mac t :: segs, by simp [hs, pushSeg], ?_⟩
          rw [hc]; exact .mac cs t after segs hm hsg
      · rw [if_neg hc]
        obtain ⟨segs, hs, hsg⟩ := ih cs (by omega)
        exact ⟨.lit c :: segs, by simp [hs, pushSeg], .lit c cs segs (.inl hc) hsg⟩

theorem segm_src : ∀ {s : List Char} {segs : List Seg}, Segm s segs → srcOf segs = s := by
  intro s segs h
  induction h with
  | nil => rfl
  | lit c cs segs _ _ ih => simp [srcOf, Seg.src, ih]
  | mac cs t after segs hm _ ih => simp only [srcOf, Seg.src, ih]; exact (matchAt_text hm).symm

theorem segm_unique : ∀ {s : List Char} {a b : List Seg}, Segm s a → Segm s b → a = b := by
  intro s a b ha
  induction ha generalizing b with
  | nil => intro hb; cases hb; rfl
  | lit c cs segs hno _ ih =>
    intro hb
    cases hb with
    | lit _ _ segs' _ h' => rw [ih h']
    | mac _ t after segs' hm h' =>
      rcases hno with h | h
      · exact absurd rfl h
      · rw [h] at hm; cases hm
  | mac cs t after segs hm _ ih =>
    intro hb
    cases hb with
    | lit _ _ segs' hno h' =>
      rcases hno with h | h
      · exact absurd rfl h
      · rw [h] at hm; cases hm
    | mac _ t' after' segs' hm' h' =>
      rw [hm] at hm'
      cases hm'
      rw [ih h']

theorem segm_no_dollar : ∀ (s : List Char), '$' ∉ s → Segm s (s.map Seg.lit) := by
  intro s
  induction s with
  | nil => intro _; exact .nil
  | cons c cs ih =>
    intro h
    simp only [List.mem_cons, not_or] at h
    exact .lit c cs _ (.inl (fun e => h.1 e.symm)) (ih h.2)

theorem render_lits (r : Rec) (loc : Loc) (s : List Char) : render r loc (s.map Seg.lit) = s := by
  induction s with
  | nil => rfl
  | cons c cs ih => simp [render, Seg.out, ih]

theorem disMacro_eq (r : Rec) (loc : Loc) (s : List Char) :
    ∃ segs, Segm s segs ∧ disMacro r loc s = .ok (render r loc segs) := by
  obtain ⟨segs, h, hs⟩ := lex_total (fuelFor s) s (by simp [fuelFor])
  exact ⟨segs, hs, by simp [disMacro, h]⟩

theorem firstPresent_none (r : Rec) (chain : List (String × Nat))
    (h : ∀ e ∈ chain, r.get e.1.toList = none) : firstPresent r chain = none := by
  induction chain with
  | nil => rfl
  | cons e rest ih =>
    obtain ⟨t, sh⟩ := e
    have h0 := h (t, sh) (by simp)
    simp only at h0
    simp only [firstPresent, h0]
    exact ih (fun e he => h e (by simp [he]))

theorem firstPresent_split (r : Rec) (pre post : List (String × Nat)) (t : String) (sh : Nat) (v : DVal)
    (hpre : ∀ e ∈ pre, r.get e.1.toList = none) (hv : r.get t.toList = some v) :
    firstPresent r (pre ++ (t, sh) :: post) = some (t, sh, v) := by
  induction pre with
  | nil => simp [firstPresent, hv]
  | cons e rest ih =>
    obtain ⟨t0, sh0⟩ := e
    have h0 := hpre (t0, sh0) (by simp)
    simp only at h0
    simp only [List.cons_append, firstPresent, h0]
    exact ih (fun e he => hpre e (by simp [he]))

end Hs.Dis

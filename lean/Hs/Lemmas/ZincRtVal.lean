/-
  C01 ladder: values through the parser.  `RdVal v` is the framing statement for one value: reading the first token of
  `enc v true ++ rest` and running `parseValue` yields the lexical image of `v` and leaves the scanner at `rest`.
  Scalars satisfy it as soon as their token does (`RdD_of_tok`); lists and dicts when their elements do.  The list loop
  is proved once, for any blank runs `B` between the items and any notion `D` of what may follow a value: the writer's
  lists have no blanks and `Delim`, the spelled lists of C04 any blanks and `DelimW`.

  Names, here and in the files above.  Every rung has a statement generic in the spelling and two instances, the
  writer's text (C01) and any sentence of the grammar (C04).  Generic: suffix `D` (`RdD`, `ItemsD`, `ColsOkD` …; also
  `LineOk`, `Lines`, `GridReads`); a lemma with blanks before its token ends in `W` (`listLoop_closeW`).  The writer's: no
  suffix (`RdVal`, `RowOk` …); `C` is the column-meta loop `colMeta` (`RdTagsC`, `MetaOkC`), `MetaOkG` the grid's meta;
  elsewhere `G` is "two columns may have the same name" (`GoodVG`, `GridOkG`).  The grammar's: suffix `W` (`TokW`,
  `RowOkW`, `DelimW` …), and `RdB`, `RdItems`, `SpOk`.
-/
import Hs.Lemmas.ZincRtLex
namespace Hs.Zinc
open Hs Hs.Scan

def TokRt (v : Val) : Prop :=
  Scalar v = true ∧ ∀ (s : Scan) (rest : List UInt8) (fuel : Nat), At s (enc v true ++ rest) → s.stash = [] →
    Delim rest → (enc v true).length + 3 ≤ fuel →
    ∃ s', lexRead fuel s = .ok { sc := s', tok := .val (lexImg v) } ∧ Post s' rest

def Starts (p : PS) : Prop :=
  match p.tok with
  | .val _ => True
  | .id _ => True
  | .ch c => c = 91 ∨ c = 123 ∨ c = 60
  | .none => False

theorem Starts.isChar {p : PS} (h : Starts p) (c : UInt8) (hc : c ≠ 91 ∧ c ≠ 123 ∧ c ≠ 60) : p.isChar c = false := by
  unfold Starts at h
  unfold PS.isChar
  split <;> simp_all
  rcases h with rfl | rfl | rfl <;> simp [Ne.symm hc.1, Ne.symm hc.2.1, Ne.symm hc.2.2]

theorem Starts.tokNone {p : PS} (h : Starts p) : p.tokNone = false := by
  unfold Starts at h
  unfold PS.tokNone
  split <;> simp_all

def RdVal (v : Val) : Prop :=
  ∀ (depth f1 f2 : Nat) (s : Scan) (rest : List UInt8), At s (enc v true ++ rest) → s.stash = [] → Delim rest →
    4 * (enc v true).length + 8 ≤ f1 → 4 * (enc v true).length + 8 ≤ f2 → depth + nestV v < 64 →
    ∃ p p', lexRead f1 s = .ok p ∧ (rest ≠ [] → p.sc.eof = false) ∧ Starts p ∧
      parseValue f2 depth p = .ok (lexImg v, p') ∧ Post p'.sc rest

theorem parseValue_val (fuel depth : Nat) (hd : depth < 64) (s : Scan) (v : Val) :
    parseValue (fuel + 1) depth { sc := s, tok := .val v } = .ok (v, { sc := s, tok := .val v }) := by
  rw [parseValue]
  have : ¬ (depth ≥ maxNestingDepth) := by unfold maxNestingDepth; omega
  simp [this]

/-! ### lists -/

/-- the item loop of `parse_list` on the remaining elements `xs` -/
def RdVals (xs : Vals) : Prop :=
  ∀ (depth fuel : Nat) (p : PS) (acc : List Val) (rest : List UInt8), At p.sc (encVals xs ++ 93 :: rest) →
    p.sc.stash = [] → 4 * (encVals xs).length + 10 ≤ fuel → depth + nestVs xs ≤ 64 →
    ∃ p', listLoop fuel depth p false acc = .ok (.list (Vals.ofList (acc ++ (lexImgs xs).toList)), p') ∧
      At p'.sc rest ∧ p'.sc.stash = []

theorem isChar_ch (s : Scan) (c d : UInt8) : PS.isChar { sc := s, tok := .ch c } d = (c == d) := rfl

section
open Hs.Spell

/-! ### values and lists, for any notion `D` of what may follow a value and any class `B` of blank runs -/

/-- `RdVal v` is `RdD Delim (enc v true) (lexImg v) (nestV v)` -/
def RdD (D : List UInt8 → Prop) (bs : List UInt8) (img : Val) (n : Nat) : Prop :=
  ∀ (depth f1 f2 : Nat) (s : Scan) (rest : List UInt8), At s (bs ++ rest) → s.stash = [] → D rest →
    4 * bs.length + 8 ≤ f1 → 4 * bs.length + 8 ≤ f2 → depth + n < 64 →
    ∃ p p', lexRead f1 s = .ok p ∧ (rest ≠ [] → p.sc.eof = false) ∧ Starts p ∧
      parseValue f2 depth p = .ok (img, p') ∧ Post p'.sc rest

/-- `TokRt v` asks this of `enc v true` before a `Delim`, `TokW bs img` before a `DelimW` -/
def TokD (D : List UInt8 → Prop) (bs : List UInt8) (img : Val) : Prop :=
  ∀ (s : Scan) (rest : List UInt8) (fuel : Nat), At s (bs ++ rest) → s.stash = [] → D rest → bs.length + 3 ≤ fuel →
    ∃ s', lexRead fuel s = .ok { sc := s', tok := .val img } ∧ Post s' rest

/-- most token readers end with nothing peeked -/
theorem TokD.of_clean {D : List UInt8 → Prop} {bs : List UInt8} {img : Val}
    (h : ∀ (s : Scan) (rest : List UInt8) (fuel : Nat), At s (bs ++ rest) → s.stash = [] → D rest →
      bs.length + 3 ≤ fuel → ∃ s', lexRead fuel s = .ok { sc := s', tok := .val img } ∧ At s' rest ∧ s'.stash = []) :
    TokD D bs img := by
  intro s rest fuel hat hs hd hf
  obtain ⟨s', e, h', hs'⟩ := h s rest fuel hat hs hd hf
  exact ⟨s', e, Post.of_clean h' hs'⟩

theorem RdD_of_tok {D : List UInt8 → Prop} {bs : List UInt8} {img : Val} (n : Nat)
    (h : TokD D bs img) : RdD D bs img n := by
  intro depth f1 f2 s rest hat hs hd hf1 hf2 hn
  obtain ⟨s', e, hp⟩ := h s rest f1 hat hs hd (by omega)
  obtain ⟨f, rfl⟩ : ∃ f, f2 = f + 1 := ⟨f2 - 1, by omega⟩
  refine ⟨_, _, e, ?_, trivial, parseValue_val f depth (by omega) s' _, hp⟩
  intro hne
  cases rest with
  | nil => exact absurd rfl hne
  | cons b r => exact hp.1.eof

def NoBlank (bs : List UInt8) : Prop := ∃ b r, bs = b :: r ∧ b ≠ 32 ∧ b ≠ 9

/-- the blank runs `B` that may stand before a value, a comma or the closing bracket (none is one), and the texts `D`
that may follow a value: a run and then `,` or `]` may -/
structure Around (B D : List UInt8 → Prop) : Prop where
  blanks : ∀ {w}, B w → Blanks w
  none : B []
  punct : ∀ {w}, B w → ∀ {c : UInt8}, c = 44 ∨ c = 93 → ∀ rest, D (w ++ c :: rest)

theorem Around.writer : Around (· = []) Delim :=
  ⟨fun h => h ▸ Blanks.nil, rfl, fun h c hc rest => h ▸ .of_end _ (by rcases hc with rfl | rfl <;> simp)⟩

theorem RdD.skip {D : List UInt8 → Prop} {bs : List UInt8} {img : Val} {n : Nat} (h : RdD D bs img n)
    (ws : List UInt8) (hws : Blanks ws) (hfirst : ws ≠ [] → NoBlank bs) (depth f1 f2 : Nat) (s : Scan)
    (rest : List UInt8) (hp : Pre s ws (bs ++ rest)) (hd : D rest) (hf1 : 4 * bs.length + ws.length + 9 ≤ f1) (hf2 : 4 * bs.length + 8 ≤ f2)
    (hn : depth + n < 64) :
    ∃ p p', lexRead f1 s = .ok p ∧ (rest ≠ [] → p.sc.eof = false) ∧ Starts p ∧
      parseValue f2 depth p = .ok (img, p') ∧ Post p'.sc rest := by
  cases ws with
  | nil => exact h depth f1 f2 s rest (by simpa using hp.here) (hp.stash_nil rfl) hd (by omega) hf2 hn
  | cons w ws' =>
    obtain ⟨b, r, rfl, hb1, hb2⟩ := hfirst (by simp)
    obtain ⟨f, rfl⟩ : ∃ f, f1 = f + 1 := ⟨f1 - 1, by omega⟩
    obtain ⟨s', f', hat', hst', hf', _, e⟩ := lexRead_skip (w :: ws') hws s b (r ++ rest) (hp.cast (by simp)) hb1 hb2
      f (by omega)
    simp only [List.length_cons] at hf1 hf2
    obtain ⟨p, p', e1, h2, h3, h4, h5⟩ := h depth (f' + 1) f2 s' rest (by simpa using hat') hst' hd
      (by simp only [List.length_cons]; omega) (by simpa using hf2) hn
    exact ⟨p, p', by rw [e, e1], h2, h3, h4, h5⟩

/-- `k` is the fuel beyond four times the length of the text: `RdVals` promises 10 for the writer's text, `RdItems` 12 for
a sentence, and an induction hypothesis comes with the constant of its instance, so `k` stays a parameter.  Below,
`3 ≤ k` is what reading `]` after blanks costs (`listLoop_closeW`), `10 ≤ k` a value (`4 * length + 9`,
`listLoop_value`) and one step of the loop, and `k ≤ 14` what `RdD` leaves for the items: the two brackets give
`4 * 2 + 8`, `parseValue` and `parseList` take one each -/
def ItemsD (B : List UInt8 → Prop) (k : Nat) (xs : Vals) (body : List UInt8) : Prop :=
  ∀ (depth fuel : Nat) (p : PS) (acc : List Val) (rest ws : List UInt8), B ws →
    Pre p.sc ws (body ++ 93 :: rest) → 4 * body.length + ws.length + k ≤ fuel → depth + nestVs xs ≤ 64 →
    ∃ p', listLoop fuel depth p false acc = .ok (.list (Vals.ofList (acc ++ (lexImgs xs).toList)), p') ∧
      At p'.sc rest ∧ p'.sc.stash = []

theorem listLoop_closeW (fuel depth : Nat) (p : PS) (ec : Bool) (acc : List Val) (rest ws : List UInt8)
    (hws : Blanks ws) (h : Pre p.sc ws (93 :: rest)) (hf : ws.length + 3 ≤ fuel) :
    ∃ p', listLoop fuel depth p ec acc = .ok (.list (Vals.ofList acc), p') ∧ At p'.sc rest ∧ p'.sc.stash = [] := by
  obtain ⟨f, rfl⟩ : ∃ f, fuel = f + 1 := ⟨fuel - 1, by omega⟩
  obtain ⟨s', e, h', hs'⟩ := lexRead_specialW ws hws p.sc 93 rest h (by decide) (by decide) f (by omega)
  refine ⟨{ sc := s', tok := .ch 93 }, ?_, h', hs'⟩
  rw [listLoop]
  simp only [PS.read, e]
  simp [isChar_ch]

theorem listLoop_comma (fuel depth : Nat) (p : PS) (acc : List Val) (after w : List UInt8)
    (hw : Blanks w) (h : Pre p.sc w (44 :: after)) (hf : w.length + 3 ≤ fuel) :
    ∃ p1 : PS, listLoop (fuel + 1) depth p true acc = listLoop fuel depth p1 false acc ∧ At p1.sc after ∧
      p1.sc.stash = [] := by
  obtain ⟨s', e, h', hs'⟩ := lexRead_specialW w hw p.sc 44 after h (by decide) (by decide) fuel (by omega)
  refine ⟨{ sc := s', tok := .ch 44 }, ?_, h', hs'⟩
  rw [listLoop]
  simp only [PS.read, e]
  simp [isChar_ch]

variable {B D : List UInt8 → Prop} {k : Nat}

theorem ItemsD_nil (A : Around B D) (hk : 3 ≤ k) : ItemsD B k .nil [] := by
  intro depth fuel p acc rest ws hws h hf hn
  obtain ⟨p', e, h', hs'⟩ := listLoop_closeW fuel depth p false acc rest ws (A.blanks hws) h (by omega)
  exact ⟨p', by simpa [lexImgs, Vals.toList] using e, h', hs'⟩

theorem listLoop_value {v : Val} {bs : List UInt8} (hv : RdD D bs (lexImg v) (nestV v)) (fuel depth : Nat) (p : PS)
    (acc : List Val) (after ws : List UInt8) (hws : Blanks ws) (hfirst : ws ≠ [] → NoBlank bs)
    (h : Pre p.sc ws (bs ++ after)) (hd : D after) (hne : after ≠ [])
    (hf : 4 * bs.length + ws.length + 9 ≤ fuel) (hn : depth + nestV v < 64) :
    ∃ p2 : PS, listLoop (fuel + 1) depth p false acc = listLoop fuel depth p2 true (acc ++ [lexImg v]) ∧
      Post p2.sc after := by
  obtain ⟨p1, p2, e1, _, hst, e2, hp2⟩ := hv.skip ws hws hfirst depth fuel fuel p.sc after h hd hf
    (by omega) hn
  refine ⟨p2, ?_, hp2⟩
  have heof : p2.sc.eof = false := by
    cases after with
    | nil => exact absurd rfl hne
    | cons b r => exact hp2.1.eof
  rw [listLoop]
  simp only [PS.read, e1]
  simp only [hst.isChar 93 (by decide), Bool.false_eq_true, if_false, e2, PS.isEof, heof]

theorem ItemsD_last (A : Around B D) (hk : 10 ≤ k) {v : Val} {bs w : List UInt8}
    (hv : RdD D bs (lexImg v) (nestV v)) (hfirst : ∀ ws, B ws → ws ≠ [] → NoBlank bs) (hw : B w) :
    ItemsD B k (.cons v .nil) (bs ++ w) := by
  intro depth fuel p acc rest ws hws h hf hn
  obtain ⟨f, rfl⟩ : ∃ f, fuel = f + 1 := ⟨fuel - 1, by omega⟩
  simp only [nestVs] at hn
  simp only [List.length_append] at hf
  obtain ⟨p2, e2, hp2⟩ := listLoop_value hv f depth p acc (w ++ 93 :: rest) ws (A.blanks hws) (hfirst ws hws)
    (h.cast (by simp)) (A.punct hw (Or.inr rfl) rest) (by simp) (by omega) (by omega)
  obtain ⟨p', e', hat', hs'⟩ := listLoop_closeW f depth p2 true (acc ++ [lexImg v]) rest w (A.blanks hw)
    (hp2.pre (by decide)) (by omega)
  refine ⟨p', ?_, hat', hs'⟩
  rw [e2, e']
  simp [lexImgs, Vals.toList]

theorem ItemsD_cons (A : Around B D) (hk : 10 ≤ k) {v : Val} {vs : Vals} {bs w w' body : List UInt8}
    (hv : RdD D bs (lexImg v) (nestV v)) (hfirst : ∀ ws, B ws → ws ≠ [] → NoBlank bs) (hw : B w)
    (hw' : B w') (ih : ItemsD B k vs body) : ItemsD B k (.cons v vs) (bs ++ w ++ 44 :: (w' ++ body)) := by
  intro depth fuel p acc rest ws hws h hf hn
  obtain ⟨f, rfl⟩ : ∃ f, fuel = f + 2 := ⟨fuel - 2, by omega⟩
  simp only [nestVs] at hn
  simp only [List.length_append, List.length_cons] at hf
  obtain ⟨p2, e2, hp2⟩ := listLoop_value hv (f + 1) depth p acc (w ++ 44 :: (w' ++ (body ++ 93 :: rest))) ws
    (A.blanks hws) (hfirst ws hws) (h.cast (by simp)) (A.punct hw (Or.inl rfl) _) (by simp) (by omega) (by omega)
  obtain ⟨p3, e3, hat3, hs3⟩ := listLoop_comma f depth p2 (acc ++ [lexImg v]) (w' ++ (body ++ 93 :: rest)) w
    (A.blanks hw) (hp2.pre (by decide)) (by omega)
  obtain ⟨p', e', hat', hs'⟩ := ih depth f p3 (acc ++ [lexImg v]) rest w' hw' (Pre.of_clean hat3 hs3) (by omega) (by omega)
  refine ⟨p', ?_, hat', hs'⟩
  rw [e2, e3, e']
  simp [lexImgs, Vals.toList]

theorem RdD_list (hk : k ≤ 14) (D' : List UInt8 → Prop) {xs : Vals} {w body : List UInt8}
    (hw : B w) (h : ItemsD B k xs body) :
    RdD D' (91 :: (w ++ body ++ [93])) (lexImg (.list xs)) (nestV (.list xs)) := by
  intro depth f1 f2 s rest hat hs _ hf1 hf2 hn
  simp only [List.cons_append, List.append_assoc, List.length_cons, List.length_append, List.length_nil,
    List.nil_append] at hat hf1 hf2
  simp only [nestV] at hn
  obtain ⟨g1, rfl⟩ : ∃ g, f1 = g + 1 := ⟨f1 - 1, by omega⟩
  obtain ⟨g2, rfl⟩ : ∃ g, f2 = g + 2 := ⟨f2 - 2, by omega⟩
  have hs1 : s.advance.stash = [] := advance_clean hs
  obtain ⟨p', e', h', hs'⟩ := h (depth + 1) g2 { sc := s.advance, tok := .ch 91 } [] rest w hw
    (Pre.of_clean (by simpa using hat.advance) hs1) (by omega) (by omega)
  have heof1 : s.advance.eof = false := hat.advance.eof_of_ne_nil (by simp)
  refine ⟨_, p', lexRead_special hat (by decide) (by decide) g1, fun _ => heof1, Or.inl rfl, ?_, Post.of_clean h' hs'⟩
  rw [parseValue]
  have : ¬ (depth ≥ maxNestingDepth) := by unfold maxNestingDepth; omega
  simp only [this, if_false]
  rw [parseList]
  simp only [isChar_ch, e']
  simp [lexImg, Vals.ofList_toList]

/-! ### lists in writer output -/

theorem RdVals_iff (xs : Vals) : RdVals xs ↔ ItemsD (· = []) 10 xs (encVals xs) := by
  constructor
  · intro h depth fuel p acc rest ws hws hp hf hn
    subst hws
    exact h depth fuel p acc rest (by simpa using hp.here) (hp.stash_nil rfl) (by simpa using hf) hn
  · intro h depth fuel p acc rest hat hs hf hn
    exact h depth fuel p acc rest [] rfl (Pre.of_clean (by simpa using hat) hs) (by simpa using hf) hn

theorem RdVals_nil : RdVals .nil := (RdVals_iff .nil).mpr (ItemsD_nil Around.writer (by decide))

theorem RdVals_cons {v : Val} {vs : Vals} (hv : RdVal v) (hvs : RdVals vs) : RdVals (.cons v vs) := by
  rw [RdVals_iff] at hvs ⊢
  have nf : ∀ ws : List UInt8, ws = [] → ws ≠ [] → NoBlank (enc v true) := fun _ h h' => absurd h h'
  cases vs with
  | nil => simpa [encVals_one] using ItemsD_last Around.writer (Nat.le_refl _) (w := []) hv nf rfl
  | cons w ws =>
    simpa [encVals_cons2] using ItemsD_cons Around.writer (Nat.le_refl _) (w := []) (w' := []) hv nf rfl rfl hvs

theorem RdVal_list {xs : Vals} (h : RdVals xs) : RdVal (.list xs) := by
  have := RdD_list (B := (· = [])) (by decide) Delim (w := []) rfl ((RdVals_iff xs).mp h)
  simp only [List.nil_append] at this
  rw [← enc_list xs true] at this
  exact this

end

end Hs.Zinc

/-
  Hs.Lemmas.Ord — a small theory of "comparison functions that behave like a total preorder
  at one point", closed under the constructions Rust's derived `Ord` uses (lexicographic
  pairs, `Option` as `cmpOpt`, lists as `cmpList`, variant index then payload), and keys into
  `Nat` or `Int`.  Point-wise, so that it can serve as the induction hypothesis of a structural
  induction on the first argument.  Two arguments carry it: `OrdAt.thenAt` (one comparison, then another) and
  `OrdAt.ofLt` (the three-way form of a strict total order); pairs, key-then-payload and `Option` are instances of the first.
-/
import Hs.Model.Cmp
namespace Hs

structure OrdAt {α : Type} (P : α → Prop) (c : α → α → Ordering) (a : α) : Prop where
  swap  : ∀ b, P b → c b a = (c a b).swap
  eq_l  : ∀ b d, P b → P d → c a b = .eq → c a d = c b d
  lt_lt : ∀ b d, P b → P d → c a b = .lt → c b d = .lt → c a d = .lt
  lt_eq : ∀ b d, P b → P d → c a b = .lt → c b d = .eq → c a d = .lt
  gt_gt : ∀ b d, P b → P d → c a b = .gt → c b d = .gt → c a d = .gt
  gt_eq : ∀ b d, P b → P d → c a b = .gt → c b d = .eq → c a d = .gt

theorem OrdAt.refl {α} {P : α → Prop} {c : α → α → Ordering} {a : α} (h : OrdAt P c a) (ha : P a) : c a a = .eq := by
  -- `c a a` is its own swap
  have hs := h.swap a ha
  cases hc : c a a
  · rw [hc] at hs; cases hs
  · rfl
  · rw [hc] at hs; cases hs

theorem OrdAt.congr {α} {P : α → Prop} {c c' : α → α → Ordering} {a : α}
    (h : OrdAt P c a) (hc : ∀ x y, c' x y = c x y) : OrdAt P c' a := by
  have : c' = c := funext fun x => funext fun y => hc x y
  rw [this]; exact h

theorem OrdAt.congrOn {α} {P : α → Prop} {c c' : α → α → Ordering} {a : α}
    (h : OrdAt P c a) (ha : P a) (hc : ∀ x y, P x → P y → c' x y = c x y) : OrdAt P c' a := by
  refine ⟨?_, ?_, ?_, ?_, ?_, ?_⟩
  · intro b hb; rw [hc b a hb ha, hc a b ha hb]; exact h.swap b hb
  all_goals intro b d hb hd; rw [hc a b ha hb, hc a d ha hd, hc b d hb hd]
  · exact h.eq_l b d hb hd
  · exact h.lt_lt b d hb hd
  · exact h.lt_eq b d hb hd
  · exact h.gt_gt b d hb hd
  · exact h.gt_eq b d hb hd

theorem OrdAt.mono {α} {P Q : α → Prop} {c : α → α → Ordering} {a : α}
    (h : OrdAt P c a) (hq : ∀ x, Q x → P x) : OrdAt Q c a :=
  ⟨fun b hb => h.swap b (hq b hb),
   fun b d hb hd => h.eq_l b d (hq b hb) (hq d hd),
   fun b d hb hd => h.lt_lt b d (hq b hb) (hq d hd),
   fun b d hb hd => h.lt_eq b d (hq b hb) (hq d hd),
   fun b d hb hd => h.gt_gt b d (hq b hb) (hq d hd),
   fun b d hb hd => h.gt_eq b d (hq b hb) (hq d hd)⟩

theorem OrdAt.comap {α β} {P : β → Prop} {c : β → β → Ordering} (f : α → β) {a : α}
    (h : OrdAt P c (f a)) : OrdAt (fun x => P (f x)) (fun x y => c (f x) (f y)) a :=
  ⟨fun b hb => h.swap (f b) hb,
   fun b d hb hd => h.eq_l (f b) (f d) hb hd,
   fun b d hb hd => h.lt_lt (f b) (f d) hb hd,
   fun b d hb hd => h.lt_eq (f b) (f d) hb hd,
   fun b d hb hd => h.gt_gt (f b) (f d) hb hd,
   fun b d hb hd => h.gt_eq (f b) (f d) hb hd⟩

/-- Every other point that matters is `mk` of something (used for one enum variant). -/
theorem OrdAt.of_mk {α β} {P : α → Prop} {c : α → α → Ordering} (mk : β → α)
    (c' : β → β → Ordering) (P' : β → Prop)
    (hrep : ∀ b, P b → ∃ b', b = mk b' ∧ P' b')
    (hc : ∀ x y, c (mk x) (mk y) = c' x y)
    {s : β} (h : OrdAt P' c' s) : OrdAt P c (mk s) := by
  refine ⟨?_, ?_, ?_, ?_, ?_, ?_⟩
  · intro b hb; obtain ⟨b', rfl, hb'⟩ := hrep b hb; rw [hc, hc]; exact h.swap b' hb'
  all_goals
    intro b d hb hd
    obtain ⟨b', rfl, hb'⟩ := hrep b hb
    obtain ⟨d', rfl, hd'⟩ := hrep d hd
    simp only [hc]
  · exact h.eq_l b' d' hb' hd'
  · exact h.lt_lt b' d' hb' hd'
  · exact h.lt_eq b' d' hb' hd'
  · exact h.gt_gt b' d' hb' hd'
  · exact h.gt_eq b' d' hb' hd'

theorem OrdAt.const {α} {P : α → Prop} (a : α) : OrdAt P (fun _ _ => Ordering.eq) a := by
  refine ⟨?_, ?_, ?_, ?_, ?_, ?_⟩
  · intro _ _; rfl
  · intro _ _ _ _ _; rfl
  all_goals intro _ _ _ _ h; cases h

/-! ### lexicographic: a first comparison, then one that need only behave among what the first calls equal -/

theorem OrdAt.thenAt {α} {P : α → Prop} {c1 c2 : α → α → Ordering} {a : α}
    (h1 : OrdAt P c1 a) (h2 : OrdAt (fun b => P b ∧ c1 a b = .eq) c2 a) :
    OrdAt P (fun x y => (c1 x y).then (c2 x y)) a := by
  -- among what `c1` calls equal to `a`, `c1` cannot tell `a` and `b` apart: `h2` applies to `b` and to `d`
  have eq2 {b d} (hb : P b) (hd : P d) (hab : c1 a b = .eq) (hbd : c1 b d = .eq) : c1 a d = .eq :=
    (h1.eq_l b d hb hd hab).trans hbd
  refine ⟨?_, ?_, ?_, ?_, ?_, ?_⟩
  · intro b hb
    simp only [h1.swap b hb]
    cases hab : c1 a b
    · rfl
    · exact h2.swap b ⟨hb, hab⟩
    · rfl
  · intro b d hb hd h
    obtain ⟨hab, h⟩ := Ordering.then_eq_eq.1 h
    simp only [h1.eq_l b d hb hd hab]
    cases hbd : c1 b d
    · rfl
    · exact h2.eq_l b d ⟨hb, hab⟩ ⟨hd, eq2 hb hd hab hbd⟩ h
    · rfl
  · intro b d hb hd h h'
    refine Ordering.then_eq_lt.2 ?_
    rcases Ordering.then_eq_lt.1 h with hab | ⟨hab, h⟩ <;> rcases Ordering.then_eq_lt.1 h' with hbd | ⟨hbd, h'⟩
    · exact .inl (h1.lt_lt b d hb hd hab hbd)
    · exact .inl (h1.lt_eq b d hb hd hab hbd)
    · exact .inl ((h1.eq_l b d hb hd hab).trans hbd)
    · exact .inr ⟨eq2 hb hd hab hbd, h2.lt_lt b d ⟨hb, hab⟩ ⟨hd, eq2 hb hd hab hbd⟩ h h'⟩
  · intro b d hb hd h h'
    refine Ordering.then_eq_lt.2 ?_
    obtain ⟨hbd, h'⟩ := Ordering.then_eq_eq.1 h'
    rcases Ordering.then_eq_lt.1 h with hab | ⟨hab, h⟩
    · exact .inl (h1.lt_eq b d hb hd hab hbd)
    · exact .inr ⟨eq2 hb hd hab hbd, h2.lt_eq b d ⟨hb, hab⟩ ⟨hd, eq2 hb hd hab hbd⟩ h h'⟩
  · intro b d hb hd h h'
    refine Ordering.then_eq_gt.2 ?_
    rcases Ordering.then_eq_gt.1 h with hab | ⟨hab, h⟩ <;> rcases Ordering.then_eq_gt.1 h' with hbd | ⟨hbd, h'⟩
    · exact .inl (h1.gt_gt b d hb hd hab hbd)
    · exact .inl (h1.gt_eq b d hb hd hab hbd)
    · exact .inl ((h1.eq_l b d hb hd hab).trans hbd)
    · exact .inr ⟨eq2 hb hd hab hbd, h2.gt_gt b d ⟨hb, hab⟩ ⟨hd, eq2 hb hd hab hbd⟩ h h'⟩
  · intro b d hb hd h h'
    refine Ordering.then_eq_gt.2 ?_
    obtain ⟨hbd, h'⟩ := Ordering.then_eq_eq.1 h'
    rcases Ordering.then_eq_gt.1 h with hab | ⟨hab, h⟩
    · exact .inl (h1.gt_eq b d hb hd hab hbd)
    · exact .inr ⟨eq2 hb hd hab hbd, h2.gt_eq b d ⟨hb, hab⟩ ⟨hd, eq2 hb hd hab hbd⟩ h h'⟩

theorem OrdAt.lex {α β} {P1 : α → Prop} {P2 : β → Prop}
    {c1 : α → α → Ordering} {c2 : β → β → Ordering} {a : α} {x : β}
    (h1 : OrdAt P1 c1 a) (h2 : OrdAt P2 c2 x) :
    OrdAt (fun p : α × β => P1 p.1 ∧ P2 p.2)
      (fun p q => (c1 p.1 q.1).then (c2 p.2 q.2)) (a, x) :=
  OrdAt.thenAt ((h1.comap Prod.fst (a := (a, x))).mono fun _ h => h.1)
    ((h2.comap Prod.snd (a := (a, x))).mono fun _ h => h.1.2)

/-! ### comparisons induced by a key into a linear order -/

/-- `c` is the three-way form of a transitive relation `lt` (that `c` is a function makes `lt` trichotomous). -/
theorem OrdAt.ofLt {α} {P : α → Prop} {c : α → α → Ordering} (lt : α → α → Prop)
    (h : ∀ a b, (c a b = .lt ↔ lt a b) ∧ (c a b = .eq ↔ a = b) ∧ (c a b = .gt ↔ lt b a))
    (trans : ∀ {a b d}, lt a b → lt b d → lt a d) (a : α) : OrdAt P c a := by
  refine ⟨?_, ?_, ?_, ?_, ?_, ?_⟩
  · intro b _
    cases hc : c a b
    · exact (h b a).2.2.2 ((h a b).1.1 hc)
    · exact (h b a).2.1.2 ((h a b).2.1.1 hc).symm
    · exact (h b a).1.2 ((h a b).2.2.1 hc)
  all_goals intro b d _ _ h1
  · rw [(h a b).2.1.1 h1]
  · exact fun h2 => (h a d).1.2 (trans ((h a b).1.1 h1) ((h b d).1.1 h2))
  · exact fun h2 => (h b d).2.1.1 h2 ▸ h1
  · exact fun h2 => (h a d).2.2.2 (trans ((h b d).2.2.1 h2) ((h a b).2.2.1 h1))
  · exact fun h2 => (h b d).2.1.1 h2 ▸ h1

theorem OrdAt.ofKey {α β} {P : α → Prop} {c : β → β → Ordering} (k : α → β) {a : α}
    (h : OrdAt (fun _ => True) c (k a)) : OrdAt P (fun x y => c (k x) (k y)) a :=
  (h.comap k).mono fun _ _ => trivial

theorem OrdAt.ofIntKey {α} {P : α → Prop} (k : α → Int) (a : α) :
    OrdAt P (fun x y => compare (k x) (k y)) a :=
  OrdAt.ofKey k (OrdAt.ofLt (· < ·) (fun _ _ => ⟨Int.compare_eq_lt, Int.compare_eq_eq, Int.compare_eq_gt⟩)
    Int.lt_trans (k a))

theorem OrdAt.ofNatKey {α} {P : α → Prop} (k : α → Nat) (a : α) :
    OrdAt P (fun x y => compare (k x) (k y)) a :=
  OrdAt.ofKey k (OrdAt.ofLt (· < ·) (fun _ _ => ⟨Nat.compare_eq_lt, Nat.compare_eq_eq, Nat.compare_eq_gt⟩)
    Nat.lt_trans (k a))

/-! ### key first, then a payload comparison that is only meaningful for equal keys -/

theorem OrdAt.keyThen {α} {P : α → Prop} (k : α → Nat) {c2 : α → α → Ordering} {a : α}
    (h : OrdAt (fun b => P b ∧ k b = k a) c2 a) :
    OrdAt P (fun x y => (compare (k x) (k y)).then (c2 x y)) a :=
  OrdAt.thenAt (OrdAt.ofNatKey k a) (h.mono fun _ hb => ⟨hb.1, (Nat.compare_eq_eq.1 hb.2).symm⟩)

/-! ### Option (None < Some): `isSome` first, then the payloads -/

def optP {α} (P : α → Prop) : Option α → Prop
  | none => True
  | some a => P a

theorem OrdAt.opt {α} {P : α → Prop} {c : α → α → Ordering} {o : Option α}
    (h : ∀ a, o = some a → OrdAt P c a) : OrdAt (optP P) (cmpOpt c) o := by
  refine (OrdAt.keyThen (P := optP P) (fun o => o.isSome.toNat) (c2 := cmpOpt c) ?_).congr fun x y => by
    cases x <;> cases y <;> rfl
  -- what is left: among the options with the key of `o` (0 for `none`, 1 for `some _`), `cmpOpt c` is the payload order
  cases o with
  | none =>
    refine OrdAt.of_mk (fun _ : Unit => none) (fun _ _ => .eq) (fun _ => True) (fun b hb => ?_) (fun _ _ => rfl)
      (OrdAt.const ())
    cases b with
    | none => exact ⟨(), rfl, trivial⟩
    | some _ => cases hb.2
  | some a =>
    refine OrdAt.of_mk some c P (fun b hb => ?_) (fun _ _ => rfl) (h a rfl)
    cases b with
    | none => cases hb.2
    | some b => exact ⟨b, rfl, hb.1⟩

/-- A list-like type seen through `un` (head and tail, or nothing): a comparison that is `cmpOpt c'` on
what `un` exposes behaves at `a` as well as `c'` does at what `a` exposes. -/
theorem OrdAt.ofUncons {α β} {P : α → Prop} {Q : β → Prop} {c : α → α → Ordering}
    {c' : β → β → Ordering} (un : α → Option β) (hc : ∀ x y, c x y = cmpOpt c' (un x) (un y))
    (hP : ∀ x, P x → optP Q (un x)) {a : α} (h : ∀ p, un a = some p → OrdAt Q c' p) : OrdAt P c a :=
  (((OrdAt.opt h).comap un).congr hc).mono hP

/-! ### lists (shorter prefix first) -/

def unconsL {α} : List α → Option (α × List α)
  | [] => none
  | a :: as => some (a, as)

theorem cmpList_eq {α} (c : α → α → Ordering) (x y : List α) :
    cmpList c x y =
      cmpOpt (fun p q : α × List α => (c p.1 q.1).then (cmpList c p.2 q.2)) (unconsL x) (unconsL y) := by
  cases x <;> cases y <;> rfl

theorem OrdAt.list {α} {P : α → Prop} {c : α → α → Ordering} :
    ∀ (l : List α), (∀ x ∈ l, OrdAt P c x) → OrdAt (fun l' => ∀ y ∈ l', P y) (cmpList c) l := by
  have hP : ∀ x : List α, (∀ y ∈ x, P y) → optP (fun p : α × List α => P p.1 ∧ ∀ y ∈ p.2, P y) (unconsL x) := by
    intro x hx
    cases x with
    | nil => trivial
    | cons a as => exact ⟨hx a (by simp), fun y hy => hx y (by simp [hy])⟩
  intro l
  induction l with
  | nil => exact fun _ => OrdAt.ofUncons unconsL (cmpList_eq c) hP (fun _ h => nomatch h)
  | cons a as ih =>
    intro hl
    refine OrdAt.ofUncons unconsL (cmpList_eq c) hP fun p hp => ?_
    cases hp
    exact OrdAt.lex (hl a (by simp)) (ih fun x hx => hl x (by simp [hx]))

end Hs

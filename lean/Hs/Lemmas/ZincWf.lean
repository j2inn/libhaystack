/-
  The Boolean predicates on values that the Zinc statements speak in (`wfV` and its family, the per-kind conditions,
  the shapes of grids, `wfS`), with the lemmas that eliminate them (`dtOk_elim` needs a writer equation and is in
  `ZincEncForm`); the lexical image `lexImg` and the nesting depth `nestV`; the parts of the writer's text as
  definitions; the statements about a spelled meta and column line, generic in what is asked of the tags.  No scalar
  reader is mentioned; of the parser only `dictOf`, the dict it collects a row's cells into (`dictOf_cells_img`, for
  any image function: the reader's and the reference reader's).
-/
import Hs.Lemmas.ZincRtSort
import Hs.Lemmas.ZincSyntax
import Hs.Lemmas.ZincTexts

namespace Hs.Zinc
open Hs Hs.Scan Hs.Spell

/-! ### the conditions on scalars, with what each says as facts -/

def dateOk (d : Date) : Bool :=
  d.txt.all (fun c => c.toNat < 128) &&
  match d.txt.map byteOf with
  | [y0, y1, y2, y3, 45, m0, m1, 45, d0, d1] =>
    isDigitB y0 && isDigitB y1 && isDigitB y2 && isDigitB y3 && isDigitB m0 && isDigitB m1 && isDigitB d0
      && isDigitB d1 && mkDate [y0, y1, y2, y3, 45, m0, m1, 45, d0, d1] == some d
  | _ => false

theorem dateOk_elim {d : Date} (hok : dateOk d = true) :
    ∃ y0 y1 y2 y3 m0 m1 d0 d1, encChars d.txt = [y0, y1, y2, y3, 45, m0, m1, 45, d0, d1] ∧
      DateDigits y0 y1 y2 y3 m0 m1 d0 d1 ∧ mkDate [y0, y1, y2, y3, 45, m0, m1, 45, d0, d1] = some d := by
  simp only [dateOk, Bool.and_eq_true] at hok
  obtain ⟨hasc, hm⟩ := hok
  rw [encChars_all_ascii hasc]
  split at hm
  · rename_i y0 y1 y2 y3 m0 m1 d0 d1 heq
    simp only [Bool.and_eq_true, beq_iff_eq] at hm
    obtain ⟨⟨⟨⟨⟨⟨⟨⟨hy0, hy1⟩, hy2⟩, hy3⟩, hm0⟩, hm1⟩, hd0⟩, hd1⟩, hmk⟩ := hm
    exact ⟨y0, y1, y2, y3, m0, m1, d0, d1, heq, ⟨hy0, hy1, hy2, hy3, hm0, hm1, hd0, hd1⟩, hmk⟩
  · simp at hm

theorem firstW_date (d : Date) (h : dateOk d = true) : FirstW (encChars d.txt) := by
  obtain ⟨y0, _, _, _, _, _, _, _, heq, hdg, _⟩ := dateOk_elim h
  rw [heq]
  exact firstW_of_digit _ _ hdg.y0

def timeOk (t : Time) : Bool :=
  t.txt.all (fun c => c.toNat < 128) &&
  match t.txt.map byteOf with
  | h0 :: h1 :: 58 :: m0 :: m1 :: 58 :: s0 :: s1 :: tl =>
    isDigitB h0 && isDigitB h1 && isDigitB m0 && isDigitB m1 && isDigitB s0 && isDigitB s1 &&
    (match tl with
     | [] => mkTime [h0, h1, 58, m0, m1, 58, s0, s1] none == some t
     | 46 :: f0 :: fr => (f0 :: fr).all isDigitB && mkTime [h0, h1, 58, m0, m1, 58, s0, s1] (some (f0 :: fr)) == some t
     | _ => false)
  | _ => false

def TimeInv (t : Time) (bs : List UInt8) : Prop :=
  ∃ h0 h1 m0 m1 s0 s1 tl, bs = h0 :: h1 :: 58 :: m0 :: m1 :: 58 :: s0 :: s1 :: tl ∧
    TimeDigits h0 h1 m0 m1 s0 s1 ∧
    ((tl = [] ∧ mkTime [h0, h1, 58, m0, m1, 58, s0, s1] none = some t) ∨
     (∃ f0 fr, tl = 46 :: f0 :: fr ∧ (∀ b ∈ f0 :: fr, isDigitB b = true) ∧
        mkTime [h0, h1, 58, m0, m1, 58, s0, s1] (some (f0 :: fr)) = some t))

theorem timeInv_canon (t : Time) (hok : timeOk t = true) : TimeInv t (encChars t.txt) := by
  simp only [timeOk, Bool.and_eq_true] at hok
  obtain ⟨hasc, hm⟩ := hok
  rw [encChars_all_ascii hasc]
  split at hm
  · rename_i h0 h1 m0 m1 s0 s1 tl heq
    simp only [Bool.and_eq_true] at hm
    obtain ⟨⟨⟨⟨⟨⟨hh0, hh1⟩, hm0⟩, hm1⟩, hs0⟩, hs1⟩, htl⟩ := hm
    refine ⟨h0, h1, m0, m1, s0, s1, tl, heq, ⟨hh0, hh1, hm0, hm1, hs0, hs1⟩, ?_⟩
    split at htl
    · simp only [beq_iff_eq] at htl
      exact Or.inl ⟨rfl, htl⟩
    · rename_i f0 fr
      simp only [Bool.and_eq_true, beq_iff_eq, List.all_eq_true] at htl
      exact Or.inr ⟨f0, fr, rfl, htl.1, htl.2⟩
    · simp at htl
  · simp at hm

/-- what `parseDateTime` returns for a token with the text `txt` (see the header of `Model/ZincLex.lean`) -/
def dtVal (txt : List Char) : Val := .dateTime ⟨0, 0, 0, [], [], txt⟩

/-- the text of a timestamp token: chrono's RFC 3339 text, plus the zone's city name unless the zone is UTC -/
def dtText (t : DateTime) : List Char :=
  if t.tzid == "UTC".toList then t.txt else t.txt ++ [' '] ++ t.zone

def dtOk (t : DateTime) : Bool :=
  (dtText t).all (fun c => c.toNat < 128) && dtBytesOk ((dtText t).map byteOf)

def finiteNumOk (n : Num) : Bool :=
  !Flt.isNaNBits n.v.bits && !Flt.isInfBits n.v.bits && numTextOk n.v.txt && unitOk n.unit

theorem finiteNumOk_elim {n : Num} (h : finiteNumOk n = true) :
    Flt.isNaNBits n.v.bits = false ∧ Flt.isInfBits n.v.bits = false ∧
      encNum n = n.v.txt.map byteOf ++ unitBytes n.unit ∧ asciiChars (n.v.txt.map byteOf) = n.v.txt ∧
      numBytesOk (n.v.txt.map byteOf) = true ∧ unitOk n.unit = true := by
  simp only [finiteNumOk, numTextOk, Bool.and_eq_true, Bool.not_eq_eq_eq_not, Bool.not_true] at h
  obtain ⟨⟨⟨hnan, hinf⟩, hasc, hnb⟩, hu⟩ := h
  refine ⟨hnan, hinf, ?_, asciiChars_map_byteOf (all_ascii_mem hasc), hnb, hu⟩
  simp only [encNum, hnan, hinf, Bool.false_eq_true, if_false]
  cases n.unit <;> simp [unitBytes, encChars_all_ascii hasc]

def numOk (n : Num) : Bool :=
  if Flt.isNaNBits n.v.bits then true
  else if Flt.isInfBits n.v.bits then true
  else finiteNumOk n

theorem numOk_cases {n : Num} (h : numOk n = true) :
    (Flt.isNaNBits n.v.bits = true ∨ Flt.isInfBits n.v.bits = true) ∨ finiteNumOk n = true := by
  unfold numOk at h
  by_cases h1 : Flt.isNaNBits n.v.bits = true
  · exact Or.inl (Or.inl h1)
  · by_cases h2 : Flt.isInfBits n.v.bits = true
    · exact Or.inl (Or.inr h2)
    · simp only [h1, h2, Bool.false_eq_true, if_false] at h
      exact Or.inr h

/-- what the reader needs of a number beyond its spelling -/
def numOkS (n : Num) : Bool :=
  if Flt.isNaNBits n.v.bits then true
  else if Flt.isInfBits n.v.bits then true
  else unitOk n.unit

theorem numOkS_of_numOk {n : Num} (h : numOk n = true) : numOkS n = true := by
  unfold numOkS
  rcases numOk_cases h with (h1 | h2) | h3
  · simp [h1]
  · by_cases h1 : Flt.isNaNBits n.v.bits = true <;> simp [h1, h2]
  · obtain ⟨hnan, hinf, _, _, _, hu⟩ := finiteNumOk_elim h3
    simp [hnan, hinf, hu]

/-! ### the lexical image and the nesting depth -/

def lexNumI (n : Num) : Num :=
  if Flt.isNaNBits n.v.bits then { v := { bits := nanBits, txt := "NaN".toList }, unit := none }
  else if Flt.isInfBits n.v.bits then
    (if Flt.signBit n.v.bits then { v := { bits := negInfBits, txt := "-inf".toList }, unit := none }
     else { v := { bits := posInfBits, txt := "inf".toList }, unit := none })
  else { v := { bits := lexBits, txt := n.v.txt }, unit := n.unit }

mutual
def lexImg : Val → Val
  | .num n => .num (lexNumI n)
  | .coord a b => .coord { bits := lexBits, txt := a.txt } { bits := lexBits, txt := b.txt }
  | .dateTime t =>
    .dateTime { secs := 0, ns := 0, off := 0, zone := [], tzid := [],
                txt := if t.tzid == "UTC".toList then t.txt else t.txt ++ [' '] ++ t.zone }
  | .list xs => .list (lexImgs xs)
  | .dict d => .dict (lexImgT d)
  | .grid md cols rows ver => .grid (lexImgO md) (lexImgC cols) (lexImgR rows) ver
  | v => v
def lexImgs : Vals → Vals
  | .nil => .nil
  | .cons v vs => .cons (lexImg v) (lexImgs vs)
def lexImgT : Tags → Tags
  | .nil => .nil
  | .cons k v t => .cons k (lexImg v) (lexImgT t)
def lexImgO : OTags → OTags
  | .none => .none
  | .some t => .some (lexImgT t)
def lexImgC : Cols → Cols
  | .nil => .nil
  | .cons n m c => .cons n (lexImgO m) (lexImgC c)
def lexImgR : Rows → Rows
  | .nil => .nil
  | .cons r rs => .cons (lexImgT r) (lexImgR rs)
end

mutual
def nestV : Val → Nat
  | .list xs => nestVs xs
  | .dict d => nestT d
  | .grid md cols rows _ => max (nestO md) (max (nestC cols) (nestR rows))
  | _ => 0
def nestVs : Vals → Nat
  | .nil => 0
  | .cons v vs => max (nestV v + 1) (nestVs vs)
def nestT : Tags → Nat
  | .nil => 0
  | .cons _ v t => max (nestV v + 1) (nestT t)
def nestO : OTags → Nat
  | .none => 0
  | .some t => nestT t
def nestC : Cols → Nat
  | .nil => 0
  | .cons _ m c => max (nestO m) (nestC c)
def nestR : Rows → Nat
  | .nil => 0
  | .cons r rs => max (nestT r) (nestR rs)
end

def Scalar : Val → Bool
  | .list _ => false
  | .dict _ => false
  | .grid _ _ _ _ => false
  | _ => true

def isMarker : Val → Bool
  | .marker => true
  | _ => false

theorem lexImg_marker {v : Val} (h : isMarker v = true) : v = .marker ∧ lexImg v = .marker := by
  cases v <;> simp [isMarker] at h
  exact ⟨rfl, by simp [lexImg]⟩

theorem lexImgT_keys : ∀ t : Tags, (lexImgT t).keys = t.keys
  | .nil => rfl
  | .cons k v t => by simp [lexImgT, Tags.keys, lexImgT_keys t]

theorem lexImgT_toList : ∀ t : Tags, (lexImgT t).toList = t.toList.map (fun p => (p.1, lexImg p.2))
  | .nil => rfl
  | .cons k v t => by simp [lexImgT, Tags.toList, lexImgT_toList t]

theorem lexImgC_toList_cons (n : List Char) (md : OTags) (c : Cols) :
    (lexImgC (.cons n md c)).toList = (n, lexImgO md) :: (lexImgC c).toList := by
  simp [lexImgC, Cols.toList]

theorem lexImgC_names : ∀ c : Cols, (lexImgC c).toList.map (·.1) = c.names
  | .nil => rfl
  | .cons n md c => by simp [lexImgC, Cols.toList, Cols.names, lexImgC_names c]

theorem lexImgR_toList_cons (r : Tags) (rs : Rows) : (lexImgR (.cons r rs)).toList = lexImgT r :: (lexImgR rs).toList := by
  simp [lexImgR, Rows.toList]

theorem lexImgR_length : ∀ rows : Rows, (lexImgR rows).toList.length = rows.length
  | .nil => rfl
  | .cons r rs => by simp [lexImgR, Rows.toList, Rows.length, lexImgR_length rs]

theorem nest_get? : ∀ (r : Tags) (n : List Char) (v : Val), r.get? n = some v → nestV v + 1 ≤ nestT r
  | .nil, _, _, h => by simp [Tags.get?] at h
  | .cons k w t, n, v, h => by
    simp only [nestT]
    by_cases hk : k = n
    · simp only [Tags.get?, hk, if_true, Option.some.injEq] at h
      subst h; omega
    · simp only [Tags.get?, hk, if_false] at h
      have := nest_get? t n v h
      omega

def depthOk (v : Val) : Bool := nestV v < 64

theorem depthOk_iff {v : Val} : depthOk v = true ↔ nestV v < 64 := decide_eq_true_iff

/-! ### the parts of the writer's text -/

def valPart (v : Val) : List UInt8 := if isMarker v then [] else 58 :: enc v true

def tailOf (sep term : UInt8) (rest : List UInt8) : Tags → List UInt8
  | .nil => term :: rest
  | .cons k v t => sep :: (encTags (.cons k v t) sep ++ term :: rest)

def sepLen (sep : UInt8) : Tags → Nat
  | .nil => 0
  | .cons k v t => 1 + (encTags (.cons k v t) sep).length

theorem TagSyn.stop_lit_tail {sep term : UInt8} (sy : TagSyn sep term) (rest : List UInt8) (v : Val) (t : Tags) :
    Stop isLitB (valPart v ++ tailOf sep term rest t) := by
  have hsep : isLitB sep = false := by rcases sy.sep with h | h <;> rw [h] <;> decide
  unfold valPart
  by_cases hm : isMarker v = true
  · simp only [hm, if_true, List.nil_append]
    cases t with
    | nil => exact Stop_cons sy.term_facts.1
    | cons _ _ _ => exact Stop_cons hsep
  · simp only [hm, if_false, Bool.false_eq_true, List.cons_append]
    exact Stop_cons (by decide)

theorem stop_lit_tail {sep term : UInt8} (st : SepTerm sep term) (rest : List UInt8) (v : Val) (t : Tags) :
    Stop isLitB (valPart v ++ tailOf sep term rest t) := st.syn.stop_lit_tail rest v t

def metaPart : OTags → List UInt8
  | .none => []
  | .some t => if t.isEmpty then [] else 32 :: encTags t 32

def colsLen : Cols → Nat
  | .nil => 0
  | .cons n md c => (encChars n ++ metaPart md).length + 1 + colsLen c

def cellBytes (r : Tags) (n : List Char) (single : Bool) : List UInt8 :=
  match r.get? n with
  | some v => enc v true
  | none => if single then [78] else []

def rowBytes (r : Tags) : List (List Char) → Bool → List UInt8
  | [], _ => []
  | [n], single => cellBytes r n single
  | n :: n2 :: ns, single => cellBytes r n single ++ 44 :: rowBytes r (n2 :: ns) single

/-- how the writer's line of row `r` begins: with the text of the first cell, which is the whole line or is followed
by `,`; or — the first cell is missing and there are further columns — with `,` -/
inductive RowHead (r : Tags) (names : List (List Char)) (line : List UInt8) : Prop
  | cell (n : List Char) (v : Val) (mid : List UInt8) (hn : names.head? = some n) (hget : r.get? n = some v)
      (hL : line = enc v true ++ mid) (hmid : ∀ tl, ∃ d rest, mid ++ 10 :: tl = d :: rest ∧ (d = 44 ∨ d = 10)) :
      RowHead r names line
  | missing (n : List Char) (m : List UInt8) (hn : names.head? = some n) (hget : r.get? n = none)
      (hL : line = 44 :: m) : RowHead r names line

theorem rowHead (r : Tags) (names : List (List Char)) (single : Bool)
    (hne : names ≠ []) (hsingle : names.length = 1 → single = true)
    (hpres : single = true → ∀ n ∈ names, r.get? n ≠ none) : RowHead r names (rowBytes r names single) := by
  match names, hne with
  | [n], _ =>
    cases hget : r.get? n with
    | none => exact absurd hget (hpres (hsingle rfl) n (by simp))
    | some v => exact .cell n v [] rfl hget (by simp [rowBytes, cellBytes, hget]) (fun tl => ⟨10, tl, rfl, Or.inr rfl⟩)
  | n :: n2 :: ns, _ =>
    cases hget : r.get? n with
    | some v =>
      exact .cell n v (44 :: rowBytes r (n2 :: ns) single) rfl hget (by simp [rowBytes, cellBytes, hget])
        (fun tl => ⟨44, _, rfl, Or.inl rfl⟩)
    | none =>
      cases single with
      | true => exact absurd hget (hpres rfl n (by simp))
      | false => exact .missing n (rowBytes r (n2 :: ns) false) rfl hget (by simp [rowBytes, cellBytes, hget])

def gridBody (md : OTags) (cols : Cols) (rows : Rows) (nested : Bool) (rest : List UInt8) : List UInt8 :=
  verBytes ++ (metaPart md ++ 10 :: (encCols cols ++ 10 ::
    (encRows rows cols.names (cols.length == 1) ++ tailR nested rest)))

/-- the text of a top-level grid in front of its first row line -/
def headerBytes (md : OTags) (cols : Cols) : List UInt8 :=
  verBytes ++ (metaPart md ++ 10 :: (encCols cols ++ [10]))

/-! ### a row is rebuilt from its cells -/

abbrev KVs := List (List Char × Val)

/-- the `(column, value)` pairs the reader collects for a row -/
def cellsOf (r : Tags) (ns : List (List Char)) : List (List Char × Val) :=
  ns.filterMap (fun n => (r.get? n).map (fun v => (n, lexImg v)))

theorem get?_none_of_not_mem : ∀ (r : Tags) (n : List Char), n ∉ r.keys → r.get? n = none
  | .nil, _, _ => rfl
  | .cons k v t, n, h => by
    simp only [Tags.keys, List.mem_cons, not_or] at h
    have hk : ¬ (k = n) := fun e => h.1 e.symm
    simp [Tags.get?, hk, get?_none_of_not_mem t n h.2]

/-- **the row is rebuilt, whatever the column names and whatever the reader makes of a value** (`f`): the cells read in
column order, a cell repeated for every column of its name, collect into the row with `f` applied to every value
(`r'`) -/
theorem dictOf_cells_img (f : Val → Val) (r r' : Tags) (hr' : r'.toList = r.toList.map (fun p => (p.1, f p.2)))
    (names : List (List Char)) (hsub : ∀ k ∈ r.keys, k ∈ names) (hsort : keysSorted r.keys = true) :
    dictOf (names.filterMap (fun n => (r.get? n).map (fun v => (n, f v)))) = r' := by
  have hs := sorted_toList r hsort
  have hget : ∀ n v, r.get? n = some v ↔ (n, v) ∈ r.toList := by
    intro n v
    rw [Tags.get?_eq]
    exact hs.find_eq_some (n, v)
  have hs' : Key.Sorted r'.toList := by
    rw [hr', Key.Sorted, List.pairwise_map]
    exact hs
  rw [dictOf_eq_collect, Key.collect_of_mem hs' ?_ ?_, Tags.ofList_toList]
  · -- a cell is an entry of the row
    intro p hp
    simp only [List.mem_filterMap, Option.map_eq_some_iff] at hp
    obtain ⟨n, _, v, hg, rfl⟩ := hp
    rw [hr', List.mem_map]
    exact ⟨(n, v), (hget n v).mp hg, rfl⟩
  · -- every entry of the row has its column among the names, so its cell is read
    intro q hq
    rw [hr', List.mem_map] at hq
    obtain ⟨⟨k, v⟩, hkv, rfl⟩ := hq
    have hk : k ∈ r.keys := by rw [Tags.keys_eq]; exact List.mem_map.mpr ⟨(k, v), hkv, rfl⟩
    refine ⟨(k, f v), ?_, rfl⟩
    simp only [List.mem_filterMap, Option.map_eq_some_iff]
    exact ⟨k, hsub k hk, v, (hget k v).mpr hkv, rfl⟩

theorem dictOf_cellsOf_gen (r : Tags) (names : List (List Char))
    (hsub : ∀ k ∈ r.keys, k ∈ names) (hsort : keysSorted r.keys = true) :
    dictOf (cellsOf r names) = lexImgT r :=
  dictOf_cells_img lexImg r _ (lexImgT_toList r) names hsub hsort

/-! ### shapes of grids; well-formed values -/

def keysIdent : Tags → Bool
  | .nil => true
  | .cons k _ t => isIdent k && keysIdent t

theorem keysIdent_tail {k : List Char} {v : Val} {t : Tags} (h : keysIdent (.cons k v t) = true) :
    keysIdent t = true := by
  simp only [keysIdent, Bool.and_eq_true] at h; exact h.2

def metaShape : OTags → Bool
  | .none => true
  | .some t => !t.isEmpty && keysIdent t && keysSorted t.keys

theorem metaShape_some {t : Tags} (h : metaShape (.some t) = true) :
    t.isEmpty = false ∧ keysIdent t = true ∧ keysSorted t.keys = true := by
  simp only [metaShape, Bool.and_eq_true, Bool.not_eq_eq_eq_not, Bool.not_true] at h
  exact ⟨h.1.1, h.1.2, h.2⟩

def colsShapeAux : Cols → Bool
  | .nil => true
  | .cons n md c => isIdent n && metaShape md && colsShapeAux c

theorem colsShapeAux_tail {n : List Char} {md : OTags} {c : Cols} (h : colsShapeAux (.cons n md c) = true) :
    isIdent n = true ∧ metaShape md = true ∧ colsShapeAux c = true := by
  simp only [colsShapeAux, Bool.and_eq_true] at h; exact ⟨h.1.1, h.1.2, h.2⟩

def colsShape (cols : Cols) : Bool :=
  (match cols with | .nil => false | _ => true) && colsShapeAux cols && nodupB cols.names

theorem colsShape_parts {cols : Cols} (h : colsShape cols = true) :
    (∃ n cm c, cols = .cons n cm c) ∧ colsShapeAux cols = true := by
  simp only [colsShape, Bool.and_eq_true] at h
  cases cols with
  | nil => simp at h
  | cons n cm c => exact ⟨⟨n, cm, c, rfl⟩, h.1.2⟩

def colsShapeG (cols : Cols) : Bool :=
  (match cols with | .nil => false | _ => true) && colsShapeAux cols

theorem colsShape.toG {cols : Cols} (h : colsShape cols = true) : colsShapeG cols = true := by
  simp only [colsShape, Bool.and_eq_true] at h
  simpa [colsShapeG] using h.1

def rowShape (names : List (List Char)) (single : Bool) (r : Tags) : Bool :=
  keysSorted r.keys && r.keys.all (fun k => names.contains k) &&
    (!single || names.all (fun n => (r.get? n).isSome))

theorem rowShape_parts {names : List (List Char)} {single : Bool} {r : Tags} (hs : rowShape names single r = true) :
    keysSorted r.keys = true ∧ (∀ k ∈ r.keys, k ∈ names) ∧ (single = true → ∀ n ∈ names, r.get? n ≠ none) := by
  simp only [rowShape, Bool.and_eq_true, List.all_eq_true, Bool.or_eq_true, Bool.not_eq_eq_eq_not, Bool.not_true] at hs
  obtain ⟨⟨h1, h2⟩, h3⟩ := hs
  refine ⟨h1, fun k hk => by simpa using h2 k hk, ?_⟩
  intro hsingle n hn
  rcases h3 with h3 | h3
  · rw [hsingle] at h3; cases h3
  · have := h3 n hn
    intro e; rw [e] at this; cases this

def rowsShape (names : List (List Char)) (single : Bool) : Rows → Bool
  | .nil => true
  | .cons r rs => rowShape names single r && rowsShape names single rs

theorem cols_singleW (cols : Cols) : cols.names.length = 1 → (cols.length == 1) = true := by
  cases cols with
  | nil => simp [Cols.names]
  | cons n cm c => cases c <;> simp [Cols.names, Cols.length]

mutual
def wfV : Val → Bool
  | .null => true
  | .remove => true
  | .marker => true
  | .bool _ => true
  | .na => true
  | .num n => numOk n
  | .str _ => true
  | .uri _ => true
  | .ref id _ => isRefId id
  | .sym s => isSymBody s
  | .date d => dateOk d
  | .time t => timeOk t
  | .dateTime t => dtOk t
  | .coord a b => decTextOk a.txt && decTextOk b.txt
  | .xstr ty _ => isXStrType ty
  | .list xs => wfVs xs
  | .dict d => keysIdent d && keysSorted d.keys && wfT d
  | .grid md cols rows ver =>
    ver == ['3', '.', '0'] && metaShape md && colsShape cols && rowsShape cols.names (cols.length == 1) rows
      && wfO md && wfC cols && wfR rows
def wfVs : Vals → Bool
  | .nil => true
  | .cons v vs => wfV v && wfVs vs
def wfT : Tags → Bool
  | .nil => true
  | .cons _ v t => wfV v && wfT t
def wfO : OTags → Bool
  | .none => true
  | .some t => wfT t
def wfC : Cols → Bool
  | .nil => true
  | .cons _ md c => wfO md && wfC c
def wfR : Rows → Bool
  | .nil => true
  | .cons r rs => wfT r && wfR rs
end

theorem wfV_grid_parts {md : OTags} {cols : Cols} {rows : Rows} {ver : List Char}
    (h : wfV (.grid md cols rows ver) = true) :
    ver = ['3', '.', '0'] ∧ metaShape md = true ∧ colsShape cols = true ∧
      rowsShape cols.names (cols.length == 1) rows = true ∧ wfO md = true ∧ wfC cols = true ∧ wfR rows = true := by
  simp only [wfV, Bool.and_eq_true, beq_iff_eq] at h
  exact ⟨h.1.1.1.1.1.1, h.1.1.1.1.1.2, h.1.1.1.1.2, h.1.1.1.2, h.1.1.2, h.1.2, h.2⟩

/-! ### spelled values -/

/-- a spelled meta dict (grid meta, column meta) whose tags frame in the sense `P` -/
inductive MetaOkD (P : Tags → List UInt8 → Prop) : OTags → List UInt8 → Prop
  | none : MetaOkD P .none []
  | some (k : List Char) (v : Val) (t' : Tags) (w body : List UInt8) (hw : Blanks w) (hne : w ≠ [])
      (hs : keysSorted (Tags.cons k v t').keys = true) (h : P (.cons k v t') body) :
      MetaOkD P (.some (.cons k v t')) (w ++ body)

/-- the spelled column line: `P term` is what the tags of a column's meta before `term` need -/
inductive ColsOkD (P : UInt8 → Tags → List UInt8 → Prop) : Cols → List UInt8 → Prop
  | one (n : List Char) (md : OTags) (m : List UInt8) (hn : isIdent n = true)
      (hm : MetaOkD (P 10) md m) : ColsOkD P (.cons n md .nil) (encChars n ++ m)
  | cons (n : List Char) (md : OTags) (n2 : List Char) (md2 : OTags) (c : Cols) (m w rest : List UInt8)
      (hn : isIdent n = true) (hm : MetaOkD (P 44) md m) (hw : Blanks w)
      (t : ColsOkD P (.cons n2 md2 c) rest) : ColsOkD P (.cons n md (.cons n2 md2 c)) (encChars n ++ m ++ 44 :: (w ++ rest))

theorem SpGrid_inv : ∀ {md : OTags} {cols : Cols} {rows : Rows} {ver : List Char} {body : List UInt8},
    SpGrid md cols rows ver body →
    ∃ m w1 nl1 cl w2 nl2 rw, body = gridText m w1 nl1 cl w2 nl2 rw ∧ SpMeta md m ∧ Blanks w1 ∧ Nl nl1 ∧ SpCols cols cl ∧
      Blanks w2 ∧ Nl nl2 ∧ SpRows cols.names rows rw
  | _, _, _, _, _, .mk _ _ _ _ m w1 nl1 cl w2 nl2 rw hm hw1 hn1 hc hw2 hn2 hr =>
    ⟨m, w1, nl1, cl, w2, nl2, rw, rfl, hm, hw1, hn1, hc, hw2, hn2, hr⟩

mutual
/-- `wfV` of C01 without its conditions on the numeral of a number / coordinate (the spelling relation itself
says what the numeral is: the sentence's digits, sign, fraction and exponent) -/
def wfS : Val → Bool
  | .null => true
  | .remove => true
  | .marker => true
  | .bool _ => true
  | .na => true
  | .num n => numOkS n
  | .str _ => true
  | .uri _ => true
  | .ref id _ => isRefId id
  | .sym s => isSymBody s
  | .date d => dateOk d
  | .time t => timeOk t
  | .dateTime t => dtOk t
  | .coord _ _ => true
  | .xstr ty _ => isXStrType ty
  | .list xs => wfSs xs
  | .dict d => keysIdent d && keysSorted d.keys && wfST d
  | .grid md cols rows ver =>
    ver == ['3', '.', '0'] && metaShape md && colsShape cols && rowsShape cols.names (cols.length == 1) rows
      && wfSO md && wfSC cols && wfSR rows
def wfSs : Vals → Bool
  | .nil => true
  | .cons v vs => wfS v && wfSs vs
def wfST : Tags → Bool
  | .nil => true
  | .cons _ v t => wfS v && wfST t
def wfSO : OTags → Bool
  | .none => true
  | .some t => wfST t
def wfSC : Cols → Bool
  | .nil => true
  | .cons _ md c => wfSO md && wfSC c
def wfSR : Rows → Bool
  | .nil => true
  | .cons r rs => wfST r && wfSR rs
end

mutual
theorem wfS_of_wfV : ∀ v : Val, wfV v = true → wfS v = true
  | .null, _ | .remove, _ | .marker, _ | .bool _, _ | .na, _ | .str _, _ | .uri _, _ | .coord _ _, _ => rfl
  | .num _, h => numOkS_of_numOk h
  | .ref _ _, h | .sym _, h | .date _, h | .time _, h | .dateTime _, h | .xstr _ _, h => h
  | .list xs, h => wfSs_of_wfVs xs h
  | .dict d, h => and_true_imp h id (wfST_of_wfT d)
  | .grid md cols rows _, h =>
    and_true_imp h (and_true_imp · (and_true_imp · id (wfSO_of_wfO md)) (wfSC_of_wfC cols)) (wfSR_of_wfR rows)
theorem wfSs_of_wfVs : ∀ xs : Vals, wfVs xs = true → wfSs xs = true
  | .nil, _ => rfl
  | .cons v vs, h => and_true_imp h (wfS_of_wfV v) (wfSs_of_wfVs vs)
theorem wfST_of_wfT : ∀ t : Tags, wfT t = true → wfST t = true
  | .nil, _ => rfl
  | .cons _ v t, h => and_true_imp h (wfS_of_wfV v) (wfST_of_wfT t)
theorem wfSO_of_wfO : ∀ o : OTags, wfO o = true → wfSO o = true
  | .none, _ => rfl
  | .some t, h => wfST_of_wfT t h
theorem wfSC_of_wfC : ∀ c : Cols, wfC c = true → wfSC c = true
  | .nil, _ => rfl
  | .cons _ md c, h => and_true_imp h (wfSO_of_wfO md) (wfSC_of_wfC c)
theorem wfSR_of_wfR : ∀ r : Rows, wfR r = true → wfSR r = true
  | .nil, _ => rfl
  | .cons r rs, h => and_true_imp h (wfST_of_wfT r) (wfSR_of_wfR rs)
end

end Hs.Zinc

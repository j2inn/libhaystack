/-
  `parseUri` on every legal spelling of a Uri (`Hs.Spell.UriBody`; C04 read direction). The writer's `encUri s`
  is one of the spellings, so `parseUri` reads it back (C01) — with no hypothesis on the
  characters: control characters travel as `\u00XY`.
-/
import Hs.Lemmas.ZincRtStr
namespace Hs.Zinc
open Hs Hs.Scan Hs.Spell

/-! ### one character of a Uri -/

theorem uriLoop_plain_bytes (bs : List UInt8) (hbs : ∀ b ∈ bs, b ≠ 96 ∧ b ≠ 92) :
    ∀ (s : Scan) (r : List UInt8) (fuel : Nat) (acc : List UInt8), At s (bs ++ r) →
    uriLoop (fuel + bs.length) s acc = uriLoop fuel (advN bs.length s) (acc ++ bs) :=
  copyLoop_bytes uriLoop (fun b => b ≠ 96 ∧ b ≠ 92)
    (fun _ _ _ _ _ h hb => by rw [uriLoop]; simp [h.cur, h.eof, hb.1, hb.2]) bs hbs

/-- a backslash and the byte `c` after it: `\: \/ \? \#` are kept verbatim, `` \[ \] \@ \` \& \= \; \\ `` give the
byte itself. (The loop peeks at `c`, so the scanner it goes on with is not `advN 2 s`.) -/
theorem uriLoop_esc {s : Scan} {c : UInt8} {r out : List UInt8} (h : Clean s (92 :: c :: r))
    (hc : ((c = 58 ∨ c = 47 ∨ c = 63 ∨ c = 35) ∧ out = [92, c]) ∨
      ((c = 91 ∨ c = 93 ∨ c = 64 ∨ c = 96 ∨ c = 38 ∨ c = 61 ∨ c = 59 ∨ c = 92) ∧ out = [c])) :
    ∃ s', Clean s' r ∧ s.pos ≤ s'.pos ∧
      ∀ (fuel : Nat) (acc : List UInt8), uriLoop (fuel + 1) s acc = uriLoop fuel s' (acc ++ out) := by
  obtain ⟨s1, e1, h1, hs1, _, hp1⟩ := h.peek
  refine ⟨advN 2 s1, (Clean.peeked h1 (by omega)).advance, by rw [← hp1]; exact advN_pos_le 2 s1, ?_⟩
  intro fuel acc
  rw [uriLoop]
  simp only [h.here.cur, h.here.eof, e1, h1.readQ, advN]
  rcases hc with ⟨rfl | rfl | rfl | rfl, rfl⟩ | ⟨rfl | rfl | rfl | rfl | rfl | rfl | rfl | rfl, rfl⟩ <;> rfl

theorem uriLoop_uesc {c : Char} {bs : List UInt8} (hu : UEsc c bs) {s : Scan} {r : List UInt8}
    (h : Clean s (bs ++ r)) :
    ∃ s', Clean s' r ∧ s.pos ≤ s'.pos ∧
      ∀ (fuel : Nat) (acc : List UInt8), uriLoop (fuel + 1) s acc = uriLoop fuel s' (acc ++ encChar c) := by
  cases hu with
  | mk d3 d2 d1 d0 hc h3 h2 h1 h0 =>
    simp only [List.cons_append, List.nil_append] at h
    obtain ⟨s0, e0, a0, hs0, _, hp0⟩ := h.peek
    have a1 := Clean.peeked a0 (by omega)
    refine ⟨advN 6 s0, a1.advance.advance.advance.advance.advance, by rw [← hp0]; exact advN_pos_le 6 s0, ?_⟩
    intro fuel acc
    rw [uriLoop]
    simp only [h.here.cur, h.here.eof, e0, a0.readQ, parseUnicodeEscape_sp hc h3 h2 h1 h0 a1.here]
    simp [advN]

/-- `k` is the number of loop iterations this takes -/
theorem uriLoop_ch (c : Char) (bs : List UInt8) (hc : UriCh c bs) (s : Scan) (r : List UInt8)
    (acc : List UInt8) (h : Clean s (bs ++ r)) :
    ∃ k s', 1 ≤ k ∧ k ≤ bs.length ∧ Clean s' r ∧ s.pos ≤ s'.pos ∧
      ∀ fuel, uriLoop (fuel + k) s acc = uriLoop fuel s' (acc ++ encChar c) := by
  have one : ∀ x : UInt8, bs = [92, x] → encChar c = [x] →
      (x = 91 ∨ x = 93 ∨ x = 64 ∨ x = 96 ∨ x = 38 ∨ x = 61 ∨ x = 59 ∨ x = 92) →
      ∃ k s', 1 ≤ k ∧ k ≤ bs.length ∧ Clean s' r ∧ s.pos ≤ s'.pos ∧
        ∀ fuel, uriLoop (fuel + k) s acc = uriLoop fuel s' (acc ++ encChar c) := by
    intro x e ey hx
    rw [e] at h ⊢
    obtain ⟨s', h', hp', e'⟩ := uriLoop_esc h (Or.inr ⟨hx, rfl⟩)
    exact ⟨1, s', Nat.le_refl 1, by simp, h', hp', fun fuel => by rw [e', ey]⟩
  cases hc with
  | raw _ h32 c1 c2 =>
    have hb : ∀ b ∈ encChar c, b ≠ 96 ∧ b ≠ 92 := fun b hb =>
      ⟨encChar_bytes_ne c 96 (by decide) (fun e => c1 (Char.toNat_inj.mp e)) b hb,
       encChar_bytes_ne c 92 (by decide) (fun e => c2 (Char.toNat_inj.mp e)) b hb⟩
    exact ⟨(encChar c).length, advN (encChar c).length s, encChar_length_pos c, Nat.le_refl _, h.advN,
      advN_pos_le _ _, fun fuel => uriLoop_plain_bytes (encChar c) hb s r fuel acc h.here⟩
  | bquote => exact one 96 rfl (by decide) (by simp)
  | bslash => exact one 92 rfl (by decide) (by simp)
  | punct _ b hm =>
    simp only [List.mem_cons, Prod.mk.injEq, List.mem_nil_iff, or_false] at hm
    rcases hm with ⟨rfl, rfl⟩ | ⟨rfl, rfl⟩ | ⟨rfl, rfl⟩ | ⟨rfl, rfl⟩ | ⟨rfl, rfl⟩ | ⟨rfl, rfl⟩ <;>
      exact one _ rfl (by decide) (by simp)
  | u _ _ hu =>
    obtain ⟨s', h', hp', e'⟩ := uriLoop_uesc hu h
    exact ⟨1, s', Nat.le_refl 1, by cases hu; simp, h', hp', fun fuel => e' fuel acc⟩

/-! ### the whole body and `parseUri` -/

theorem uriLoop_bodyS (cs : List Char) (body : List UInt8) (hb : UriBody cs body) :
    ∀ (s : Scan) (r : List UInt8) (fuel : Nat) (acc : List UInt8),
    Clean s (body ++ 96 :: r) → body.length < fuel →
    ∃ s', uriLoop fuel s acc = .ok (acc ++ encChars cs, s') ∧ Clean s' (96 :: r) ∧ s.pos ≤ s'.pos := by
  induction hb with
  | nil =>
    intro s r fuel acc h hf
    obtain ⟨f, rfl⟩ : ∃ f, fuel = f + 1 := ⟨fuel - 1, by omega⟩
    exact ⟨s, by rw [uriLoop]; simp [h.here.cur], h, Nat.le_refl _⟩
  | cons c cs bs bs' hc _ ih =>
    intro s r fuel acc h hf
    simp only [List.append_assoc, List.length_append] at h hf
    obtain ⟨k, s1, hk1, hk2, h1, hp1, e⟩ := uriLoop_ch c bs hc s _ acc h
    obtain ⟨f, rfl⟩ : ∃ f, fuel = f + k := ⟨fuel - k, by omega⟩
    obtain ⟨s2, e2, h2, hp2⟩ := ih s1 r f (acc ++ encChar c) h1 (by omega)
    refine ⟨s2, ?_, h2, Nat.le_trans hp1 hp2⟩
    rw [e, e2, encChars_cons, List.append_assoc]
  | keep c b hm cs bs' _ ih =>
    intro s r fuel acc h hf
    simp only [List.cons_append, List.length_cons] at h hf
    simp only [List.mem_cons, Prod.mk.injEq, List.mem_nil_iff, or_false] at hm
    have hcb : (b = 58 ∨ b = 47 ∨ b = 63 ∨ b = 35) ∧ encChar '\\' ++ encChar c = [92, b] := by
      rcases hm with ⟨rfl, rfl⟩ | ⟨rfl, rfl⟩ | ⟨rfl, rfl⟩ | ⟨rfl, rfl⟩ <;> exact ⟨by simp, by decide⟩
    obtain ⟨s1, h1, hp1, e⟩ := uriLoop_esc h (Or.inl ⟨hcb.1, rfl⟩)
    obtain ⟨f, rfl⟩ : ∃ f, fuel = f + 1 := ⟨fuel - 1, by omega⟩
    obtain ⟨s2, e2, h2, hp2⟩ := ih s1 r f (acc ++ [92, b]) h1 (by omega)
    refine ⟨s2, ?_, h2, Nat.le_trans hp1 hp2⟩
    rw [e, e2, encChars_cons, encChars_cons, ← hcb.2]; simp

theorem parseUri_sp (cs : List Char) (body : List UInt8) (hb : UriBody cs body) (s : Scan) (rest : List UInt8)
    (fuel : Nat) (h : Clean s (96 :: (body ++ 96 :: rest))) (hf : body.length + 2 ≤ fuel) :
    ∃ s', parseUri fuel s = .ok (cs, s') ∧ Clean s' rest := by
  have hp0 := h.here.advance_pos_mid
  obtain ⟨s1, e1, h1, hp1⟩ := uriLoop_bodyS cs body hb s.advance rest fuel [] h.advance (by omega)
  refine ⟨s1.advance, ?_, h1.advance⟩
  unfold parseUri
  simp only [h.here.cur, e1]
  have : (s.pos == s1.pos) = false := by simp; omega
  simp [this, lossy_encChars]

/-! ### the writer's text is one of the spellings -/

/-- behind `C01.rt_uri` -/
theorem parseUri_rt (cs : List Char) (s : Scan) (rest : List UInt8) (fuel : Nat)
    (h : At s (encUri cs ++ rest)) (hs : s.stash = []) (hf : (encUri cs).length ≤ fuel) :
    ∃ s', parseUri fuel s = .ok (cs, s') ∧ At s' rest ∧ s'.stash = [] := by
  simp only [encUri, List.cons_append, List.nil_append, List.append_assoc, List.length_cons,
    List.length_append, List.length_nil] at h hf
  obtain ⟨s', e, h'⟩ := parseUri_sp cs _ (uriBody_enc cs) s rest fuel ⟨h, hs⟩ (by omega)
  exact ⟨s', e, h'.here, h'.stash⟩

end Hs.Zinc

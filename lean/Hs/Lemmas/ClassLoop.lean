/-
  The two kinds of loop the scanner's clients run, each stated once.

  * The loops of the scalar readers that only collect the bytes of a class are one function, `classLoop P g`, and on
    ANY scanner state that function is known exactly (`classLoop_eq`): it takes the longest run of class-`P` bytes of
    what the scanner still shows (`Scan.run`), keeps `g b` of each, leaves the scanner advanced past the run, and runs
    out of fuel iff the run is not shorter than the fuel.  The round-trip, totality, image and "no error" statements
    about these loops are read off it.
  * `consume_spaces` and `consume_white_spaces` are `skipLoop P`; they look at the (possibly stale) current byte
    and not at `is_eof`, so they have a closed form only on a known text (`skipLoop_run`).
-/
import Hs.Lemmas.ZincRtScan
import Hs.Lemmas.ZincTotalSat
import Hs.Lemmas.ZincFollow
namespace Hs
open Scan

/-! ### what the scanner still shows -/

def Scan.text (s : Scan) : List UInt8 := if s.eof then [] else s.cur :: (s.stash ++ s.inp)

theorem At.text {s : Scan} : ∀ {r : List UInt8}, At s r → s.text = r
  | [], h => by simp [Scan.text, h.1]
  | _ :: _, h => by simp [Scan.text, h.1, h.2.1, h.2.2]

theorem Scan.text_advance (s : Scan) : s.advance.text = s.text.tail := by
  unfold Scan.text Scan.advance Scan.read Scan.readByte
  cases s.stash <;> cases s.inp <;> cases s.eof <;> simp

theorem Scan.text_length_le_mu (s : Scan) : s.text.length ≤ s.mu := by
  unfold Scan.text Scan.mu Scan.remaining
  split <;> simp <;> omega

theorem advN_mu_le (n : Nat) : ∀ s : Scan, (advN n s).mu ≤ s.mu := by
  induction n with
  | zero => intro s; exact Nat.le_refl _
  | succ n ih => intro s; exact Nat.le_trans (ih _) (advance_mu s)

def Scan.run (P : UInt8 → Bool) (s : Scan) : List UInt8 := s.text.takeWhile P

theorem Scan.run_all {P : UInt8 → Bool} {s : Scan} : ∀ b ∈ s.run P, P b = true :=
  fun b hb => List.all_eq_true.mp List.all_takeWhile b hb

theorem Scan.run_length_le_mu (P : UInt8 → Bool) (s : Scan) : (s.run P).length ≤ s.mu :=
  Nat.le_trans (List.takeWhile_prefix P).length_le s.text_length_le_mu

theorem Scan.run_stop {P : UInt8 → Bool} {s : Scan} (h : (!s.eof && P s.cur) = false) : s.run P = [] := by
  unfold Scan.run Scan.text
  cases he : s.eof with
  | true => rfl
  | false => simp_all

theorem Scan.run_step {P : UInt8 → Bool} {s : Scan} (h : (!s.eof && P s.cur) = true) :
    s.run P = s.cur :: s.advance.run P := by
  have he : s.eof = false := eof_of_and_not h
  have hp : P s.cur = true := by simpa [he] using h
  unfold Scan.run
  rw [Scan.text_advance]
  simp [Scan.text, he, hp]

theorem Scan.run_ne_nil {P : UInt8 → Bool} {s : Scan} (h : s.run P ≠ []) :
    s.run P = s.cur :: s.advance.run P ∧ (advN (s.run P).length s).mu ≤ s.advance.mu := by
  cases hc : (!s.eof && P s.cur) with
  | false => exact absurd (Scan.run_stop hc) h
  | true => rw [Scan.run_step hc]; exact ⟨rfl, advN_mu_le _ s.advance⟩

theorem At.run {P : UInt8 → Bool} {s : Scan} {bs rest : List UInt8} (h : At s (bs ++ rest))
    (hbs : ∀ b ∈ bs, P b = true) (hst : Zinc.Stop P rest) : s.run P = bs := by
  rw [Scan.run, h.text, (hst.takeWhile hbs).1]

/-! ### loops that collect the bytes of a class -/

def classLoop (P : UInt8 → Bool) (g : UInt8 → List UInt8) : Nat → Scan → List UInt8 → Res (List UInt8 × Scan)
  | 0, _, _ => .diverge
  | fuel + 1, s, acc =>
    if !s.eof && P s.cur then classLoop P g fuel s.advance (acc ++ g s.cur) else .ok (acc, s)

theorem eq_classLoop {f : Nat → Scan → List UInt8 → Res (List UInt8 × Scan)} {P : UInt8 → Bool}
    {g : UInt8 → List UInt8} (hf0 : ∀ s acc, f 0 s acc = .diverge)
    (hf : ∀ n s acc, f (n + 1) s acc = if !s.eof && P s.cur then f n s.advance (acc ++ g s.cur) else .ok (acc, s)) :
    ∀ fuel s acc, f fuel s acc = classLoop P g fuel s acc := by
  intro fuel
  induction fuel with
  | zero => intro s acc; rw [hf0]; rfl
  | succ n ih => intro s acc; rw [hf, classLoop]; simp only [ih]

theorem classLoop_eq (P : UInt8 → Bool) (g : UInt8 → List UInt8) :
    ∀ (fuel : Nat) (s : Scan) (acc : List UInt8), classLoop P g fuel s acc =
      if (s.run P).length < fuel then .ok (acc ++ (s.run P).flatMap g, advN (s.run P).length s) else .diverge := by
  intro fuel
  induction fuel with
  | zero => intro s acc; simp [classLoop]
  | succ n ih =>
    intro s acc
    rw [classLoop]
    cases hc : (!s.eof && P s.cur) with
    | false => simp [Scan.run_stop hc, advN]
    | true => simp [ih, Scan.run_step hc, advN, List.append_assoc]

section
variable {P : UInt8 → Bool} {g : UInt8 → List UInt8} {fuel : Nat} {s : Scan} {acc : List UInt8}

theorem classLoop_run {bs rest : List UInt8} (hbs : ∀ b ∈ bs, P b = true) (h : At s (bs ++ rest))
    (hst : Zinc.Stop P rest) (hf : bs.length < fuel) :
    classLoop P g fuel s acc = .ok (acc ++ bs.flatMap g, advN bs.length s) := by
  rw [classLoop_eq, h.run hbs hst, if_pos hf]

theorem classLoop_ne_err : classLoop P g fuel s acc ≠ .err := by
  rw [classLoop_eq]; split <;> nofun

theorem classLoop_sat : (classLoop P g fuel s acc).Sat fuel s.mu
    (fun o => o.1 = acc ++ (s.run P).flatMap g ∧ o.2 = advN (s.run P).length s) := by
  rw [classLoop_eq]
  split
  · exact ⟨rfl, rfl⟩
  · next hn => exact Nat.le_trans (Nat.not_lt.mp hn) (Scan.run_length_le_mu P s)

theorem classLoop_spec : LS (classLoop P g fuel s acc) fuel s :=
  classLoop_sat.mono id (fun _ h => h.2 ▸ advN_mu_le _ s)

theorem classLoop_took : (classLoop P (fun b => [b]) fuel s []).Sat fuel s.mu (fun o => o.2.mu ≤ s.mu ∧
    (o.1.isEmpty = false → o.2.mu ≤ s.advance.mu ∧ (∀ b ∈ o.1, P b = true) ∧ ∃ r, o.1 = s.cur :: r)) := by
  refine classLoop_sat.mono id ?_
  rintro ⟨acc, s'⟩ ⟨e1, e2⟩
  rw [List.nil_append, List.flatMap_singleton'] at e1
  dsimp only at e1 e2 ⊢
  subst e1 e2
  refine ⟨advN_mu_le _ s, fun hne => ?_⟩
  obtain ⟨hr, L⟩ := Scan.run_ne_nil (P := P) (s := s) (fun h0 => by rw [h0] at hne; cases hne)
  exact ⟨L, Scan.run_all, _, hr⟩

end

/-! ### loops that skip the bytes of a class -/

def skipLoop (P : UInt8 → Bool) : Nat → Scan → Res Scan
  | 0, _ => .diverge
  | fuel + 1, s =>
    if !P s.cur then .ok s
    else match s.read with
      | (some _, s') => skipLoop P fuel s'
      | (none, s') => .ok s'

theorem Scan.consumeSpaces_eq : ∀ fuel s, consumeSpaces fuel s = skipLoop (fun b => b == 32 || b == 9) fuel s
  | 0, _ => rfl
  | n + 1, s => by rw [consumeSpaces, skipLoop]; simp only [Scan.consumeSpaces_eq n]; rfl

theorem Scan.consumeWhiteSpaces_eq : ∀ fuel s,
    consumeWhiteSpaces fuel s = skipLoop (fun b => (b == 32 || b == 9) || (b == 13 || b == 10)) fuel s
  | 0, _ => rfl
  | n + 1, s => by rw [consumeWhiteSpaces, skipLoop]; simp only [Scan.consumeWhiteSpaces_eq n]; rfl

/-- when the run ends the input there is one more failed read, which changes nothing that `At` sees -/
theorem skipLoop_run {P : UInt8 → Bool} (ws : List UInt8) (hws : ∀ b ∈ ws, P b = true) :
    ∀ (s : Scan) (rest : List UInt8) (fuel : Nat), At s (ws ++ rest) → Zinc.Stop P rest → ws.length < fuel →
    ∃ s', skipLoop P fuel s = .ok s' ∧ At s' rest ∧ s'.stash = (advN ws.length s).stash ∧
      (rest ≠ [] → s' = advN ws.length s) := by
  induction ws with
  | nil =>
    intro s rest fuel h hst hf
    obtain ⟨f, rfl⟩ : ∃ f, fuel = f + 1 := ⟨fuel - 1, by omega⟩
    rw [skipLoop]
    cases rest with
    | nil =>
      -- at the end of the input `cur` is stale: if it is in the class, the read fails
      cases hp : P s.cur with
      | false => exact ⟨s, rfl, h, rfl, fun _ => rfl⟩
      | true =>
        have hr : s.read = (none, { s with eof := true }) := by
          simp [Scan.read, Scan.readByte, h.2.1, h.2.2]
        simp only [Bool.not_true, Bool.false_eq_true, if_false, hr]
        exact ⟨_, rfl, ⟨rfl, h.2.1, h.2.2⟩, rfl, fun hne => absurd rfl hne⟩
    | cons b r => simp only [h.cur, hst b r rfl]; exact ⟨s, rfl, h, rfl, fun _ => rfl⟩
  | cons w ws ih =>
    intro s rest fuel h hst hf
    obtain ⟨f, rfl⟩ : ∃ f, fuel = f + 1 := ⟨fuel - 1, by omega⟩
    simp only [List.cons_append] at h
    rw [skipLoop, h.cur, hws w (by simp)]
    simp only [Bool.not_true, Bool.false_eq_true, if_false]
    cases hx : ws ++ rest with
    | nil =>
      obtain ⟨rfl, rfl⟩ := List.append_eq_nil_iff.mp hx
      rw [hx] at h
      rw [h.read_last]
      exact ⟨_, rfl, h.advance, rfl, fun hne => absurd rfl hne⟩
    | cons c t =>
      have h' := h; rw [hx] at h'
      rw [h'.read]
      exact ih (fun b hb => hws b (by simp [hb])) s.advance rest f h.advance hst (by simpa using hf)

theorem skipLoop_ne_err (P : UInt8 → Bool) : ∀ fuel s, skipLoop P fuel s ≠ .err
  | 0, _ => nofun
  | n + 1, s => by
    rw [skipLoop]
    split
    · nofun
    · split
      · exact skipLoop_ne_err P n _
      · nofun

theorem skipLoop_spec (P : UInt8 → Bool) (fuel : Nat) : ∀ s, SS (skipLoop P fuel s) fuel s := by
  induction fuel with
  | zero => intro s; exact Nat.zero_le _
  | succ n ih =>
    intro s
    rw [skipLoop]
    refine Res.Sat.ite_intro (fun _ => Nat.le_refl _) (fun _ => ?_)
    split
    · next hr => exact (ih _).tail (read_mu_some hr)
    · next hr => exact (read_mu_none hr).1

theorem skipLoop_strict {P : UInt8 → Bool} (n : Nat) (s : Scan) (hs : P s.cur = true) (he : s.eof = false) :
    (skipLoop P (n + 1) s).Sat (n + 1) s.mu (fun s' => s'.mu < s.mu) := by
  rw [skipLoop]
  refine Res.Sat.ite_not_intro (fun hf => absurd (hf.symm.trans hs) (by decide)) (fun _ => ?_)
  split
  · next hr =>
    have h1 := read_mu_some hr
    exact (skipLoop_spec P n _).mono (fun hd => Nat.lt_of_le_of_lt hd h1) (fun _ h => Nat.lt_of_le_of_lt h h1)
  · next hr => exact (read_mu_none hr).2.1 he

end Hs

namespace Hs.Zinc
open Hs Hs.Scan

/-! ### the six loops of the scalar readers are class loops -/

theorem litCond (s : Scan) : (s.isAlphaNum || s.cur == 95) = isLitB s.cur := by
  simp [Scan.isAlphaNum, Scan.isDigit, Scan.isLower, Scan.isUpper, isLitB, isAlnumB]

theorem refCond (s : Scan) : (s.isAlphaNum || isRefPunct s.cur) = isRefB s.cur := by
  simp [Scan.isAlphaNum, Scan.isDigit, Scan.isLower, Scan.isUpper, isRefB, isAlnumB]

theorem literalLoop_eq : ∀ fuel s acc, literalLoop fuel s acc = classLoop isLitB (fun b => [b]) fuel s acc :=
  eq_classLoop (fun _ _ => rfl) (fun _ s _ => by rw [literalLoop, litCond])

theorem refLoop_eq : ∀ fuel s acc, refLoop fuel s acc = classLoop isRefB (fun b => [b]) fuel s acc :=
  eq_classLoop (fun _ _ => rfl) (fun _ s _ => by rw [refLoop, refCond])

theorem decimalLoop_eq : ∀ fuel s acc,
    decimalLoop fuel s acc = classLoop isDecB (fun b => if b != 95 then [b] else []) fuel s acc :=
  eq_classLoop (fun _ _ => rfl) (fun _ s acc => by
    rw [decimalLoop]; cases s.cur != 95 <;> simp [isDecB, Scan.isDigit])

theorem isUnitChar_eq (s : Scan) : isUnitChar s = isUnitB s.cur := by
  simp [isUnitChar, isUnitB, Scan.isAlpha, Scan.isLower, Scan.isUpper]

theorem unitLoop_eq : ∀ fuel s acc, unitLoop fuel s acc = classLoop isUnitB (fun b => [b]) fuel s acc :=
  eq_classLoop (fun _ _ => rfl) (fun _ s _ => by rw [unitLoop, isUnitChar_eq])

theorem fracLoop_eq : ∀ fuel s acc, fracLoop fuel s acc = classLoop isDigitB (fun b => [b]) fuel s acc :=
  eq_classLoop (fun _ _ => rfl) (fun _ s _ => by rw [fracLoop]; rfl)

theorem tzNameLoop_eq : ∀ fuel s acc, tzNameLoop fuel s acc = classLoop isTzB (fun b => [b]) fuel s acc :=
  eq_classLoop (fun _ _ => rfl) (fun _ s _ => by rw [tzNameLoop]; rfl)

/-! ### `consume_white_spaces` on a known text -/

theorem cws_none {s : Scan} {bs : List UInt8} (h : At s bs) (hb : FirstOk bs) (fuel : Nat) :
    Scan.consumeWhiteSpaces (fuel + 1) s = .ok s := by
  obtain ⟨b, r, rfl, h1, h2, h3, h4⟩ := hb
  rw [Scan.consumeWhiteSpaces]
  simp [Scan.isWhiteSpace, Scan.isSpace, Scan.isNewline, h.cur, h1, h2, h3, h4]

theorem cws_last_nl {s : Scan} (h : At s [10]) (fuel : Nat) :
    Scan.consumeWhiteSpaces (fuel + 1) s = .ok s.advance := by
  rw [Scan.consumeWhiteSpaces]
  simp [Scan.isWhiteSpace, Scan.isSpace, Scan.isNewline, h.cur, h.read_last]

theorem cws_white (W : List UInt8) (hW : Spell.White W) (text : List UInt8) (ht : text = [] ∨ FirstOk text)
    (s : Scan) (fuel : Nat) (h : At s (W ++ text)) (hs : s.stash = []) (hf : W.length + 1 ≤ fuel) :
    ∃ s', Scan.consumeWhiteSpaces fuel s = .ok s' ∧ At s' text ∧ s'.stash = [] := by
  have hst : Stop (fun b => (b == 32 || b == 9) || (b == 13 || b == 10)) text := by
    rcases ht with rfl | ⟨b, r, rfl, h1, h2, h3, h4⟩
    · exact Stop_nil _
    · exact Stop_cons (by simp [h1, h2, h3, h4])
  obtain ⟨s', e, h', hs', -⟩ := skipLoop_run W (fun b hb => by rcases hW b hb with rfl | rfl | rfl | rfl <;> rfl)
    s text fuel h hst (by omega)
  exact ⟨s', by rw [Scan.consumeWhiteSpaces_eq]; exact e, h', by rw [hs', advN_stash_nil _ _ hs]⟩

end Hs.Zinc

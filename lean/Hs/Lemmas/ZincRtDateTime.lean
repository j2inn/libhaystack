/-
  C01 and C04 read direction: timestamps `dddd-dd-ddTdd:dd:dd[.d+]` + zone through
  `parse_number_date_time` and `parse_datetime`, before anything that cannot carry the zone on (`ZoneEnd`).
  The decoded value is the token's text (see the header of ZincLex.lean).
-/
import Hs.Lemmas.ZincRtZone
import Hs.Lemmas.ZincRtTime
namespace Hs.Zinc
open Hs Hs.Scan

theorem parseTimeZone_any (z : List UInt8) (hz : zoneOk z = true) (s : Scan) (rest : List UInt8) (fuel : Nat)
    (h : At s (z ++ rest)) (hs : s.stash = []) (hd : ZoneEnd rest) (hf : z.length < fuel) :
    ∃ s', parseTimeZone fuel s = .ok (z, s') ∧ Post s' rest ∧ zoneCheck z = false := by
  rcases zoneOk_cases hz with rfl | ⟨name, rfl, hn, hres⟩ |
    ⟨sg, o0, o1, o2, o3, name, rfl, hsg, ho0, ho1, ho2, ho3, hn, hres⟩
  · obtain ⟨s', e, hp⟩ := parseTimeZone_Z s rest fuel (by simpa using h) hs hd
    exact ⟨s', e, hp, rfl⟩
  · obtain ⟨s', e, h', hs'⟩ := parseTimeZone_ZName name hn s rest fuel (by simpa using h) hs hd.1
      (by simp at hf; omega)
    refine ⟨s', e, Post.of_clean h' hs', ?_⟩
    have : zoneNameOf (90 :: 32 :: name) = some name := by
      cases name with
      | nil => simp [tzNameOk] at hn
      | cons a tl => simp [zoneNameOf]
    rw [zoneCheck, this]; exact zoneCheck_of_resolves hres
  · obtain ⟨s', e, h', hs'⟩ := parseTimeZone_offset sg o0 o1 o2 o3 hsg ho0 ho1 ho2 ho3 name hn s rest fuel
      (by simpa using h) hs hd.1 (by simp at hf; omega)
    refine ⟨s', e, Post.of_clean h' hs', ?_⟩
    have : zoneNameOf (sg :: o0 :: o1 :: 58 :: o2 :: o3 :: 32 :: name) = some name := by
      rcases hsg with rfl | rfl <;> simp [zoneNameOf]
    rw [zoneCheck, this]; exact zoneCheck_of_resolves hres

/-- timestamp without a fraction.  The look-ahead is that of a date; the `T` test is the last peek (`lastPeek = 84`).
The zone starts 19 `advance`s on, and the position is written `pos + 1 + … + 1` because that is the term `simp`
produces from them: `e` (and `efr` below) are used as rewrite rules and have to match it syntactically. -/
theorem ndt_datetime (y0 y1 y2 y3 m0 m1 d0 d1 h0 h1 i0 i1 s0 s1 : UInt8)
    (hdg : DateDigits y0 y1 y2 y3 m0 m1 d0 d1) (htg : TimeDigits h0 h1 i0 i1 s0 s1)
    (hmk : (mkDate [y0, y1, y2, y3, 45, m0, m1, 45, d0, d1]).isSome = true)
    (hmt : (mkTime [h0, h1, 58, i0, i1, 58, s0, s1] Option.none).isSome = true)
    (z : List UInt8) (hz : zoneOk z = true) (rest : List UInt8) (hd : ZoneEnd rest)
    (lp : UInt8) (pos fuel : Nat) (hf : z.length < fuel) :
    ∃ s', parseNumberDateTime fuel (Scan.at y0 (y1 :: y2 :: y3 :: 45 :: m0 :: m1 :: 45 :: d0 :: d1 :: 84 :: h0 :: h1
        :: 58 :: i0 :: i1 :: 58 :: s0 :: s1 :: (z ++ rest)) lp pos)
      = .ok (dtVal (asciiChars (y0 :: y1 :: y2 :: y3 :: 45 :: m0 :: m1 :: 45 :: d0 :: d1 :: 84 :: h0 :: h1 :: 58 :: i0
            :: i1 :: 58 :: s0 :: s1 :: z)), s') ∧ Post s' rest := by
  obtain ⟨d, hd'⟩ := Option.isSome_iff_exists.mp hmk
  obtain ⟨t, ht'⟩ := Option.isSome_iff_exists.mp hmt
  obtain ⟨z0, zr, rfl, hz0, hz046⟩ := zoneOk_head hz
  have hat : At (Scan.at z0 (zr ++ rest) 84
      (pos + 1 + 1 + 1 + 1 + 1 + 1 + 1 + 1 + 1 + 1 + 1 + 1 + 1 + 1 + 1 + 1 + 1 + 1 + 1)) ((z0 :: zr) ++ rest) := At_at ..
  obtain ⟨s', e, hp, hzc⟩ := parseTimeZone_any (z0 :: zr) hz _ rest fuel hat rfl hd hf
  refine ⟨s', ?_, hp⟩
  simp only [Scan.at] at e
  unfold parseNumberDateTime
  simp only [Scan.at, digit_ne_minus hdg.y0, Bool.false_eq_true, if_false, List.cons_append]
  simp [ndtPeeks, Scan.peek, Scan.readByte, hdg.y0, hdg.y1, hdg.y2, hdg.y3, isPartialDate, hdg.m0, hdg.m1, hdg.d0, hdg.d1, hz046,
    parseDateTime, parseDateRaw, parseTimeRaw, takeDigits, Scan.advance, Scan.read, hd', ht', htg.h0, htg.h1, htg.m0, htg.m1,
    htg.s0, htg.s1, e, dtVal]
  exact hzc

/-- timestamp with a fraction: 20 `advance`s to its first digit -/
theorem ndt_datetime_frac (y0 y1 y2 y3 m0 m1 d0 d1 h0 h1 i0 i1 s0 s1 : UInt8)
    (hdg : DateDigits y0 y1 y2 y3 m0 m1 d0 d1) (htg : TimeDigits h0 h1 i0 i1 s0 s1)
    (f0 : UInt8) (fr : List UInt8) (hfr : ∀ b ∈ f0 :: fr, isDigitB b = true)
    (hmk : (mkDate [y0, y1, y2, y3, 45, m0, m1, 45, d0, d1]).isSome = true)
    (hmt : (mkTime [h0, h1, 58, i0, i1, 58, s0, s1] (some (f0 :: fr))).isSome = true)
    (z : List UInt8) (hz : zoneOk z = true) (rest : List UInt8) (hd : ZoneEnd rest)
    (lp : UInt8) (pos fuel : Nat) (hf : fr.length + 1 + z.length < fuel) :
    ∃ s', parseNumberDateTime fuel (Scan.at y0 (y1 :: y2 :: y3 :: 45 :: m0 :: m1 :: 45 :: d0 :: d1 :: 84 :: h0 :: h1
        :: 58 :: i0 :: i1 :: 58 :: s0 :: s1 :: 46 :: f0 :: (fr ++ (z ++ rest))) lp pos)
      = .ok (dtVal (asciiChars (y0 :: y1 :: y2 :: y3 :: 45 :: m0 :: m1 :: 45 :: d0 :: d1 :: 84 :: h0 :: h1 :: 58 :: i0
            :: i1 :: 58 :: s0 :: s1 :: 46 :: f0 :: (fr ++ z))), s') ∧ Post s' rest := by
  obtain ⟨d, hd'⟩ := Option.isSome_iff_exists.mp hmk
  obtain ⟨t, ht'⟩ := Option.isSome_iff_exists.mp hmt
  have hat : At (Scan.at f0 (fr ++ (z ++ rest)) 84
      (pos + 1 + 1 + 1 + 1 + 1 + 1 + 1 + 1 + 1 + 1 + 1 + 1 + 1 + 1 + 1 + 1 + 1 + 1 + 1 + 1))
      ((f0 :: fr) ++ (z ++ rest)) := At_at ..
  have hstop : Stop isDigitB (z ++ rest) := by
    obtain ⟨z0, zr, rfl, h0', _⟩ := zoneOk_head hz
    exact Stop_cons h0'
  have efr := fracLoop_rt (f0 :: fr) hfr _ (z ++ rest) fuel [] hat hstop (by simp; omega)
  have hat2 : At (advN (f0 :: fr).length (Scan.at f0 (fr ++ (z ++ rest)) 84
      (pos + 1 + 1 + 1 + 1 + 1 + 1 + 1 + 1 + 1 + 1 + 1 + 1 + 1 + 1 + 1 + 1 + 1 + 1 + 1 + 1))) (z ++ rest) := hat.advN
  obtain ⟨s', e, hp, hzc⟩ := parseTimeZone_any z hz _ rest fuel hat2 (advN_stash_nil _ _ rfl) hd (by omega)
  refine ⟨s', ?_, hp⟩
  simp only [Scan.at, List.nil_append, List.length_cons] at efr e
  unfold parseNumberDateTime
  simp only [Scan.at, digit_ne_minus hdg.y0, Bool.false_eq_true, if_false]
  simp [ndtPeeks, Scan.peek, Scan.readByte, hdg.y0, hdg.y1, hdg.y2, hdg.y3, isPartialDate, hdg.m0, hdg.m1, hdg.d0, hdg.d1,
    parseDateTime, parseDateRaw, parseTimeRaw, takeDigits, Scan.advance, Scan.read, Scan.readQ, hd', ht', htg.h0, htg.h1,
    htg.m0, htg.m1, htg.s0, htg.s1, efr, e, dtVal]
  exact hzc

theorem lexRead_datetime_of_zoneEnd (w : List UInt8) (hok : dtBytesOk w = true) (s : Scan) (rest : List UInt8)
    (fuel : Nat) (h : At s (w ++ rest)) (hs : s.stash = []) (hd : ZoneEnd rest) (hf : w.length + 2 ≤ fuel) :
    ∃ s', lexRead fuel s = .ok { sc := s', tok := .val (dtVal (asciiChars w)) } ∧ Post s' rest := by
  obtain ⟨f, rfl⟩ : ∃ f, fuel = f + 1 := ⟨fuel - 1, by omega⟩
  obtain ⟨y0, y1, y2, y3, m0, m1, d0, d1, h0, h1, i0, i1, s0, s1, tl, rfl, hdg, htg, hmk, htl⟩ := dtBytesOk_elim hok
  simp only [List.cons_append] at h
  have hseq := eq_at_of_At h hs
  rw [lexRead_ndt h (by simp [hdg.y0])]
  simp only [List.length_cons] at hf
  rcases htl with ⟨f0, fr, z, rfl, hfr, hmt, hz⟩ | ⟨hmt, hz⟩
  · simp only [List.length_cons, List.length_append] at hf
    obtain ⟨s', e, hp⟩ := ndt_datetime_frac y0 y1 y2 y3 m0 m1 d0 d1 h0 h1 i0 i1 s0 s1 hdg htg f0 fr hfr hmk hmt z hz rest hd s.lastPeek s.pos f (by omega)
    refine ⟨s', ?_, hp⟩
    simp only [List.cons_append, List.append_assoc] at hseq
    rw [hseq, e]
  · obtain ⟨s', e, hp⟩ := ndt_datetime y0 y1 y2 y3 m0 m1 d0 d1 h0 h1 i0 i1 s0 s1 hdg htg hmk hmt tl hz rest hd s.lastPeek s.pos f (by omega)
    refine ⟨s', ?_, hp⟩
    rw [hseq, e]

end Hs.Zinc

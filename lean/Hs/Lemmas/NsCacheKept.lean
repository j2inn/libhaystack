/-
  Hs.Lemmas.NsCacheKept — callers that KEEP an answer of `supertypes_of` / `inheritance` (Hs.Model.NsCacheCaller):
  thread programs that need not be `Safe`.

  * warm programs (`allHit`) never wait and finish after `hitLen` steps of their own.
  * the public functions `supK` / `inhK` are `cachedW` with the guard handed on: `SafeTo isOkB`, and the answers of
    `supG` / `inhG`.
  * caller scripts: `callerP` is `Good` for `scriptAns`.
-/
import Hs.Lemmas.NsCacheSys
namespace Hs.NsCache
open Hs Hs.Ns

variable {cfg : Cfg}

/-! ### warm programs never wait -/

theorem warm_mono {α : Type} {cs cs' : Caches} (hle : Le cs cs') {p : Prog α} (h : allHit cs p = true) :
    hitRun cs' p = hitRun cs p ∧ hitLen cs' p = hitLen cs p := by
  induction p with
  | ret b => exact ⟨rfl, rfl⟩
  | get c k cont ih | has c k cont ih =>
    simp only [allHit, hitRun, hitLen] at h ⊢
    cases hl : look c k cs with
    | none => rw [hl] at h; cases h
    | some v =>
      rw [hl] at h
      rw [hle _ _ _ hl]
      exact ⟨(ih _ h).1, congrArg (· + 1) (ih _ h).2⟩
  | ins c k v cont _ => cases h
  | drop cont ih => exact ⟨(ih h).1, congrArg (· + 1) (ih h).2⟩

theorem allHit_mono {α : Type} {cs cs' : Caches} (hle : Le cs cs') {p : Prog α}
    (h : allHit cs p = true) : allHit cs' p = true := by
  unfold allHit at h ⊢
  rw [(warm_mono hle h).1]
  exact h

theorem hitRun_bind {α β : Type} (cs : Caches) (p : Prog α) (f : α → Prog β) :
    hitRun cs (p.bind f) = (hitRun cs p).bind fun a => hitRun cs (f a) := by
  induction p with
  | ret a => rfl
  | get c k cont ih =>
    simp only [Prog.bind, hitRun]
    cases look c k cs with
    | none => rfl
    | some v => exact ih _
  | has c k cont ih =>
    simp only [Prog.bind, hitRun]
    split
    · exact ih _
    · rfl
  | ins c k v cont _ => rfl
  | drop cont ih => simp only [Prog.bind, hitRun]; exact ih

theorem hitLen_bind {α β : Type} (cs : Caches) (p : Prog α) (f : α → Prog β) {a : α} (h : hitRun cs p = some a) :
    hitLen cs (p.bind f) = hitLen cs p + hitLen cs (f a) := by
  induction p with
  | ret b => cases h; exact (Nat.zero_add _).symm
  | get c k cont ih =>
    simp only [Prog.bind, hitRun, hitLen] at h ⊢
    cases hl : look c k cs with
    | none => rw [hl] at h; cases h
    | some v => rw [hl] at h; simp only [ih _ h]; exact Nat.add_right_comm _ _ 1
  | has c k cont ih =>
    simp only [Prog.bind, hitRun, hitLen] at h ⊢
    split at h
    · rw [ih _ h]; exact Nat.add_right_comm _ _ 1
    · cases h
  | ins c k v cont _ => cases h
  | drop cont ih => simp only [Prog.bind, hitRun, hitLen] at h ⊢; rw [ih h]; exact Nat.add_right_comm _ _ 1

theorem hit_keepP {c : CacheId} {k : Name} {cs : Caches} {v : V} (h : look c k cs = some v) :
    hitRun cs (keepP cfg c k) = some (.ok v) ∧ hitLen cs (keepP cfg c k) = 1 := by
  cases c <;> simp [keepP, supK, inhK, hitRun, hitLen, h]

theorem hit_query_sup {k : Name} {cs : Caches} {v : V} (h : look .sup k cs = some v) :
    hitRun cs (queryP cfg (.sup k)) = some (.names (.ok v)) ∧ hitLen cs (queryP cfg (.sup k)) = 2 := by
  simp [queryP, supG, Prog.bind, hitRun, hitLen, h]

theorem hit_query_inh {k : Name} {cs : Caches} {v : V} (h : look .inh k cs = some v) :
    hitRun cs (queryP cfg (.inh k)) = some (.names (.ok v)) ∧ hitLen cs (queryP cfg (.inh k)) = 2 := by
  simp [queryP, inhG, Prog.bind, hitRun, hitLen, h]

/-- `let g = ns.<c>(k); ns.<q>(..)`: the kept answer is one hit, then the warm run of the query, then the end of
scope drops the kept answer -/
theorem hit_keepThen {c : CacheId} {k : Name} {q : Query} {cs : Caches} {v : V} {a : Ans}
    (hk : look c k cs = some v) (hq : hitRun cs (queryP cfg q) = some a) :
    allHit cs (keepThen cfg c k q) = true ∧ hitLen cs (keepThen cfg c k q) = hitLen cs (queryP cfg q) + 2 := by
  have h1 := hit_keepP (cfg := cfg) hk
  have h2 : hitRun cs ((queryP cfg q).bind fun a => (dropN 1 (.ret [])).bind fun as => .ret (a :: as)) = some [a] := by
    rw [hitRun_bind, hq]; rfl
  constructor
  · simp only [allHit, keepThen, callerP, hitRun_bind, h1.1, h2, Option.bind]
    rfl
  · simp only [keepThen, callerP, hitLen_bind cs _ _ h1.1, h1.2, hitLen_bind cs _ _ h2, hitLen_bind cs _ _ hq]
    simp only [dropN, Prog.bind, hitLen]
    omega

theorem warm_step {post : Nat → List Ans → Prop} {s : State} (h : AInv cfg post s) {t : Nat} {th : Thread}
    (ht : s.thr[t]? = some th) (hw : allHit s.c th.prog = true) (u : Nat) :
    ∃ th', (step cfg s u).thr[t]? = some th' ∧ allHit (step cfg s u).c th'.prog = true ∧
      hitLen (step cfg s u).c th'.prog = hitLen s.c th.prog - (if u = t then 1 else 0) := by
  -- its own step performs the first operation of the warm run, which is a hit and leaves the caches alone; the step of
  -- another thread only adds bindings (`ainv_step_le`), and a warm run is the same in larger caches (`warm_mono`)
  by_cases hut : u = t
  · subst hut
    simp only [if_true]
    unfold step
    rw [ht]
    simp only
    cases hp : th.prog with
    | ret a =>
      refine ⟨th, ht, hw, ?_⟩
      rw [hp]; rfl
    | get c k cont =>
      rw [hp] at hw
      simp only [allHit, hitRun] at hw
      cases hl : look c k s.c with
      | none => rw [hl] at hw; cases hw
      | some v =>
        rw [hl] at hw
        refine ⟨_, List.getElem?_set_self (List.getElem?_eq_some_iff.1 ht).1, ?_, ?_⟩
        · simpa [allHit, hl] using hw
        · simp [hitLen, hl]
    | has c k cont =>
      rw [hp] at hw
      simp only [allHit, hitRun] at hw
      cases hl : look c k s.c with
      | none => rw [hl] at hw; simp at hw
      | some v =>
        rw [hl] at hw
        simp only [Option.isSome_some, if_true] at hw
        refine ⟨_, List.getElem?_set_self (List.getElem?_eq_some_iff.1 ht).1, ?_, ?_⟩
        · simpa [allHit, hl] using hw
        · simp [hitLen, hl]
    | ins c k v cont =>
      rw [hp] at hw
      simp [allHit, hitRun] at hw
    | drop cont =>
      rw [hp] at hw
      simp only [allHit, hitRun] at hw
      refine ⟨_, List.getElem?_set_self (List.getElem?_eq_some_iff.1 ht).1, ?_, ?_⟩
      · simpa [allHit] using hw
      · simp [hitLen]
  · simp only [hut, if_false, Nat.sub_zero]
    have hle := (ainv_step_le h u).2
    exact ⟨th, by rw [step_thr_other s hut]; exact ht, allHit_mono hle hw, (warm_mono hle hw).2⟩

theorem warm_run {post : Nat → List Ans → Prop} {t : Nat} (sched : List Nat) :
    ∀ (s : State) (th : Thread), AInv cfg post s → s.thr[t]? = some th → allHit s.c th.prog = true →
    ∃ th', (run cfg s sched).thr[t]? = some th' ∧ allHit (run cfg s sched).c th'.prog = true ∧
      hitLen (run cfg s sched).c th'.prog = hitLen s.c th.prog - sched.count t := by
  induction sched with
  | nil => intro s th _ ht hw; exact ⟨th, ht, hw, by show hitLen s.c th.prog = _; simp⟩
  | cons u sched ih =>
    intro s th h ht hw
    obtain ⟨th1, ht1, hw1, hl1⟩ := warm_step h ht hw u
    obtain ⟨th2, ht2, hw2, hl2⟩ := ih (step cfg s u) th1 (ainv_step h u) ht1 hw1
    refine ⟨th2, ht2, hw2, ?_⟩
    show hitLen (run cfg (step cfg s u) sched).c th2.prog = _
    rw [hl2, hl1, List.count_cons]
    by_cases hut : u = t
    · simp [hut]; omega
    · simp [hut]

theorem allHit_not_ins {α : Type} {cs : Caches} {p : Prog α} (h : allHit cs p = true) :
    ∀ c k v cont, p ≠ .ins c k v cont := by
  intro c k v cont hp
  rw [hp] at h
  simp [allHit, hitRun] at h

theorem allHit_hitLen_zero {α : Type} {cs : Caches} {p : Prog α} (h : allHit cs p = true)
    (h0 : hitLen cs p = 0) : p.isRet = true := by
  cases p with
  | ret a => rfl
  | get c k cont =>
    simp only [allHit, hitRun, hitLen] at h h0
    cases hl : look c k cs with
    | none => rw [hl] at h; cases h
    | some v => rw [hl] at h0; simp at h0
  | has c k cont => simp [hitLen] at h0
  | ins c k v cont => simp [allHit, hitRun] at h
  | drop cont => simp [hitLen] at h0

theorem warm_never_blocked {post : Nat → List Ans → Prop} {s : State} (h : AInv cfg post s) {t : Nat}
    {th : Thread} (ht : s.thr[t]? = some th) (hw : allHit s.c th.prog = true) (sched : List Nat) :
    blocked cfg (run cfg s sched) t = false ∧
    (hitLen s.c th.prog ≤ sched.count t → finished (run cfg s sched) t = true) := by
  obtain ⟨th', ht', hw', hl'⟩ := warm_run sched s th h ht hw
  constructor
  · refine Bool.eq_false_iff.2 fun hb => ?_
    obtain ⟨th0, c, k, v, cont, ht0, hp⟩ := blocked_at_ins hb
    cases ht'.symm.trans ht0
    exact allHit_not_ins hw' c k v cont hp
  · intro hle
    simp only [finished, ht']
    exact allHit_hitLen_zero hw' (by rw [hl']; omega)

/-! ### the public functions `supK` / `inhK`: discipline and answer -/

def isOkB {α : Type} : Res α → Bool
  | .ok _ => true
  | _ => false

theorem isOkB_of_not_ok (e : Res V) (h : ∀ v, e ≠ .ok v) : isOkB e = false := by
  cases e <;> first | rfl | exact absurd rfl (h _)

theorem supK_eq_cachedW (g : Defs) (k : Name) :
    supK g k = cachedW (fun v => .ret (.ok v)) .sup k (.ret (.ok (supertypesOf g k))) := rfl

theorem inhK_eq_cachedW (fuel : Nat) (ns : Ns) (k : Name) :
    inhK fuel ns k = cachedW (fun v => .ret (.ok v)) .inh k (computeInhP fuel ns k) := rfl

theorem safeTo_keepP (cfg : Cfg) (c : CacheId) (k : Name) : SafeTo isOkB false (keepP cfg c k) := by
  cases c
  · rw [keepP, supK_eq_cachedW]
    exact safeTo_cachedW (fun _ => .ret rfl) .ret isOkB_of_not_ok
  · rw [keepP, inhK_eq_cachedW]
    exact safeTo_cachedW (fun _ => .ret rfl) (lib_computeInhP k).1 isOkB_of_not_ok

theorem good_supK (k : Name) : Returns cfg (supK cfg.ns.defs k) (.ok (supertypesOf cfg.ns.defs k)) :=
  supK_eq_cachedW _ k ▸ returns_supW (fun _ => .ret _) k

theorem good_inhK (k : Name) : Returns cfg (inhK cfg.fuel cfg.ns k) (inheritance cfg.fuel cfg.ns k) :=
  inhK_eq_cachedW _ _ k ▸ returns_inhW (fun _ => .ret _) k

/-! ### caller scripts -/

theorem callerP_ask (cfg : Cfg) : ∀ qs : List Query, callerP cfg (qs.map .ask) 0 = runQs cfg qs := by
  intro qs
  induction qs with
  | nil => rfl
  | cons q qs ih => simp only [List.map_cons, callerP, runQs, ih]

theorem good_dropN {α : Type} {p : Prog α} {a : α} (h : Returns cfg p a) : ∀ n, Returns cfg (dropN n p) a
  | 0 => h
  | n + 1 => fun cs => .drop (good_dropN h n cs)

theorem good_callerP : ∀ (sc : Script) (kept : Nat), Returns cfg (callerP cfg sc kept) (scriptAns cfg sc)
  | [], kept => good_dropN (.ret _) kept
  | .ask q :: sc, kept => (lib_queryP q).2.bind ((good_callerP sc kept).bind (.ret _))
  | .keep .sup k :: sc, kept => (good_supK k).bind ((good_callerP sc (kept + 1)).bind (.ret _))
  | .keep .inh k :: sc, kept => by
    refine (good_inhK k).bind ?_
    simp only [scriptAns, pureAns]
    cases inheritance cfg.fuel cfg.ns k <;> exact (good_callerP sc _).bind (.ret _)
  | .release :: sc, 0 => good_callerP sc 0
  | .release :: sc, kept + 1 => fun cs => .drop (good_callerP sc kept cs)

theorem ainv_initC {c0 : Caches} (h0 : Inv cfg c0) (scripts : List Script) :
    AInv cfg (fun t as => as = scriptAns cfg (scripts.getD t [])) (initC cfg c0 scripts) :=
  ainv_initP_map (fun sc => callerP cfg sc 0) (scriptAns cfg) [] (fun sc => good_callerP sc 0) h0 scripts

end Hs.NsCache

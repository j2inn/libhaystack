/-
  Hs.Lemmas.HaysonJPerm — member order at every depth (`JPerm`, `OrdOK`).  Under `OrdOK` the visitor decodes `j` and
  `j'` alike (`fromJson_jperm`, by recursion on the document), and `OrdOK` holds of EVERY document of the relation
  (`ordOK_of_denotes`, by recursion on the value: the names each kind lists are distinct, Lemmas/HaysonMembers; a
  `_kind` member of a known kind is no early return; the three singletons have one member).  Hence
  `fromJson_denotes_jperm`.
-/
import Hs.Lemmas.HaysonReadDenotes
namespace Hs.C05perm
open Hs Hs.Hayson

/-- `ms'` is a reordering of the members `ms` -/
def MPerm (ms ms' : Members) : Prop := ms.toList.Perm ms'.toList

/-- no key occurs twice -/
def KeysDistinct (ms : Members) : Prop := (ms.toList.map (·.1)).Nodup

/-- every member value decodes -/
def AllDecode (ms : Members) : Prop := ∀ p ∈ ms.toList, ∃ v, fromJson p.2 = .ok v

/-- no `_kind` member holds `"marker"`, `"remove"` or `"na"` (the kinds on which the visitor returns
without reading the remaining members) -/
def NoEarlyKind (ms : Members) : Prop :=
  ∀ p ∈ ms.toList, p.1 = s "_kind" → isEarly (fromJson p.2) = false

mutual
/-- `j'` is `j` with the members of any of its objects, at any depth, reordered -/
def JPerm : Json → Json → Prop
  | .arr xs, j' => ∃ ys, j' = .arr ys ∧ JsPerm xs ys
  | .obj ms, j' => ∃ ms1 ms', j' = .obj ms' ∧ MsPerm ms ms1 ∧ MPerm ms1 ms'
  | .null, j' => j' = .null
  | .bool b, j' => j' = .bool b
  | .int i f, j' => j' = .int i f
  | .flt f, j' => j' = .flt f
  | .str x, j' => j' = .str x
/-- element by element -/
def JsPerm : Jsons → Jsons → Prop
  | .nil, ys => ys = .nil
  | .cons x xs, ys => ∃ y ys', ys = .cons y ys' ∧ JPerm x y ∧ JsPerm xs ys'
/-- same keys in the same order, values reordered inside -/
def MsPerm : Members → Members → Prop
  | .nil, ms' => ms' = .nil
  | .cons k j ms, ms' => ∃ j' ms1, ms' = .cons k j' ms1 ∧ JPerm j j' ∧ MsPerm ms ms1
end

mutual
/-- every object in the document, at any depth, satisfies the hypotheses of `visitMap_perm` or has at most
one member (the `{"_kind":"marker"}` objects) -/
def OrdOK : Json → Prop
  | .arr xs => OrdOKs xs
  | .obj ms => KeysDistinct ms ∧ (NoEarlyKind ms ∨ ms.toList.length ≤ 1) ∧ OrdOKm ms
  | _ => True
def OrdOKs : Jsons → Prop
  | .nil => True
  | .cons j js => OrdOK j ∧ OrdOKs js
def OrdOKm : Members → Prop
  | .nil => True
  | .cons _ j ms => OrdOK j ∧ OrdOKm ms
end

/-! ### `JPerm`, constructor by constructor -/

theorem JPerm.mk_arr {xs ys : Jsons} (h : JsPerm xs ys) : JPerm (.arr xs) (.arr ys) := by
  simp only [JPerm]; exact ⟨ys, rfl, h⟩
theorem JPerm.mk_obj {ms ms1 ms' : Members} (h1 : MsPerm ms ms1) (h2 : MPerm ms1 ms') :
    JPerm (.obj ms) (.obj ms') := by
  simp only [JPerm]; exact ⟨ms1, ms', rfl, h1, h2⟩
theorem JsPerm.mk_cons {x y : Json} {xs ys : Jsons} (h1 : JPerm x y) (h2 : JsPerm xs ys) :
    JsPerm (.cons x xs) (.cons y ys) := by
  simp only [JsPerm]; exact ⟨y, ys, rfl, h1, h2⟩
theorem MsPerm.mk_cons {k : List Char} {x y : Json} {xs ys : Members} (h1 : JPerm x y) (h2 : MsPerm xs ys) :
    MsPerm (.cons k x xs) (.cons k y ys) := by
  simp only [MsPerm]; exact ⟨y, ys, rfl, h1, h2⟩

/-! ### under `OrdOK` a reordering at any depth is decoded alike -/

mutual
theorem fromJson_jperm : (j : Json) → ∀ j', OrdOK j → JPerm j j' → fromJson j = fromJson j'
  | .null, j', _, hp | .bool b, j', _, hp | .int i f, j', _, hp | .flt f, j', _, hp | .str x, j', _, hp => by
    simp [JPerm] at hp; rw [hp]
  | .arr xs, j', ho, hp => by
    simp only [JPerm] at hp
    obtain ⟨ys, e, h⟩ := hp
    subst e
    simp only [OrdOK] at ho
    rw [fromJson, fromJson, seq_jperm xs ys ho h]
  | .obj ms, j', ho, hp => by
    simp only [JPerm] at hp
    obtain ⟨ms1, ms', e, hpw, hperm⟩ := hp
    subst e
    simp only [OrdOK] at ho
    obtain ⟨hd, hh, hm⟩ := ho
    have hv : view ms = view ms1 := view_msperm ms ms1 hm hpw
    have hp' : (view ms1).Perm (view ms') := Spec.Hayson.view_perm hperm
    have hn : ((view ms).map (·.1)).Nodup := by rw [Spec.Hayson.view_keys]; exact hd
    rw [fromJson_obj, fromJson_obj, hv]
    rcases hh with hh | hh
    · exact runR_perm hp' (hv ▸ hn) (hv ▸ Spec.Hayson.orderHyp_view ms hh) [] []
    · have hl : (view ms1).length ≤ 1 := by
        rw [← hv, Spec.Hayson.view_eq_decView, Spec.Hayson.decView, List.length_map]; exact hh
      rw [perm_eq_of_length_le_one hp' hl]
theorem seq_jperm : (xs : Jsons) → ∀ ys, OrdOKs xs → JsPerm xs ys → seq xs = seq ys
  | .nil, ys, _, hp => by simp [JsPerm] at hp; rw [hp]
  | .cons x xs, ys, ho, hp => by
    simp only [JsPerm] at hp
    obtain ⟨y, ys', e, h1, h2⟩ := hp
    subst e
    simp only [OrdOKs] at ho
    rw [seq, seq, fromJson_jperm x y ho.1 h1, seq_jperm xs ys' ho.2 h2]
theorem view_msperm : (ms : Members) → ∀ ms1, OrdOKm ms → MsPerm ms ms1 → view ms = view ms1
  | .nil, ms1, _, hp => by simp [MsPerm] at hp; rw [hp]
  | .cons k j ms, ms1, ho, hp => by
    simp only [MsPerm] at hp
    obtain ⟨j', ms2, e, h1, h2⟩ := hp
    subst e
    simp only [OrdOKm] at ho
    simp only [view]
    rw [fromJson_jperm j j' ho.1 h1, view_msperm ms ms2 ho.2 h2]
end

/-! ### `OrdOK` of an object from its members as a set -/

theorem ordOKm_iff : ∀ ms : Members, OrdOKm ms ↔ ∀ p ∈ ms.toList, OrdOK p.2
  | .nil => by simp [OrdOKm]
  | .cons k j ms => by simp [OrdOKm, ordOKm_iff ms]

/-- an object whose members are a reordering of `L`: the three conditions are about the members as a set -/
theorem ordOK_obj {ms : Members} {L : List (List Char × Json)} (hp : ms.toList.Perm L) (hd : (L.map (·.1)).Nodup)
    (he : (∀ p ∈ L, p.1 = s "_kind" → isEarly (fromJson p.2) = false) ∨ L.length ≤ 1)
    (ho : ∀ p ∈ L, OrdOK p.2) : OrdOK (.obj ms) := by
  simp only [OrdOK, ordOKm_iff]
  exact ⟨show (ms.toList.map (·.1)).Nodup from ((hp.map (·.1)).nodup_iff).mpr hd,
    he.imp (fun h p hp' => h p (hp.mem_iff.mp hp')) (fun h => hp.length_eq ▸ h),
    fun p hp' => ho p (hp.mem_iff.mp hp')⟩

theorem ordOK_single (k : List Char) {j : Json} (h : OrdOK j) : OrdOK (.obj (.cons k j .nil)) :=
  ordOK_obj (.refl _) (by simp) (.inr (by simp)) (by simpa using h)

theorem ordOK_arr {js : Jsons} (h : OrdOKs js) : OrdOK (.arr js) := by simp only [OrdOK]; exact h

section OfDenotes
open Hs.Spec.Hayson

/-- a `{"_kind": kind, …}` object of a known kind (the hypotheses of `fromJson_kindObj`) -/
theorem ordOK_kindObj {kind : String} {rest : Mems} {ms : Members} (hp : ms.toList.Perm (kindMem kind :: rest))
    (hk : kind ∈ knownKinds) (hd : (s "_kind" :: rest.map (·.1)).Nodup) (ho : ∀ p ∈ rest, OrdOK p.2) :
    OrdOK (.obj ms) := by
  refine ordOK_obj hp hd (.inl fun p hp' e => ?_) (fun p hp' => ?_)
  · rcases List.mem_cons.mp hp' with rfl | hp'
    · exact isEarly_known hk
    · exact absurd e (noKind_of_names hd p hp')
  · rcases List.mem_cons.mp hp' with rfl | hp'
    · simp [OrdOK]
    · exact ho p hp'

theorem ordOK_dictObj {rest km : Mems} {ms : Members} (hkm : OptKindDict km) (hp : ms.toList.Perm (km ++ rest))
    (hd : (s "_kind" :: rest.map (·.1)).Nodup) (ho : ∀ p ∈ rest, OrdOK p.2) : OrdOK (.obj ms) := by
  cases hkm with
  | present => exact ordOK_kindObj hp known_dict hd ho
  | absent =>
    exact ordOK_obj hp (List.nodup_cons.mp hd).2
      (.inl fun p hp' e => absurd e (noKind_of_names hd p hp')) ho

theorem ordOK_numTok {f : Flt} {j : Json} (h : NumTok f j) : OrdOK j := by cases h <;> simp [OrdOK]

theorem ordOK_numVal {f : Flt} {j : Json} (h : NumVal f j) : OrdOK j := by
  cases h with
  | tok h => exact ordOK_numTok h
  | _ => simp [OrdOK]

/-! ### every Hayson document is `OrdOK` -/

mutual
theorem ordOK_of_denotes : {w : Val} → {doc : Json} → Denotes w doc → OrdOK doc
  | _, _, .null => by simp [OrdOK]
  | _, _, .bool _ => by simp [OrdOK]
  | _, _, .str _ => by simp [OrdOK]
  | _, _, .numTok h => ordOK_numTok h
  | _, _, .marker => ordOK_single _ (by simp [OrdOK])
  | _, _, .remove => ordOK_single _ (by simp [OrdOK])
  | _, _, .na => ordOK_single _ (by simp [OrdOK])
  | _, _, .number hv hu hp =>
    ordOK_kindObj hp known_number (names_number hu) (by cases hu <;> simp [OrdOK, ordOK_numVal hv])
  | _, _, .ref hd hp => ordOK_kindObj hp known_ref (names_valOpt (by simp) (by simp) hd) (by cases hd <;> simp [OrdOK])
  | _, _, .symbol hp => ordOK_kindObj hp known_symbol names_val (by simp [OrdOK])
  | _, _, .uri hp => ordOK_kindObj hp known_uri names_val (by simp [OrdOK])
  | _, _, .date hp => ordOK_kindObj hp known_date names_val (by simp [OrdOK])
  | _, _, .time hp => ordOK_kindObj hp known_time names_val (by simp [OrdOK])
  | _, _, .dateTime hz hp =>
    ordOK_kindObj hp known_dateTime (names_valOpt (by simp) (by simp) hz) (by cases hz <;> simp [OrdOK])
  | _, _, .coord ha hb hp =>
    ordOK_kindObj hp known_coord names_coord (by simp [ordOK_numTok ha, ordOK_numTok hb])
  | _, _, .xstr hp => ordOK_kindObj hp known_xstr names_xstr (by simp [OrdOK])
  | _, _, .list hl => ordOK_arr (ordOK_of_denotesL hl)
  | _, _, .dict (.mk hm hk hkm hp) =>
    ordOK_dictObj hkm hp (tagMembers_nodup (keys_of_denotesM hm) hk) (ordOK_of_denotesM hm)
  | _, _, .gridNoMeta hc hr hp =>
    ordOK_kindObj hp known_grid names_grid3
      (by simp [ordOK_arr (ordOK_of_denotesCols hc), ordOK_arr (ordOK_of_denotesRows hr)])
  | _, _, .gridMeta hm hk hnv hkm hvm hpm hc hr hp =>
    ordOK_kindObj hp known_grid names_grid4 (by
      have hmeta : OrdOK (.obj _) := ordOK_dictObj hkm (List.append_assoc _ _ _ ▸ hpm)
        (metaMembers_nodup (keys_of_denotesM hm) hk hnv hvm)
        (fun p hp' => (List.mem_append.mp hp').elim (by cases hvm <;> simp +contextual [OrdOK])
          (ordOK_of_denotesM hm p))
      simp [hmeta, ordOK_arr (ordOK_of_denotesCols hc), ordOK_arr (ordOK_of_denotesRows hr)])
termination_by structural w => w
theorem ordOK_of_denotesL : {vs : Vals} → {js : Jsons} → DenotesL vs js → OrdOKs js
  | _, _, .nil => by simp [OrdOKs]
  | _, _, .cons hv hl => by simp only [OrdOKs]; exact ⟨ordOK_of_denotes hv, ordOK_of_denotesL hl⟩
termination_by structural vs => vs
theorem ordOK_of_denotesM : {t : Tags} → {tm : Mems} → DenotesM t tm → ∀ p ∈ tm, OrdOK p.2
  | _, _, .nil => nofun
  | _, _, .cons hv hm => List.forall_mem_cons.mpr ⟨ordOK_of_denotes hv, ordOK_of_denotesM hm⟩
termination_by structural t => t
theorem ordOK_of_denotesCols : {c : Cols} → {js : Jsons} → DenotesCols c js → OrdOKs js
  | _, _, .nil => by simp [OrdOKs]
  | _, _, .consNoMeta hp hc => by
    simp only [OrdOKs]
    exact ⟨ordOK_obj hp (by simp) (.inr (by simp)) (by simp [OrdOK]), ordOK_of_denotesCols hc⟩
  | _, _, .consMeta (.mk hm hk hkm hp') hp hc => by
    simp only [OrdOKs]
    refine ⟨ordOK_obj hp (by simp [s_inj]) (.inl (by simp [s_inj])) ?_, ordOK_of_denotesCols hc⟩
    simp [show OrdOK (.str _) from trivial,
      ordOK_dictObj hkm hp' (tagMembers_nodup (keys_of_denotesM hm) hk) (ordOK_of_denotesM hm)]
termination_by structural c => c
theorem ordOK_of_denotesRows : {r : Rows} → {js : Jsons} → DenotesRows r js → OrdOKs js
  | _, _, .nil => by simp [OrdOKs]
  | _, _, .cons (.mk hm hk hkm hp) hr => by
    simp only [OrdOKs]
    exact ⟨ordOK_dictObj hkm hp (tagMembers_nodup (keys_of_denotesM hm) hk) (ordOK_of_denotesM hm),
      ordOK_of_denotesRows hr⟩
termination_by structural r => r
end

end OfDenotes

/-- **any member order, at any depth, of ANY Hayson document** of a value decodes to that value -/
theorem fromJson_denotes_jperm {w : Val} {j j' : Json} (h : Spec.Hayson.Denotes w j) (hp : JPerm j j') :
    fromJson j' = .ok w := by
  rw [← fromJson_jperm j j' (ordOK_of_denotes h) hp]
  exact Spec.Hayson.read_denotes h

end Hs.C05perm

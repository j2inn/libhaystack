/-
  C11 (lazy rows): the complete top-level grid (every row is handed out, with its byte count), and: rows are available
  as soon as they have been received.  For a well-formed top-level grid whose rows are `rowsP` followed by `rn` and
  `more`: cut the writer's text one byte after the first token of the line of `rn` and append ANY bytes; the first
  `rowsP.length` calls of the iterator still hand out the rows `rowsP`, with the same byte counts.
-/
import Hs.Lemmas.ZincLazyCount
import Hs.Lemmas.ZincLazyGrid
namespace Hs.Zinc
open Hs Hs.Scan

/-- `Layout t names single off rows`: at offset `off` of `t` the lines of `rows` begin, one after the other, each
ended by a newline, followed by the blank line that ends the grid; a clean scanner positioned at the start of a
row line is moved by one `lexRead` to the offset `off + rowFirstLen r names` -/
def Layout (t : List UInt8) (names : List (List Char)) (single : Bool) : Nat → Rows → Prop
  | off, .nil => t.drop off = [10]
  | off, .cons r rs =>
    (t.drop off = rowBytes r names single ++ 10 :: t.drop (off + (rowBytes r names single).length + 1) ∧
     1 ≤ rowFirstLen r names ∧ rowFirstLen r names ≤ (rowBytes r names single).length ∧
     ∀ (sc : Scan) (f : Nat), At sc (t.drop off) → sc.stash = [] → (rowBytes r names single).length + 3 ≤ f →
       ∃ q, lexRead f sc = .ok q ∧ At q.sc (t.drop (off + rowFirstLen r names)) ∧ q.sc.stash = []) ∧
    Layout t names single (off + (rowBytes r names single).length + 1) rs

theorem layout_rows (t : List UInt8) (names : List (List Char)) (single : Bool)
    (hne : names ≠ []) (hsingle : names.length = 1 → single = true) :
    ∀ (rows : Rows) (off : Nat), RowsOk names single rows → GoodR rows →
      t.drop off = encRows rows names single ++ [10] → Layout t names single off rows
  | .nil, off, _, _, ht => by simpa [Layout, encRows] using ht
  | .cons r rs, off, hok, hgood, ht => by
    obtain ⟨hrow, hrest⟩ := hok
    simp only [GoodR] at hgood
    rw [encRows_cons] at ht
    simp only [List.append_assoc, List.cons_append] at ht
    have hnext : t.drop (off + (rowBytes r names single).length + 1) = encRows rs names single ++ [10] := by
      have : t.drop (off + (rowBytes r names single).length + 1)
          = (t.drop off).drop ((rowBytes r names single).length + 1) := by
        rw [List.drop_drop, Nat.add_assoc]
      rw [this, ht]
      have h2 : (rowBytes r names single ++ 10 :: (encRows rs names single ++ [10]))
          = (rowBytes r names single ++ [10]) ++ (encRows rs names single ++ [10]) := by simp
      rw [h2, List.drop_left' (by simp)]
    refine ⟨⟨by rw [ht, hnext], ?_⟩, layout_rows t names single hne hsingle rs _ hrest hgood.2 hnext⟩
    have hgoodcell : ∀ n v, r.get? n = some v → GoodV v := fun n v hv => (rdCell r hgood.1 n v hv).2
    have hpres : single = true → ∀ n ∈ names, r.get? n ≠ none := fun h n hn => (hrow.cells n hn).2 h
    obtain ⟨hk1, hk2, _⟩ := rowFirst_split r names single [] hne hsingle hgoodcell hpres
    refine ⟨hk1, hk2, ?_⟩
    intro sc f hat hs hf
    rw [ht] at hat
    obtain ⟨q, e, hq, hsq, _⟩ := rowFirst_at r names single _ hne hsingle hgoodcell hpres sc f hat hs hf
    refine ⟨q, e, ?_, hsq⟩
    rw [← List.drop_drop, ht]
    exact hq

theorem rows_length_le (names : List (List Char)) (single : Bool) : ∀ rows : Rows,
    rows.length ≤ (encRows rows names single).length
  | .nil => by simp [Rows.length]
  | .cons r rs => by
    rw [encRows_length_cons]
    have := rows_length_le names single rs
    simp only [Rows.length]; omega

/-- the `i`-th number `pulls` reports is within one byte of the `i`-th token end -/
theorem zip_min_bound {α : Type} (total : Nat) (l : List α) (es : List Nat) (i : Nat) (x : α × Nat)
    (h : (List.zip l (es.map (fun e => min (e + 1) total)))[i]? = some x) :
    ∃ e, es[i]? = some e ∧ l[i]? = some x.1 ∧ x.2 = min (e + 1) total := by
  obtain ⟨h1, h2⟩ := List.getElem?_zip_eq_some.mp h
  rw [List.getElem?_map, Option.map_eq_some_iff] at h2
  obtain ⟨e, he, hx⟩ := h2
  exact ⟨e, he, h1, hx.symm⟩

theorem map_min_eq (total : Nat) : ∀ es : List Nat, (∀ x ∈ es, x + 1 ≤ total) →
    es.map (fun e => min (e + 1) total) = es.map (· + 1)
  | [], _ => rfl
  | e :: es, h => by
    simp only [List.map_cons]
    rw [map_min_eq total es (fun x hx => h x (by simp [hx])), Nat.min_eq_left (h e (by simp))]

theorem gridOk_of_wf (md : OTags) (cols : Cols) (rows : Rows) (ver : List Char)
    (hwf : wfV (.grid md cols rows ver) = true) : cols ≠ .nil ∧ GridOkG md cols rows ver ∧ GoodR rows := by
  have h := good_of_wf _ hwf
  obtain ⟨n, cm, c, rfl, hok⟩ := gridOkG_of_good (GoodV.toG _ h)
  have ⟨hver, hms, hcs, hrs, hgo, hgc, hgr⟩ := h
  exact ⟨nofun, hok, hgr⟩

/-- `encode_grid_split` and "a grid has a column name" over `cols`: the lemmas below keep `cols.names` and
`cols.length == 1` as variables and never look at the first column -/
theorem encode_grid_split_ne (md : OTags) {cols : Cols} (hc : cols ≠ .nil) (rows : Rows) (ver : List Char) :
    encode (.grid md cols rows ver) = headerBytes md cols ++ (encRows rows cols.names (cols.length == 1) ++ [10]) := by
  cases cols with
  | nil => exact absurd rfl hc
  | cons n cm c => exact encode_grid_split md n cm c rows ver

theorem names_ne_nil {cols : Cols} (hc : cols ≠ .nil) : cols.names ≠ [] := by
  cases cols with
  | nil => exact absurd rfl hc
  | cons n cm c => simp [Cols.names]

/-- every row has a line of at least its newline: `|t| + 3` calls exhaust the iterator -/
theorem rows_length_lt (md : OTags) (cols : Cols) (rows : Rows) (ver : List Char)
    (hwf : wfV (.grid md cols rows ver) = true) : rows.length < (encode (.grid md cols rows ver)).length + 3 := by
  obtain ⟨hc, _, _⟩ := gridOk_of_wf md cols rows ver hwf
  have h1 := rows_length_le cols.names (cols.length == 1) rows
  rw [encode_grid_split_ne md hc]
  simp only [List.length_append]
  omega

theorem lazy_of_wf (md : OTags) (cols : Cols) (rows : Rows) (ver : List Char)
    (hwf : wfV (.grid md cols rows ver) = true) (D F : Nat)
    (hD : D + nestV (.grid md cols rows ver) ≤ 64)
    (hF : 4 * (encode (.grid md cols rows ver)).length + 44 ≤ F) :
    ∃ p0 r0 r',
      lexRead F (Scan.make (encode (.grid md cols rows ver))) = .ok p0 ∧
      gridHeader F D p0 = .ok ((lexImgO md, (lexImgC cols).toList, ver), r0) ∧
      (∀ n, rows.length < n →
        pulls F D cols.names (encode (.grid md cols rows ver)).length n r0 =
          .ok (List.zip (lexImgR rows).toList
            ((tokEnds cols.names (cols.length == 1) (headerBytes md cols).length rows).map
              (fun e => min (e + 1) (encode (.grid md cols rows ver)).length)))) ∧
      rowsLoop F D r0 cols.names [] = .ok ((lexImgR rows).toList, r') := by
  obtain ⟨hc, hok, hgr⟩ := gridOk_of_wf md cols rows ver hwf
  have hsplit := encode_grid_split_ne md hc rows ver
  have hne : cols.names ≠ [] := names_ne_nil hc
  have hlen := congrArg List.length hsplit
  simp only [List.length_append, List.length_cons, List.length_nil] at hlen
  simp only [nestV] at hD
  obtain ⟨g, rfl⟩ : ∃ g, F = g + 3 := ⟨F - 3, by omega⟩
  obtain ⟨p0, s, p6, e0, h5, hs5, e6, eh, hh⟩ := lazy_rows md cols hc hok.okMeta hok.okCols rows [10] [] _ hok.okRows hgr D g
    (tailOk_top D g _) ⟨by omega, by omega, by omega⟩ (by omega)
  -- `parse_grid` collects the same iterator: its first state is the one `lexRead` at the start of the rows yields
  obtain ⟨p6', r', e6', el, _, _⟩ := rowsLoop_all cols.names (cols.length == 1) false []
    hne (cols_singleW cols) D rows hok.okRows (by omega) (g + 2) s h5 hs5 (by omega)
  obtain rfl : p6' = p6 := by rw [e6] at e6'; cases e6'; rfl
  rw [← hsplit] at e0
  rw [← hok.okVer] at eh
  generalize hr0 : ({ p := p6', nestedStart := false, nestedEnd := false } : RowState) = r0 at eh hh el
  refine ⟨p0, r0, r', e0, eh, ?_, el⟩
  · intro k hk
    -- the blank line counts like the line of a row without cells in a grid with several columns: first token `,`
    have h1 : rowFirstLen .nil cols.names = 1 := by
      cases hn : cols.names with
      | nil => exact absurd hn hne
      | cons n ns => rfl
    rw [pulls_of_hands (g + 3) D _ _ _ k r0 hh (by rw [rowTrace_length]; exact hk), tokEnds_eq _ _ .nil h1,
      rowTrace_counts _ _ .nil [10] [] (by rw [h1]; rfl) rows (headerBytes md cols).length _
        (by rw [hsplit]; simp only [List.length_append, List.length_cons, List.length_nil]; omega)]

theorem layout_of_wf (md : OTags) (cols : Cols) (rows : Rows) (ver : List Char)
    (hwf : wfV (.grid md cols rows ver) = true) :
    Layout (encode (.grid md cols rows ver)) cols.names (cols.length == 1) (headerBytes md cols).length rows := by
  obtain ⟨hc, hok, hgr⟩ := gridOk_of_wf md cols rows ver hwf
  refine layout_rows _ _ _ (names_ne_nil hc) (cols_singleW cols) rows _ hok.okRows hgr ?_
  rw [encode_grid_split_ne md hc, List.drop_left]

def Rows.app : Rows → Rows → Rows
  | .nil, b => b
  | .cons r rs, b => .cons r (Rows.app rs b)

theorem encRows_app (names : List (List Char)) (single : Bool) : ∀ a b : Rows,
    encRows (Rows.app a b) names single = encRows a names single ++ encRows b names single
  | .nil, b => by simp [Rows.app, encRows]
  | .cons r rs, b => by
    simp only [Rows.app]
    rw [encRows_cons, encRows_cons, encRows_app names single rs b]; simp

theorem rowsOk_app (names : List (List Char)) (single : Bool) : ∀ a b : Rows,
    RowsOk names single (Rows.app a b) → RowsOk names single a ∧ RowsOk names single b
  | .nil, b, h => ⟨trivial, h⟩
  | .cons r rs, b, h => by
    simp only [Rows.app, RowsOk] at h ⊢
    obtain ⟨h1, h2⟩ := rowsOk_app names single rs b h.2
    exact ⟨⟨h.1, h1⟩, h2⟩

theorem goodR_app : ∀ a b : Rows, GoodR (Rows.app a b) → GoodR a ∧ GoodR b
  | .nil, b, h => ⟨by simp [GoodR], h⟩
  | .cons r rs, b, h => by
    simp only [Rows.app, GoodR] at h ⊢
    obtain ⟨h1, h2⟩ := goodR_app rs b h.2
    exact ⟨⟨h.1, h1⟩, h2⟩

theorem nestR_app_le : ∀ a b : Rows, nestR a ≤ nestR (Rows.app a b)
  | .nil, b => by simp [nestR]
  | .cons r rs, b => by
    have := nestR_app_le rs b
    simp only [Rows.app, nestR]; omega

theorem lexImgR_app : ∀ a b : Rows, lexImgR (Rows.app a b) = Rows.app (lexImgR a) (lexImgR b)
  | .nil, b => rfl
  | .cons r rs, b => by simp [Rows.app, lexImgR, lexImgR_app rs b]

theorem rowFirstLen_le (r : Tags) (names : List (List Char)) (single : Bool)
    (hne : names ≠ []) (hsingle : names.length = 1 → single = true)
    (hrow : RowOk r names single) (hg : GoodT r) :
    1 ≤ rowFirstLen r names ∧ rowFirstLen r names ≤ (rowBytes r names single).length := by
  obtain ⟨h1, h2, _⟩ := rowFirst_split r names single [] hne hsingle
    (fun n v hv => (rdCell r hg n v hv).2) (fun h n hn => (hrow.cells n hn).2 h)
  exact ⟨h1, h2⟩

theorem tokEndsP_le (names : List (List Char)) (single : Bool) (rn : Tags)
    (hne : names ≠ []) (hsingle : names.length = 1 → single = true) : ∀ (rows : Rows) (off : Nat),
    RowsOk names single rows → GoodR rows →
    ∀ x ∈ tokEndsP names single rn off rows, x ≤ off + (encRows rows names single).length + rowFirstLen rn names
  | .nil, _, _, _, x, hx => by simp [tokEndsP] at hx
  | .cons r rs, off, hok, hg, x, hx => by
    simp only [GoodR] at hg
    rw [encRows_length_cons]
    simp only [tokEndsP, List.mem_cons] at hx
    rcases hx with rfl | hx
    · cases rs with
      | nil => simp only [encRows, List.length_nil]; omega
      | cons r2 rs2 =>
        -- the first token of the next line is inside that line
        simp only [GoodR] at hg
        have := (rowFirstLen_le r2 names single hne hsingle hok.2.1 hg.2.1).2
        rw [encRows_length_cons]; simp only; omega
    · have := tokEndsP_le names single rn hne hsingle rs (off + (rowBytes r names single).length + 1) hok.2 hg.2 x hx
      omega

theorem line_cut (rn : Tags) (names : List (List Char)) (single : Bool) (tl : List UInt8)
    (hne : names ≠ []) (hsingle : names.length = 1 → single = true)
    (hrow : RowOk rn names single) (hg : GoodT rn) :
    ∃ d, (rowBytes rn names single ++ 10 :: tl).take (rowFirstLen rn names + 1) = rowFirstBytes rn names single ++ [d] ∧
      ∀ junk, FirstEnds rn names (d :: junk) := by
  obtain ⟨_, hk2, hX⟩ := rowFirst_split rn names single tl hne hsingle
    (fun n v hv => (rdCell rn hg n v hv).2) (fun h n hn => (hrow.cells n hn).2 h)
  have hlt : rowFirstLen rn names < (rowBytes rn names single ++ 10 :: tl).length := by simp; omega
  refine ⟨(rowBytes rn names single ++ 10 :: tl)[rowFirstLen rn names], ?_, ?_⟩
  · rw [List.take_add_one, List.getElem?_eq_getElem hlt]
    simp only [Option.toList_some, rowFirstBytes]
    rw [List.take_append_of_le_length hk2, List.take_append_of_le_length hk2]
  · -- `FirstEnds` looks at the first byte only
    intro junk n v hn hget hsc
    obtain ⟨d, rest, e, hd⟩ := hX n v hn hget hsc
    rw [List.drop_eq_getElem_cons hlt] at e
    exact ⟨_, junk, rfl, by rw [(List.cons.inj e).1]; exact hd⟩

/-- **rows of a still-arriving grid**: `e` is the offset at which the first token of the line of `rn` ends; the
writer's text cut after `e + 1` bytes and continued by ANY bytes `junk` still makes the iterator hand out the rows
`rowsP` in its first `rowsP.length` calls, the `j`-th having pulled exactly `e_j + 1` bytes -/
theorem avail_of_wf (md : OTags) (cols : Cols) (rowsP : Rows) (rn : Tags) (more : Rows) (ver : List Char)
    (hwf : wfV (.grid md cols (Rows.app rowsP (.cons rn more)) ver) = true) (D : Nat)
    (hD : D + nestV (.grid md cols (Rows.app rowsP (.cons rn more)) ver) ≤ 64) :
    (headerBytes md cols).length + (encRows rowsP cols.names (cols.length == 1)).length + rowFirstLen rn cols.names + 1
      ≤ (encode (.grid md cols (Rows.app rowsP (.cons rn more)) ver)).length ∧
    ∀ (junk : List UInt8) (F : Nat),
      4 * ((headerBytes md cols).length + (encRows rowsP cols.names (cols.length == 1)).length
        + rowFirstLen rn cols.names + 1) + 44 ≤ F →
      ∃ p0 r0,
        lexRead F (Scan.make ((encode (.grid md cols (Rows.app rowsP (.cons rn more)) ver)).take
          ((headerBytes md cols).length + (encRows rowsP cols.names (cols.length == 1)).length
            + rowFirstLen rn cols.names + 1) ++ junk)) = .ok p0 ∧
        gridHeader F D p0 = .ok ((lexImgO md, (lexImgC cols).toList, ver), r0) ∧
        pullsN F D cols.names ((headerBytes md cols).length + (encRows rowsP cols.names (cols.length == 1)).length
            + rowFirstLen rn cols.names + 1 + junk.length) rowsP.length r0 =
          .ok (List.zip (lexImgR rowsP).toList
            ((tokEndsP cols.names (cols.length == 1) rn (headerBytes md cols).length rowsP).map (· + 1))) := by
  obtain ⟨hc, hok, hgr⟩ := gridOk_of_wf md cols _ ver hwf
  have hne : cols.names ≠ [] := names_ne_nil hc
  have hsg := cols_singleW cols
  obtain ⟨hokP, hokN⟩ := rowsOk_app _ _ rowsP (.cons rn more) hok.okRows
  obtain ⟨hgP, hgN⟩ := goodR_app rowsP (.cons rn more) hgr
  obtain ⟨hrn, _⟩ := hokN
  simp only [GoodR] at hgN
  have hgn := hgN.1
  simp only [nestV] at hD
  have hdep : D + nestO md ≤ 64 ∧ D + nestC cols ≤ 64 ∧ D + nestR rowsP ≤ 64 := by
    have := nestR_app_le rowsP (.cons rn more)
    omega
  obtain ⟨hk1, hk2⟩ := rowFirstLen_le rn _ _ hne hsg hrn hgn
  have hsplit := encode_grid_split_ne md hc (Rows.app rowsP (.cons rn more)) ver
  rw [encRows_app, encRows_cons] at hsplit
  -- the cut text is the header, the lines of `rowsP`, the first token of the line of `rn` and the ONE byte `d` after
  -- it (`htake`); `d` alone decides `FirstEnds`, so `d :: junk` is a text at which the iterator's behaviour is known
  -- (`tailOk_first`) and `lazy_rows` applies with `Y` = that token followed by `d :: junk`
  obtain ⟨d, hcut, hfe⟩ := line_cut rn cols.names (cols.length == 1)
    (encRows more cols.names (cols.length == 1) ++ [10]) hne hsg hrn hgn
  have htake : (encode (.grid md cols (Rows.app rowsP (.cons rn more)) ver)).take
      ((headerBytes md cols).length
        + (encRows rowsP cols.names (cols.length == 1)).length
        + rowFirstLen rn cols.names + 1)
      = headerBytes md cols ++ (encRows rowsP cols.names (cols.length == 1)
          ++ (rowFirstBytes rn cols.names (cols.length == 1) ++ [d])) := by
    rw [hsplit, ← hcut]
    have e1 : (headerBytes md cols).length
        + (encRows rowsP cols.names (cols.length == 1)).length
        + rowFirstLen rn cols.names + 1
        = (headerBytes md cols).length
          + ((encRows rowsP cols.names (cols.length == 1)).length
            + (rowFirstLen rn cols.names + 1)) := by omega
    rw [e1]
    simp only [List.append_assoc, List.cons_append]
    rw [List.take_length_add_append, List.take_length_add_append]
  constructor
  · rw [hsplit]
    simp only [List.length_append, List.length_cons, List.length_nil]
    omega
  · intro junk F hF
    rw [htake]
    have hX := hfe junk
    obtain ⟨g, rfl⟩ : ∃ g, F = g + 3 := ⟨F - 3, by omega⟩
    obtain ⟨p0, _, p6, e0, _, _, _, eh, hh⟩ := lazy_rows md cols hc hok.okMeta hok.okCols rowsP _ (d :: junk) _ hokP hgP D g
      (tailOk_first rn _ _ (d :: junk) hne hsg (fun n' v hv => (rdCell rn hgn n' v hv).2)
        (fun h n' hn => (hrn.cells n' hn).2 h) hX g (by omega)) hdep (by omega)
    generalize ({ p := p6, nestedStart := false, nestedEnd := false } : RowState) = r0 at eh hh
    refine ⟨p0, r0, ?_, ?_, ?_⟩
    · simpa using e0
    · rw [eh, hok.okVer]
    · have hpn := pullsN_of_hands (g + 3) D cols.names
        ((headerBytes md cols).length
          + (encRows rowsP cols.names (cols.length == 1)).length
          + rowFirstLen rn cols.names + 1 + junk.length) _ _ r0 hh
      have hk : (rowFirstBytes rn cols.names (cols.length == 1)).length
          = rowFirstLen rn cols.names := by
        simp only [rowFirstBytes, List.length_take, List.length_append, List.length_cons, List.length_nil]; omega
      rw [rowTrace_length] at hpn
      rw [hpn, rowTrace_counts _ _ rn _ (d :: junk) (by rw [List.length_append, hk]) rowsP
        (headerBytes md cols).length _ (by simp only [List.length_append, List.length_cons, hk]; omega)]
      rw [map_min_eq]
      intro x hx
      have := tokEndsP_le _ _ rn hne hsg rowsP (headerBytes md cols).length hokP hgP x hx
      omega

end Hs.Zinc

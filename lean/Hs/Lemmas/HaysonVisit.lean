/-
  Hs.Lemmas.HaysonVisit — the decoder visitor as a loop over the decoded members.

  `view ms` pairs every member key with the outcome of decoding the member's value; `runR` is the
  `visit_map` loop over that list.  `visitMap_eq_runR` ties it to the model; everything about member order
  (`runR_perm`) and about `_kind`-free input (`runR_noKind`) is then a statement about plain lists.
-/
import Hs.Lemmas.HaysonOrd
namespace Hs.Hayson
open Hs

/-! ### the members, decoded -/

def view : Members → List (List Char × Res Val)
  | .nil => []
  | .cons k j ms => (k, fromJson j) :: view ms

/-- the early return of `visit_map`: accepted by serde_json only when no member is left (`earlyReturn`) -/
def earlyR (last : Bool) (v : Val) : Res Val := if last then .ok v else .err

/-- what `visit_map` does with the value of a `_kind` member; `last`: no member is left after it -/
def kindStep (v : Val) (last : Bool) (cont : List Char → Res Val) : Res Val :=
  match v with
  | .str kd =>
    if kd == s "marker" then earlyR last .marker
    else if kd == s "remove" then earlyR last .remove
    else if kd == s "na" then earlyR last .na
    else if knownKinds.any (fun x => s x == kd) then cont kd
    else .err
  | _ => .err

def runR : List (List Char × Res Val) → List Char → List (List Char × Val) → Res Val
  | [], kind, d => finish kind d
  | (k, r) :: l, kind, d =>
    match r with
    | .ok v =>
      if k == s "_kind" then kindStep v l.isEmpty (fun kd => runR l kd d)
      else runR l kind (insertTag k v d)
    | .err => .err | .panic => .panic | .diverge => .diverge | .depth => .depth

theorem runR_kind (v : Val) (l : List (List Char × Res Val)) (kind : List Char) (d : List (List Char × Val)) :
    runR ((s "_kind", .ok v) :: l) kind d = kindStep v l.isEmpty (fun kd => runR l kd d) := by
  rw [runR]; simp only [beq_self_eq_true, if_true]
theorem runR_ok {k : List Char} (hk : k ≠ s "_kind") (v : Val) (l : List (List Char × Res Val)) (kind : List Char)
    (d : List (List Char × Val)) : runR ((k, .ok v) :: l) kind d = runR l kind (insertTag k v d) := by
  rw [runR]; simp only [beq_iff_eq, hk, if_false]
theorem runR_err (k : List Char) (l : List (List Char × Res Val)) (kind : List Char) (d : List (List Char × Val)) :
    runR ((k, .err) :: l) kind d = .err := by
  rw [runR]

theorem earlyReturn_eq (ms : Members) (v : Val) : earlyReturn ms v = earlyR (view ms).isEmpty v := by
  cases ms <;> simp [earlyReturn, earlyR, view]

theorem visitMap_eq_runR : ∀ (ms : Members) (kind : List Char) (d : List (List Char × Val)),
    visitMap ms kind d = runR (view ms) kind d
  | .nil, kind, d => by simp [visitMap, view, runR]
  | .cons k j ms, kind, d => by
    have ih := visitMap_eq_runR ms
    rw [visitMap]
    simp only [view, runR]
    cases hj : fromJson j with
    | ok v =>
      simp only []
      by_cases hk : (k == s "_kind") = true
      · simp only [hk, if_true, earlyReturn_eq, ih]
        rfl
      · simp only [hk]
        simp [ih]
    | err => rfl
    | panic => rfl
    | diverge => rfl
    | depth => rfl

theorem fromJson_obj (ms : Members) : fromJson (.obj ms) = runR (view ms) [] [] := by
  rw [fromJson, visitMap_eq_runR]

/-! ### `_kind` members: the eleven kinds `finish` dispatches on, the three on which the loop returns at once -/

def isEarly (r : Res Val) : Bool :=
  match r with
  | .ok (.str kd) => kd == s "marker" || kd == s "remove" || kd == s "na"
  | _ => false

theorem known_number : "number" ∈ knownKinds := by simp [knownKinds]
theorem known_ref : "ref" ∈ knownKinds := by simp [knownKinds]
theorem known_symbol : "symbol" ∈ knownKinds := by simp [knownKinds]
theorem known_uri : "uri" ∈ knownKinds := by simp [knownKinds]
theorem known_date : "date" ∈ knownKinds := by simp [knownKinds]
theorem known_time : "time" ∈ knownKinds := by simp [knownKinds]
theorem known_dateTime : "dateTime" ∈ knownKinds := by simp [knownKinds]
theorem known_coord : "coord" ∈ knownKinds := by simp [knownKinds]
theorem known_xstr : "xstr" ∈ knownKinds := by simp [knownKinds]
theorem known_grid : "grid" ∈ knownKinds := by simp [knownKinds]
theorem known_dict : "dict" ∈ knownKinds := by simp [knownKinds]

theorem known_ne_early {kind : String} (hk : kind ∈ knownKinds) :
    ∀ e ∈ ["marker", "remove", "na"], (s kind == s e) = false := by
  intro e he
  have early_not_known : ∀ e ∈ ["marker", "remove", "na"], e ∉ knownKinds := by decide
  rw [s_beq, beq_eq_false_iff_ne]
  exact fun h => early_not_known e he (h ▸ hk)

theorem kindStep_known {kind : String} (hk : kind ∈ knownKinds) (last : Bool) (cont : List Char → Res Val) :
    kindStep (.str (s kind)) last cont = cont (s kind) := by
  have hne := known_ne_early hk
  have hany : knownKinds.any (fun x => s x == s kind) = true :=
    List.any_eq_true.mpr ⟨kind, hk, beq_self_eq_true _⟩
  simp only [kindStep, hne "marker" (by simp), hne "remove" (by simp), hne "na" (by simp), hany, if_true,
    Bool.false_eq_true, if_false]

theorem isEarly_known {kind : String} (hk : kind ∈ knownKinds) : isEarly (.ok (.str (s kind))) = false := by
  have hne := known_ne_early hk
  simp only [isEarly, hne "marker" (by simp), hne "remove" (by simp), hne "na" (by simp), Bool.or_false]

theorem kindStep_err (v : Val) (last : Bool) (h : isEarly (.ok v) = false) :
    kindStep v last (fun _ => .err) = .err := by
  cases v <;> try rfl
  rename_i x
  simp only [isEarly, Bool.or_eq_false_iff] at h
  simp only [kindStep, h.1.1, h.1.2, h.2, Bool.false_eq_true, if_false, ite_self]

theorem kindStep_last (v : Val) (b1 b2 : Bool) (c : List Char → Res Val) (h : isEarly (.ok v) = false) :
    kindStep v b1 c = kindStep v b2 c := by
  cases v <;> try rfl
  rename_i x
  simp only [isEarly, Bool.or_eq_false_iff] at h
  simp only [kindStep, h.1.1, h.1.2, h.2, Bool.false_eq_true, if_false]

/-! ### `_kind`-free input: the entries are collected -/

def okView (l : List (List Char × Val)) : List (List Char × Res Val) := l.map (fun p => (p.1, .ok p.2))

@[simp] theorem okView_nil : okView [] = [] := rfl
@[simp] theorem okView_cons (p : List Char × Val) (l : List (List Char × Val)) :
    okView (p :: l) = (p.1, .ok p.2) :: okView l := rfl
theorem okView_keys (l : List (List Char × Val)) : (okView l).map (·.1) = l.map (·.1) := by
  rw [okView, List.map_map]; rfl

theorem runR_noKind : ∀ (l : List (List Char × Val)) (kind : List Char) (d : List (List Char × Val)),
    (∀ p ∈ l, p.1 ≠ s "_kind") →
    runR (okView l) kind d = finish kind (l.foldl (fun acc p => insertTag p.1 p.2 acc) d)
  | [], kind, d, _ => by rw [okView_nil, runR, List.foldl_nil]
  | (k, v) :: l, kind, d, h => by
    rw [okView_cons, runR_ok (h (k, v) List.mem_cons_self), List.foldl_cons]
    exact runR_noKind l kind (insertTag k v d) (fun p hp => h p (List.mem_cons_of_mem _ hp))

/-! ### member order -/

def IsOk (r : Res Val) : Prop := ∃ v, r = .ok v
def OkOrErr (r : Res Val) : Prop := (∃ v, r = .ok v) ∨ r = .err

theorem OkOrErr.ok (v : Val) : OkOrErr (.ok v) := Or.inl ⟨v, rfl⟩
theorem OkOrErr.err : OkOrErr .err := Or.inr rfl

theorem OkOrErr.ite {c : Prop} [Decidable c] {a b : Res Val} (ha : OkOrErr a) (hb : OkOrErr b) :
    OkOrErr (if c then a else b) := by
  split <;> assumption

/-- the case rule, for `cases r, h using OkOrErr.cases` -/
theorem OkOrErr.cases {motive : (r : Res Val) → OkOrErr r → Prop} (ok : ∀ v, motive (.ok v) (OkOrErr.ok v))
    (err : motive .err OkOrErr.err) (r : Res Val) (h : OkOrErr r) : motive r h := by
  rcases h with ⟨v, rfl⟩ | rfl
  · exact ok v
  · exact err

/-- the order hypothesis on decoded members: no `_kind` member makes the visitor return early (an early
return is accepted only after the LAST member, so its outcome depends on the position of `_kind` whatever the
other members are), and every failure is the plain `Err` -/
def OrderHyp (l : List (List Char × Res Val)) : Prop :=
  ∀ p ∈ l, OkOrErr p.2 ∧ (p.1 = s "_kind" → isEarly p.2 = false)

theorem runR_swap (a b : List Char × Res Val) (l : List (List Char × Res Val)) (hne : a.1 ≠ b.1)
    (h : OrderHyp [a, b]) (kind : List Char) (d : List (List Char × Val)) :
    runR (b :: a :: l) kind d = runR (a :: b :: l) kind d := by
  obtain ⟨ka, ra⟩ := a
  obtain ⟨kb, rb⟩ := b
  simp only at hne
  obtain ⟨oa, na⟩ := h (ka, ra) (by simp)
  obtain ⟨ob, nb⟩ := h (kb, rb) (by simp)
  simp only at na nb oa ob
  -- by which of the two decode: if both do, a `_kind` among them is no early return, so its step ignores `last`
  -- (`kindStep_last`), and two other members commute as insertions; if one fails, either order ends in `.err`
  -- (`kindStep_err`: a `_kind` step that continues into `.err` is `.err`)
  cases ra, oa using OkOrErr.cases with
  | ok va =>
    cases rb, ob using OkOrErr.cases with
    | ok vb =>
      by_cases ha : ka = s "_kind"
      · have hb : kb ≠ s "_kind" := fun e => hne (ha.trans e.symm)
        subst ha
        simp only [runR_kind, runR_ok hb]
        exact kindStep_last va _ _ _ (na rfl)
      · by_cases hb : kb = s "_kind"
        · subst hb
          simp only [runR_kind, runR_ok ha]
          exact kindStep_last vb _ _ _ (nb rfl)
        · rw [runR_ok hb, runR_ok ha, runR_ok ha, runR_ok hb, insertTag_eq, Key.insert_comm ka kb va vb hne d]
    | err =>
      by_cases ha : ka = s "_kind"
      · subst ha
        simp only [runR_kind, runR_err, kindStep_err va _ (na rfl)]
      · rw [runR_err, runR_ok ha, runR_err]
  | err =>
    cases rb, ob using OkOrErr.cases with
    | ok vb =>
      by_cases hb : kb = s "_kind"
      · subst hb
        simp only [runR_kind, runR_err, kindStep_err vb _ (nb rfl)]
      · rw [runR_err, runR_ok hb, runR_err]
    | err => rw [runR_err, runR_err]

theorem runR_perm {l1 l2 : List (List Char × Res Val)} (hp : l1.Perm l2) :
    (l1.map (·.1)).Nodup → OrderHyp l1 → ∀ kind d, runR l1 kind d = runR l2 kind d := by
  induction hp with
  | nil => intros; rfl
  | @cons a l1 l2 hp12 ih =>
    intro hn hh kind d
    have hn' := (List.nodup_cons.mp hn).2
    have ih' := ih hn' fun p hp => hh p (List.mem_cons_of_mem _ hp)
    have hhd := hh a (by simp)
    obtain ⟨k, r⟩ := a
    cases r with
    | ok v =>
      by_cases hk : k = s "_kind"
      · subst hk
        -- the two sides pass `l1.isEmpty` and `l2.isEmpty` as `last`, which only an early-return kind looks at
        rw [runR_kind, runR_kind, kindStep_last v l1.isEmpty l2.isEmpty _ (hhd.2 rfl)]
        exact congrArg (kindStep v _) (funext fun kd => ih' kd d)
      · rw [runR_ok hk, runR_ok hk, ih']
    | err => rfl
    | panic => rfl
    | diverge => rfl
    | depth => rfl
  | swap a b l =>
    intro hn hh kind d
    have hne : a.1 ≠ b.1 := by
      intro e
      simp [e] at hn
    have h2 : OrderHyp [a, b] := fun p hp => hh p (by
      rcases List.mem_cons.mp hp with e | hp
      · simp [e]
      · simp at hp; simp [hp])
    exact runR_swap a b l hne h2 kind d
  | trans h1 _ ih1 ih2 =>
    intro hn hh kind d
    rw [ih1 hn hh kind d]
    exact ih2 ((h1.map _).nodup_iff.mp hn) (fun p hp2 => hh p (h1.mem_iff.mpr hp2)) kind d

end Hs.Hayson

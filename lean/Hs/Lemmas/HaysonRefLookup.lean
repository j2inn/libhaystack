/-
  Hs.Lemmas.HaysonRefLookup — the reference reader `Hs.Spec.Hayson.read` on objects whose members stand in any
  order: name lookup and the reader's dictionary (`dictOf`, insertion by `nameLe`) do not depend on the member
  order; fuel (`size`) bookkeeping; `readTags` on a list of members that are all readable.
-/
import Hs.Spec.HaysonRead
import Hs.Spec.HaysonDenote
import Hs.Lemmas.HaysonOrd
namespace Hs.Spec.Hayson
open Hs Hs.Hayson

/-! ### member lookup by name -/

theorem lookup_eq (l : Mems) (k : String) : lookup l k = Key.find l.reverse (s k) := rfl

theorem lookup_of_perm {l L : Mems} (h : l.Perm L) (nd : (L.map (·.1)).Nodup) (k : String) :
    lookup l k = lookup L k := by
  have nd1 : (l.map (·.1)).Nodup := (h.map (·.1)).nodup_iff.2 nd
  rw [lookup_eq, lookup_eq, Key.find_reverse nd1, Key.find_reverse nd, Key.find_perm h nd1]

theorem lookup_none_of_not_mem (l : Mems) (k : String) (h : ∀ p ∈ l, p.1 ≠ s k) : lookup l k = none :=
  Key.find_eq_none.mpr fun p hp => h p (List.mem_reverse.mp hp)

theorem lookup_nil (k : String) : lookup [] k = none := rfl

theorem lookup_cons (p : List Char × Json) (l : Mems) (k : String) :
    lookup (p :: l) k = (lookup l k).or (if p.1 == s k then some p.2 else none) := by
  rw [lookup_eq, List.reverse_cons, Key.find_append, Key.find_cons]; rfl

theorem lookup_of_filter {l L a : Mems} {k : String} (hp : l.Perm L)
    (ha : L.filter (fun p => p.1 == s k) = a) (h1 : a.length ≤ 1) : lookup l k = lookup a k := by
  have e : a = l.filter (fun p => p.1 == s k) :=
    perm_eq_of_length_le_one (ha ▸ (hp.filter _).symm) h1
  unfold lookup
  rw [e, ← List.filter_reverse, List.find?_filter]
  simp only [and_self, Bool.decide_eq_true]

/-! ### the reader's dictionary is the sorted association list of `Hs.Lemmas.KeyMap` -/

theorem nameLe_iff : ∀ a b : List Char, nameLe a b = true ↔ a ≤ b :=
  Key.le_iff (fun _ => by rw [nameLe]) (fun _ _ => by rw [nameLe]) (fun _ _ _ _ => by rw [nameLe])

theorem insertTag_eq : Hs.Spec.Hayson.insertTag = Key.insert :=
  Key.insert_of_eqns nameLe_iff (fun _ _ => rfl) (fun _ _ _ _ _ => rfl)

theorem dictOf_eq_collect (kvs : List (List Char × Val)) : dictOf kvs = Tags.ofList (Key.collect kvs []) := by
  rw [dictOf, insertTag_eq]; rfl

theorem dictOf_of_perm {kvs : List (List Char × Val)} {t : Tags} (hp : kvs.Perm t.toList)
    (hs : strictSorted t.keys = true) : dictOf kvs = t := by
  rw [dictOf_eq_collect, Key.collect_of_perm (strictSorted_keys.mp hs) hp, Tags.ofList_toList]

/-! ### sizes (the reader's fuel is `2 * size doc + 8`) -/

def sizeL : Mems → Nat
  | [] => 0
  | p :: l => size p.2 + sizeL l

theorem sizem_eq : ∀ ms : Members, sizem ms = sizeL ms.toList
  | .nil => rfl
  | .cons k j ms => by rw [sizem, Members.toList_cons, sizeL, sizem_eq ms]

theorem size_pos : ∀ j : Json, 1 ≤ size j
  | .null => by simp [size]
  | .bool _ => by simp [size]
  | .int _ _ => by simp [size]
  | .flt _ => by simp [size]
  | .str _ => by simp [size]
  | .arr _ => by simp [size]
  | .obj _ => by simp [size]

theorem size_le_sizeL : ∀ (l : Mems) (p : List Char × Json), p ∈ l → size p.2 ≤ sizeL l
  | [], _, h => by cases h
  | q :: l, p, h => by
    rcases List.mem_cons.mp h with e | h
    · subst e; simp [sizeL]
    · have := size_le_sizeL l p h
      simp [sizeL]; omega

theorem sizeL_filter (q : List Char × Json → Bool) : ∀ l : Mems, sizeL (l.filter q) ≤ sizeL l
  | [] => by simp [sizeL]
  | p :: l => by
    have ih := sizeL_filter q l
    simp only [List.filter_cons]
    split <;> simp [sizeL] <;> omega

theorem fuel_arr {ms : Members} {L : Mems} (hp : ms.toList.Perm L) {k : List Char} {js : Jsons}
    (h : (k, .arr js) ∈ L) {n : Nat} (hn : 2 * size (.obj ms) ≤ n) : 2 * sizes js + 1 ≤ n - 1 := by
  have := size_le_sizeL _ _ (hp.mem_iff.mpr h)
  simp only [size, sizem_eq] at hn this
  omega

theorem fuel_obj {ms mm : Members} {L : Mems} (hp : ms.toList.Perm L) {k : List Char}
    (h : (k, .obj mm) ∈ L) (q : List Char × Json → Bool) {n : Nat} (hn : 2 * size (.obj ms) ≤ n) :
    2 * sizeL (mm.toList.filter q) + 1 ≤ n - 1 := by
  have h1 := size_le_sizeL _ _ (hp.mem_iff.mpr h)
  have h2 := sizeL_filter q mm.toList
  simp only [size, sizem_eq] at hn h1
  omega

theorem fuel_cons {j : Json} {js : Jsons} {n : Nat} (hn : 2 * sizes (.cons j js) + 1 ≤ n + 1) :
    2 * size j ≤ n ∧ 2 * sizes js + 1 ≤ n := by
  have := size_pos j
  simp only [sizes] at hn
  omega

theorem fuel_members {mm : Members} (q : List Char × Json → Bool) {n : Nat} (h : 2 * size (.obj mm) ≤ n) :
    2 * sizeL (mm.toList.filter q) + 1 ≤ n - 1 := by
  have := sizeL_filter q mm.toList
  simp only [size, sizem_eq] at h
  omega

theorem size_le_sizes : ∀ (js : Jsons) (j : Json), j ∈ js.toList → size j ≤ sizes js
  | .nil, _, h => by simp at h
  | .cons x xs, j, h => by
    simp only [Jsons.toList_cons, List.mem_cons] at h
    rcases h with e | h
    · subst e; simp [sizes]
    · have := size_le_sizes xs j h
      simp [sizes]; omega

/-! ### one step of fuel -/

theorem succ_of_le {m n : Nat} (h : m + 1 ≤ n) : ∃ f, n = f + 1 :=
  ⟨n - 1, (Nat.sub_add_cancel (Nat.le_trans (Nat.le_add_left 1 m) h)).symm⟩

theorem succ_of_size_le {j : Json} {n : Nat} (h : 2 * size j ≤ n) : ∃ f, n = f + 1 :=
  succ_of_le (m := 0) (Nat.le_trans (Nat.le_trans (size_pos j) (Nat.le_mul_of_pos_left _ (by decide))) h)

theorem read_arr (f : Nat) (xs : Jsons) :
    read (f + 1) (.arr xs) = (readAll f xs.toList).map fun vs => .list (Vals.ofList vs) := rfl

/-! ### `readTags` on members that are all readable -/

/-- a member with its value as the reader reads it (with enough fuel) -/
def rd (p : List Char × Json) : List Char × Val := (p.1, (read (2 * size p.2) p.2).getD .null)

def Readable (p : List Char × Json) : Prop := ∀ f, 2 * size p.2 ≤ f → read f p.2 = some (rd p).2

theorem readTags_map : ∀ (l : Mems), (∀ p ∈ l, Readable p) → ∀ f, 2 * sizeL l + 1 ≤ f →
    readTags f l = some (l.map rd)
  | [], _, f, hf => by
    obtain ⟨f', rfl⟩ := succ_of_le hf
    rfl
  | (k, j) :: l, h, f, hf => by
    obtain ⟨f', rfl⟩ := succ_of_le hf
    have hj := size_pos j
    simp only [sizeL] at hf
    rw [readTags.eq_def]
    simp only [h (k, j) List.mem_cons_self f' (by simp only; omega),
      readTags_map l (fun p hp => h p (List.mem_cons_of_mem _ hp)) f' (by omega), List.map_cons]
    rfl

theorem rd_fst (p : List Char × Json) : (rd p).1 = p.1 := rfl

def TagsRead (t' : Tags) (l : Mems) : Prop :=
  ∃ tm : Mems, l.Perm tm ∧ tm.map rd = t'.toList ∧ ∀ p ∈ tm, Readable p

theorem TagsRead.readTags {t' : Tags} {l : Mems} (h : TagsRead t' l) (hs : strictSorted t'.keys = true)
    (f : Nat) (hf : 2 * sizeL l + 1 ≤ f) :
    ∃ kvs, Hs.Spec.Hayson.readTags f l = some kvs ∧ dictOf kvs = t' ∧ kvs.isEmpty = t'.isEmpty := by
  obtain ⟨tm, hp, hv, hr⟩ := h
  refine ⟨l.map rd, readTags_map l (fun p hp' => hr p (hp.mem_iff.mp hp')) f hf, ?_, ?_⟩
  · exact dictOf_of_perm (hv ▸ hp.map rd) hs
  · have hl : (l.map rd).length = t'.toList.length := by
      rw [← hv, List.length_map, List.length_map]; exact hp.length_eq
    cases t' with
    | nil =>
      simp [Tags.toList] at hl
      simp [hl, Tags.isEmpty]
    | cons k v t =>
      simp only [Tags.toList, List.length_cons] at hl
      cases hm : l.map rd with
      | nil => rw [hm] at hl; simp at hl
      | cons a b => simp [Tags.isEmpty]

end Hs.Spec.Hayson

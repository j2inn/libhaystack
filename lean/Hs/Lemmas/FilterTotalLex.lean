/-
  Hs.Lemmas.FilterTotalLex — C09: the filter lexer (`Lexer::read` of filter/lexer.rs) is total and makes
  progress.  For every scanner state `lexRead`
  * never yields `panic` / `depth`, and `diverge` only when `fuel ≤ mu + 1`
    (one re-entry after a run of white space, as in the Zinc lexer);
  * leaves the scanner measure `Scan.mu` no larger than it found it — also when it fails
    (`Hs.Lemmas.FilterTotalErr`) — and strictly smaller when it returns a token away from the end of the input;
  * returns the token `none` only together with `eof`.
  The outcome predicate `TokR.Sat` is `Res.Sat` for the lexer's outcome type `TokR` (its `err` carries a scanner).
-/
import Hs.Lemmas.FilterTotalErr
import Hs.Model.FilterText
namespace Hs.FText
open Hs Hs.Scan Hs.Zinc

def TokR.Sat (r : TokR) (fuel m : Nat) (Qok : Scan → FTok → Prop) (Qerr : Scan → Prop) : Prop :=
  match r with
  | .ok s t => Qok s t
  | .err s => Qerr s
  | .panic => False
  | .depth => False
  | .diverge => fuel ≤ m

@[simp] theorem TokR.Sat_ok (s t fuel m Qok Qerr) : (TokR.ok s t).Sat fuel m Qok Qerr = Qok s t := rfl
@[simp] theorem TokR.Sat_err (s fuel m Qok Qerr) : (TokR.err s).Sat fuel m Qok Qerr = Qerr s := rfl
@[simp] theorem TokR.Sat_panic (fuel m Qok Qerr) : TokR.panic.Sat fuel m Qok Qerr = False := rfl
@[simp] theorem TokR.Sat_depth (fuel m Qok Qerr) : TokR.depth.Sat fuel m Qok Qerr = False := rfl
@[simp] theorem TokR.Sat_diverge (fuel m Qok Qerr) : TokR.diverge.Sat fuel m Qok Qerr = (fuel ≤ m) := rfl

theorem TokR.Sat.mono {r : TokR} {fuel m fuel' m' Qok Qok' Qerr Qerr'}
    (h : r.Sat fuel m Qok Qerr) (hf : fuel ≤ m → fuel' ≤ m') (hok : ∀ s t, Qok s t → Qok' s t)
    (herr : ∀ s, Qerr s → Qerr' s) : r.Sat fuel' m' Qok' Qerr' := by
  cases r <;> simp_all

theorem TokR.Sat.ne_panic {r : TokR} {fuel m Qok Qerr} (h : r.Sat fuel m Qok Qerr) : r ≠ .panic := by
  intro e; rw [e] at h; exact h
theorem TokR.Sat.ne_depth {r : TokR} {fuel m Qok Qerr} (h : r.Sat fuel m Qok Qerr) : r ≠ .depth := by
  intro e; rw [e] at h; exact h
theorem TokR.Sat.ne_diverge {r : TokR} {fuel m Qok Qerr} (h : r.Sat fuel m Qok Qerr) (hf : m < fuel) :
    r ≠ .diverge := by
  intro e; rw [e] at h; exact absurd h (Nat.not_le.2 hf)
theorem TokR.Sat.post_ok {r : TokR} {fuel m Qok Qerr} (h : r.Sat fuel m Qok Qerr) {s t} (e : r = .ok s t) :
    Qok s t := by
  rw [e] at h; exact h
theorem TokR.Sat.post_err {r : TokR} {fuel m Qok Qerr} (h : r.Sat fuel m Qok Qerr) {s} (e : r = .err s) :
    Qerr s := by
  rw [e] at h; exact h

theorem TokR.Sat.ite_intro {c : Prop} [Decidable c] {a b : TokR} {fuel m Qok Qerr}
    (ht : c → a.Sat fuel m Qok Qerr) (hf : ¬c → b.Sat fuel m Qok Qerr) :
    (if c then a else b).Sat fuel m Qok Qerr := by
  split
  · exact ht ‹_›
  · exact hf ‹_›

/-! ### `greater_or_less`, `parse_path`, the identifier arm -/

theorem greaterOrLess_spec (s : Scan) (t0 t1 : FTok) (he : s.eof = false) :
    (greaterOrLess s t0 t1).Sat 1 0 (fun s' t => s'.mu < s.mu ∧ (t = t0 ∨ t = t1)) (fun s' => s'.mu ≤ s.mu) := by
  unfold greaterOrLess
  refine peek_keep_cases (fun s1 hm => ?_) (fun ch s1 k => ?_)
  · -- the look-ahead hit the end of the input: the current byte is still consumed
    have h0 := mu_not_eof he
    exact ⟨Nat.lt_of_le_of_lt (advance_mu s1) (by omega), Or.inl rfl⟩
  · have A1 : s1.advance.mu < s.mu := k.mu ▸ advance_mu_lt (k.2.1.trans he)
    refine TokR.Sat.ite_intro (fun _ => ?_) (fun _ => ⟨A1, Or.inl rfl⟩)
    split
    · next s2 hr => exact ⟨Nat.lt_of_le_of_lt (advance_mu s2) (k.mu ▸ read_mu_some hr), Or.inr rfl⟩
    · next s2 hr => exact k.mu ▸ (read_mu hr).1

/-- `parse_path`: each further segment consumes at least one byte -/
theorem pathLoop_spec : ∀ fuel s acc,
    (pathLoop fuel s acc).Sat fuel (s.mu + 1) (fun s' t => s'.mu ≤ s.mu ∧ t ≠ .none) (fun s' => s'.mu ≤ s.mu) := by
  intro fuel
  induction fuel with
  | zero => intro s acc; exact Nat.zero_le _
  | succ n ih =>
    intro s acc
    rw [pathLoop]
    refine TokR.Sat.ite_intro (fun _ => ⟨Nat.le_refl _, nofun⟩) (fun he => ?_)
    have he : s.eof = false := by simpa using he
    refine ((parseId_adv n s).le.lt_of_adv he).elim (fun ⟨seg, s1⟩ h1 => ?_) (Nat.le_refl _) Nat.succ_le_succ
    dsimp only at h1 ⊢
    have L1 : s1.mu ≤ s.mu := Nat.le_of_lt h1
    refine (consumeWhiteSpaces_spec n s1).step L1 (fun s2 L2 => ?_) L1 Nat.succ_le_succ
    dsimp only
    refine TokR.Sat.ite_intro (fun _ => ?_) (fun _ => ⟨L2, nofun⟩)
    split
    · next s3 hr => exact Nat.le_trans (read_mu hr).1 L2
    · next s3 hr =>
      -- the `-` is consumed: from here on strictly less than `s.mu` is left
      have L3 : s3.mu < s.mu := Nat.lt_of_lt_of_le (read_mu_some hr) L2
      have A3 : s3.advance.mu < s.mu := Nat.lt_of_le_of_lt (advance_mu s3) L3
      refine TokR.Sat.ite_intro (fun _ => Nat.le_of_lt L3) (fun _ => ?_)
      refine (consumeWhiteSpaces_spec n s3.advance).elim (fun s5 h5 => ?_) (Nat.le_of_lt L3)
        (fun hd => Nat.succ_le_succ (Nat.le_trans hd (Nat.le_of_lt A3)))
      have L5 : s5.mu < s.mu := Nat.lt_of_le_of_lt h5 A3
      dsimp only
      refine TokR.Sat.ite_intro (fun _ => Nat.le_of_lt L5) (fun _ => ?_)
      exact (ih s5 _).mono (fun hd => Nat.succ_le_succ (Nat.le_trans hd L5))
        (fun _ _ h => ⟨Nat.le_trans h.1 (Nat.le_of_lt L5), h.2⟩) (fun _ h => Nat.le_trans h (Nat.le_of_lt L5))

/-- the `a..z` arm of `Lexer::read` -/
theorem lexId_spec (fuel : Nat) (s : Scan) (he : s.eof = false) :
    (lexId fuel s).Sat fuel s.mu (fun s' t => s'.mu < s.mu ∧ t ≠ .none) (fun s' => s'.mu ≤ s.mu) := by
  unfold lexId
  refine ((parseId_adv fuel s).le.lt_of_adv he).elim (fun ⟨seg, s1⟩ h1 => ?_) (Nat.le_refl _) id
  dsimp only at h1 ⊢
  have L1 : s1.mu ≤ s.mu := Nat.le_of_lt h1
  refine TokR.Sat.ite_intro (fun _ => ⟨h1, nofun⟩) (fun _ => ?_)
  refine (consumeWhiteSpaces_spec fuel s1).elim (fun s2 h2 => ?_) L1 (fun hd => Nat.le_trans hd L1)
  have L2 : s2.mu < s.mu := Nat.lt_of_le_of_lt h2 h1
  dsimp only
  refine TokR.Sat.ite_intro (fun _ => ⟨Nat.lt_of_le_of_lt (advance_mu s2) L2, nofun⟩) (fun _ => ?_)
  refine TokR.Sat.ite_intro (fun _ => ?_) (fun _ => ⟨L2, nofun⟩)
  split
  · next s3 hr => exact Nat.le_trans (read_mu hr).1 (Nat.le_of_lt L2)
  next s3 hr =>
  have L3 : s3.mu < s.mu := Nat.lt_trans (read_mu_some hr) L2
  refine TokR.Sat.ite_intro (fun _ => ?_) (fun _ => Nat.le_of_lt L3)
  split
  · next s4 hr => exact Nat.le_trans (read_mu hr).1 (Nat.le_of_lt L3)
  next s4 hr =>
  have L4 : s4.mu < s.mu := Nat.lt_trans (read_mu_some hr) L3
  refine (consumeWhiteSpaces_spec fuel s4).elim (fun s5 h5 => ?_) (Nat.le_of_lt L4)
    (fun hd => Nat.le_trans hd (Nat.le_of_lt L4))
  have L5 : s5.mu < s.mu := Nat.lt_of_le_of_lt h5 L4
  exact (pathLoop_spec fuel s5 _).mono (fun hd => Nat.le_trans hd L5)
    (fun _ _ h => ⟨Nat.lt_of_le_of_lt h.1 L5, h.2⟩) (fun _ h => Nat.le_trans h (Nat.le_of_lt L5))

/-- the arms `=`, `!` of `Lexer::read`: the byte, then `=` -/
theorem opArm (fuel : Nat) (s : Scan) (t : FTok) (ht : t ≠ .none) :
    (match s.read with
      | (Option.none, s1) => TokR.err s1
      | (some _, s1) => if s1.cur == 61 then .ok s1.advance t else .err s1).Sat fuel s.mu
      (fun s' t => s'.mu < s.mu ∧ t ≠ FTok.none) (fun s' => s'.mu ≤ s.mu) := by
  split
  · next s1 hr => exact (read_mu hr).1
  · next s1 hr =>
    have h1 := read_mu_some hr
    have := advance_mu s1
    exact TokR.Sat.ite_intro (fun _ => ⟨by omega, ht⟩) (fun _ => Nat.le_of_lt h1)

/-! ### `Lexer::read` -/

theorem lexRead_spec : ∀ fuel s,
    (lexRead fuel s).Sat fuel (s.mu + 1)
      (fun s' t => s'.mu ≤ s.mu ∧ (s.eof = false → s'.mu < s.mu) ∧ (t = .none → s'.eof = true))
      (fun s' => s'.mu ≤ s.mu) := by
  intro fuel
  induction fuel with
  | zero => intro s; exact Nat.zero_le _
  | succ n ih =>
    intro s
    rw [lexRead]
    refine TokR.Sat.ite_intro (fun he => ?_) (fun he => ?_)
    · simp only [TokR.Sat_ok]; exact ⟨Nat.le_refl _, (fun h => by rw [he] at h; cases h), (fun _ => he)⟩
    · have he : s.eof = false := by simpa using he
      dsimp only
      refine TokR.Sat.ite_intro (fun hc => ?_) (fun hc => ?_)
      · have hs : s.isWhiteSpace = true := by
          simp only [Bool.or_eq_true, beq_iff_eq] at hc
          simp only [isWhiteSpace, isSpace, isNewline, Bool.or_eq_true, beq_iff_eq]
          rcases hc with ((h | h) | h) | h <;> simp [h]
        refine (consumeWhiteSpaces_strict n s hs he).elim (fun s' h1 => ?_) (Nat.le_refl _) Nat.le_succ_of_le
        exact (ih s').mono (fun hd => Nat.succ_le_succ (Nat.le_trans hd h1))
          (fun _ _ h => ⟨Nat.le_trans h.1 (Nat.le_of_lt h1), fun _ => Nat.lt_of_le_of_lt h.1 h1, h.2.2⟩)
          (fun _ h => Nat.le_trans h (Nat.le_of_lt h1))
      · -- away from the end and from white space: a token other than `none`, at least one byte consumed
        refine TokR.Sat.mono (fuel := n) (m := s.mu) (Qok := fun s' t => s'.mu < s.mu ∧ t ≠ .none)
          (Qerr := fun s' => s'.mu ≤ s.mu) ?_ Nat.succ_le_succ
          (fun _ _ h => ⟨Nat.le_of_lt h.1, fun _ => h.1, fun e => absurd e h.2⟩) (fun _ h => h)
        refine TokR.Sat.ite_intro (fun _ => ?_) (fun _ => ?_)
        · exact ((parseStr_adv n s).lt_of_adv he).elim (fun ⟨v, s'⟩ h => ⟨h, nofun⟩) (strErr_le n (Nat.le_refl _)) id
        refine TokR.Sat.ite_intro (fun _ => ?_) (fun _ => ?_)
        · exact ((parseUri_adv n s).lt_of_adv he).elim (fun ⟨v, s'⟩ h => ⟨h, nofun⟩) (uriErr_le n (Nat.le_refl _)) id
        refine TokR.Sat.ite_intro (fun _ => ?_) (fun _ => ?_)
        · exact ((parseRef_adv n s).le.lt_of_adv he).elim (fun ⟨v, s'⟩ h => ⟨h, nofun⟩) (refErr_le n (Nat.le_refl _)) id
        refine TokR.Sat.ite_intro (fun _ => ?_) (fun _ => ?_)
        · exact ((parseSymbol_adv n s).le.lt_of_adv he).elim (fun ⟨v, s'⟩ h => ⟨h, nofun⟩) (symErr_le n (Nat.le_refl _)) id
        refine TokR.Sat.ite_intro (fun _ => ?_) (fun _ => ?_)
        · refine (parseNumberDateTime_sat n s he).elim (fun ⟨v, s'⟩ ⟨h, _⟩ => ?_) (ndtErr_le n he) id
          dsimp only at h ⊢
          split
          · exact TokR.Sat.ite_intro (fun _ => Nat.le_of_lt h) (fun _ => ⟨h, nofun⟩)
          · exact ⟨h, nofun⟩
        refine TokR.Sat.ite_intro (fun _ => ⟨advance_mu_lt he, nofun⟩) (fun _ => ?_)
        refine TokR.Sat.ite_intro (fun _ => ⟨advance_mu_lt he, nofun⟩) (fun _ => ?_)
        refine TokR.Sat.ite_intro (fun _ => opArm n s .eq nofun) (fun _ => ?_)
        refine TokR.Sat.ite_intro (fun _ => opArm n s .ne nofun) (fun _ => ?_)
        refine TokR.Sat.ite_intro (fun _ => ?_) (fun _ => ?_)
        · exact (greaterOrLess_spec s .lt .le he).mono (fun h => absurd h (by decide))
            (fun _ _ h => ⟨h.1, by rcases h.2 with e | e <;> rw [e] <;> nofun⟩) (fun _ h => h)
        refine TokR.Sat.ite_intro (fun _ => ?_) (fun _ => ?_)
        · exact (greaterOrLess_spec s .gt .ge he).mono (fun h => absurd h (by decide))
            (fun _ _ h => ⟨h.1, by rcases h.2 with e | e <;> rw [e] <;> nofun⟩) (fun _ h => h)
        refine TokR.Sat.ite_intro (fun _ => ?_) (fun _ => ?_)
        · split
          · next s1 hr => exact (read_mu hr).1
          next s1 hr =>
          have h1 := read_mu_some hr
          exact (expectAndConsumeSeq_spec [61, 61] s1).elim0 (fun s2 h => ⟨Nat.lt_of_le_of_lt h h1, nofun⟩)
            (seqErr_le _ (Nat.le_of_lt h1))
        exact TokR.Sat.ite_intro (fun _ => lexId_spec n s he) (fun _ => Nat.le_refl _)

theorem lexRead_at_eof (fuel : Nat) (s : Scan) (he : s.eof = true) : lexRead (fuel + 1) s = .ok s .none := by
  rw [lexRead]; simp only [he, if_true]

end Hs.FText

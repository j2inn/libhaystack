/-
  Hs.Lemmas.ZincTotalGood — C03: no function of the Zinc parser model ever yields `panic` or `depth`
  — a corollary of the fuel-sufficiency specs `Zinc.specsAll`; and the lazy row iterator called `n` times
  (`nextN`) stays inside the same budget.
-/
import Hs.Lemmas.ZincTotalParse
namespace Hs
open Scan

/-- neither `panic` nor `depth` (`Sat 0 0` says nothing about fuel: its `diverge` clause is `0 ≤ 0`) -/
abbrev Res.Good {α} (r : Res α) : Prop := r.Sat 0 0 (fun _ => True)

theorem Res.Sat.good {α} {r : Res α} {fuel m} {Q : α → Prop} (h : r.Sat fuel m Q) : r.Good :=
  Res.Sat.mono h (fun _ => Nat.le_refl _) (fun _ _ => True.intro)

namespace Zinc

structure GoodAll (fuel : Nat) : Prop where
  parseValue : ∀ d p, (parseValue fuel d p).Good
  parseList : ∀ d p, (parseList fuel d p).Good
  listLoop : ∀ d p e acc, (listLoop fuel d p e acc).Good
  parseDict : ∀ d p, (parseDict fuel d p).Good
  dictParts : ∀ d p e acc, (dictParts fuel d p e acc).Good
  colMeta : ∀ d p acc, (colMeta fuel d p acc).Good
  gridColumns : ∀ d p acc, (gridColumns fuel d p acc).Good
  consumeEnd : ∀ r, (consumeEnd fuel r).Good
  rowLoop : ∀ d p cols k acc, (rowLoop fuel d p cols k acc).Good
  rowNext : ∀ d r cols, (rowNext fuel d r cols).Good
  rowsLoop : ∀ d r cols acc, (rowsLoop fuel d r cols acc).Good
  gridHeader : ∀ d p, (gridHeader fuel d p).Good
  parseGrid : ∀ d p, (parseGrid fuel d p).Good

theorem goodAll (fuel : Nat) : GoodAll fuel :=
  have s := specsAll fuel
  { parseValue := fun d p => (s.parseValue d p).good
    parseList := fun d p => (s.parseList d p).good
    listLoop := fun d p e acc => (s.listLoop d p e acc).good
    parseDict := fun d p => (s.parseDict d p).good
    dictParts := fun d p e acc => (s.dictParts d p e acc).good
    colMeta := fun d p acc => (s.colMeta d p acc).good
    gridColumns := fun d p acc => (s.gridColumns d p acc).good
    consumeEnd := fun r => (s.consumeEnd r).good
    rowLoop := fun d p cols k acc => (s.rowLoop d p cols k acc).good
    rowNext := fun d r cols => (s.rowNext d r cols).good
    rowsLoop := fun d r cols acc => (s.rowsLoop d r cols acc).good
    gridHeader := fun d p => (s.gridHeader d p).good
    parseGrid := fun d p => (s.parseGrid d p).good }

/-- `parse_grid_iterator`: lexer start-up and grid header; the result carries the iterator state -/
def rowsStart (bs : List UInt8) : Res ((OTags × List (List Char × OTags) × List Char) × RowState) :=
  let fuel := fuelFor bs.length
  match lexRead fuel (Scan.make bs) with
  | .ok p => gridHeader fuel 0 p
  | .err => .err | .panic => .panic | .diverge => .diverge | .depth => .depth

/-- the outcome of the `(k+1)`-th call of `next()` on a fresh iterator in state `r`.  Calls stop at the first `None` or
`Err`, and `nextN` repeats that outcome for every later `k`; the real iterator answers `None` after an `Err` (its
`failed` flag).  Either way no later call hands out a row. -/
def nextN (fuel : Nat) (cols : List (List Char)) : Nat → RowState → Res (Option Tags × RowState)
  | 0, r => rowNext fuel 0 r cols
  | k + 1, r =>
    match rowNext fuel 0 r cols with
    | .ok (some _, r1) => nextN fuel cols k r1
    | .ok (Option.none, r1) => .ok (Option.none, r1)
    | .err => .err | .panic => .panic | .diverge => .diverge | .depth => .depth

theorem rowsStart_spec (bs : List UInt8) :
    (rowsStart bs).Sat 1 0 (fun o => o.2.K + 1 ≤ bs.length) := by
  unfold rowsStart
  dsimp only
  have hm := mu_make bs
  have hf : fuelFor bs.length = 8 * bs.length + 64 := rfl
  have hr := PS.read_spec (fuelFor bs.length) ⟨Scan.make bs, .none⟩
  unfold PS.read at hr
  refine hr.elim (fun p h1 => ?_) trivial (fun hd => (by dsimp only at hd; omega : 1 ≤ 0))
  dsimp only at h1 ⊢
  -- the header consumes two units, and `K` is at most one above `M`
  refine ((specsAll _).gridHeader 0 p).mono (fun hd => by omega) (fun o h => ?_)
  have := RowState.K_le o.2
  omega

theorem nextN_spec (n : Nat) (cols : List (List Char)) : ∀ k r, r.K ≤ n →
    (nextN (8 * n + 64) cols k r).Sat 1 0 (fun o => o.2.K + (if o.1.isSome then k + 1 else 0) ≤ r.K) := by
  intro k
  induction k with
  | zero =>
    intro r hr
    rw [nextN]
    have hM := RowState.M_le_K r
    exact ((specsAll (8 * n + 64)).rowNext 0 r cols).mono (fun hd => by omega) (fun _ h => h)
  | succ k ih =>
    intro r hr
    rw [nextN]
    have hM := RowState.M_le_K r
    refine ((specsAll (8 * n + 64)).rowNext 0 r cols).elim (fun ⟨o, r1⟩ h1 => ?_) trivial
      (fun hd => (by omega : 1 ≤ 0))
    cases o with
    | none => exact (h1 : r1.K + 0 ≤ r.K)
    | some row =>
      -- a row costs one unit of `K`, so the count of the rows still to come goes up by one
      have h1 : r1.K + 1 ≤ r.K := h1
      refine (ih r1 (by omega)).mono id (fun o h => ?_)
      by_cases hs : o.1.isSome = true
      · simp only [hs, if_true] at h ⊢; omega
      · simp only [hs, Bool.false_eq_true, if_false] at h ⊢; omega

end Zinc
end Hs

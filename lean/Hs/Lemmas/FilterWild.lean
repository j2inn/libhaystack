/-
  The `while let` loop of `WildcardEq::eval` (visited set `resolved_refs`)
  against the specification "the Ref chain reaches the target": the visited set never cuts off a
  chain that would still reach the target, and the loop ends within `records + 2` rounds.
  `Hs.FLoops.weqLoop` (`Hs.Model.FilterLoops`, C09) models the same Rust loop over records classified up front; no
  theorem relates the two models.
-/
import Hs.Lemmas.Filter
import Hs.Lemmas.Unseen
namespace Hs

/-- the Ref chain, followed on the values the resolver hands back (`n` hops at most) -/
def chaseV (res : Resolver) (p : FPath) (target : List Char) : Nat → Val → Bool
  | 0, _ => false
  | n + 1, cur =>
    match cur with
    | .ref id _ =>
      id == target ||
        (match res.resolveRef id with
         | some d => chaseV res p target n (res.resolveFor d p)
         | none => false)
    | _ => false

theorem chaseV_zero (res : Resolver) (p : FPath) (t : List Char) (cur : Val) :
    chaseV res p t 0 cur = false := by
  simp [chaseV]

theorem chaseV_ref (res : Resolver) (p : FPath) (t : List Char) (n : Nat) (id : List Char)
    (dis : Option (List Char)) :
    chaseV res p t (n + 1) (.ref id dis) =
      (id == t ||
        (match res.resolveRef id with
         | some d => chaseV res p t n (res.resolveFor d p)
         | none => false)) := by
  simp [chaseV]

theorem chaseV_ref_dis (res : Resolver) (p : FPath) (t : List Char) (n : Nat) (id : List Char)
    (d1 d2 : Option (List Char)) :
    chaseV res p t n (.ref id d1) = chaseV res p t n (.ref id d2) := by
  cases n with
  | zero => simp [chaseV]
  | succ n => simp [chaseV]

theorem chaseV_notRef (res : Resolver) (p : FPath) (t : List Char) (n : Nat) (cur : Val)
    (h : ∀ id dis, cur ≠ .ref id dis) : chaseV res p t n cur = false := by
  cases n with
  | zero => simp [chaseV]
  | succ n =>
    cases cur <;> simp [chaseV]
    case ref id dis => exact absurd rfl (h id dis)

/-- invariant of the loop: whenever the chain from a Ref already in `resolved_refs` reaches the target within `n`
hops, the chain from the current value reaches it within fewer (the loop has come from that Ref to the current value
along the chain) -/
def WildInv (res : Resolver) (p : FPath) (t : List Char) (seen : List (List Char)) (cur : Val) : Prop :=
  ∀ s, s ∈ seen → ∀ n, chaseV res p t n (.ref s none) = true →
    ∃ m, m < n ∧ chaseV res p t m cur = true

theorem exists_ref_of_not (cur : Val) (hc : ¬ ∀ id dis, cur ≠ .ref id dis) :
    ∃ id dis, cur = .ref id dis := by
  cases cur <;> simp at hc ⊢

theorem wildLoop_notRef (res : Resolver) (p : FPath) (t : List Char) (fuel : Nat)
    (seen : List (List Char)) (cur : Val) (hc : ∀ id dis, cur ≠ .ref id dis) :
    wildLoop res p t (fuel + 1) seen cur = some false := by
  cases cur <;> simp [wildLoop]
  case ref id dis => exact absurd rfl (hc id dis)

theorem wildLoop_true (res : Resolver) (p : FPath) (t : List Char)
    (hne : ∀ id d, res.resolveRef id = some d → d.isEmpty = false) :
    ∀ (fuel : Nat) (seen : List (List Char)) (cur : Val),
      wildLoop res p t fuel seen cur = some true → chaseV res p t fuel cur = true
  | 0, _, _, h => by simp [wildLoop] at h
  | fuel + 1, seen, cur, h => by
    by_cases hc : ∀ id dis, cur ≠ .ref id dis
    · rw [wildLoop_notRef res p t fuel seen cur hc] at h
      exact absurd h (by simp)
    · obtain ⟨id, dis, hcur⟩ := exists_ref_of_not cur hc
      subst hcur
      rw [wildLoop] at h
      rw [chaseV_ref]
      by_cases ht : id = t
      · simp [ht]
      · rw [if_neg ht] at h
        by_cases hs : seen.contains id = true
        · rw [if_pos hs] at h
          exact absurd h (by simp)
        · rw [if_neg hs] at h
          cases hr : res.resolveRef id with
          | none => rw [hr] at h; exact absurd h (by simp)
          | some d =>
            simp only [hr, hne id d hr, Bool.not_false, if_true] at h
            simp [wildLoop_true res p t hne fuel (id :: seen) _ h]

theorem wildLoop_false (res : Resolver) (p : FPath) (t : List Char)
    (hne : ∀ id d, res.resolveRef id = some d → d.isEmpty = false) :
    ∀ (fuel : Nat) (seen : List (List Char)) (cur : Val), WildInv res p t seen cur →
      wildLoop res p t fuel seen cur = some false → ∀ n, chaseV res p t n cur = false
  | 0, _, _, _, h => by simp [wildLoop] at h
  | fuel + 1, seen, cur, hinv, h => by
    by_cases hc : ∀ id dis, cur ≠ .ref id dis
    · intro n; exact chaseV_notRef res p t n cur hc
    · obtain ⟨id, dis, hcur⟩ := exists_ref_of_not cur hc
      subst hcur
      rw [wildLoop] at h
      by_cases ht : id = t
      · simp [ht] at h
      · simp only [ht, if_false] at h
        by_cases hs : seen.contains id = true
        · -- a Ref seen before: the chain is in a cycle that does not contain the target
          have hmem : id ∈ seen := by simpa using hs
          intro n
          induction n using Nat.strongRecOn with
          | _ n ih =>
            cases hv : chaseV res p t n (.ref id dis) with
            | false => rfl
            | true =>
              have hv' : chaseV res p t n (.ref id none) = true := by
                rw [chaseV_ref_dis res p t n id none dis]; exact hv
              obtain ⟨m, hm, hmv⟩ := hinv id hmem n hv'
              rw [ih m hm] at hmv
              exact absurd hmv (by simp)
        · rw [if_neg hs] at h
          cases hr : res.resolveRef id with
          | none =>
            intro n
            cases n with
            | zero => exact chaseV_zero ..
            | succ n => simp [chaseV_ref, hr, ht]
          | some d =>
            simp only [hr, hne id d hr, Bool.not_false, if_true] at h
            have hinv' : WildInv res p t (id :: seen) (res.resolveFor d p) := by
              intro s hsm n hn
              have step : ∀ k, chaseV res p t k (.ref id none) = true →
                  ∃ m, m < k ∧ chaseV res p t m (res.resolveFor d p) = true := by
                intro k hk
                cases k with
                | zero => simp [chaseV] at hk
                | succ k =>
                  rw [chaseV_ref] at hk
                  simp only [hr, Bool.or_eq_true, beq_iff_eq, ht, false_or] at hk
                  exact ⟨k, Nat.lt_succ_self k, hk⟩
              rcases List.mem_cons.1 hsm with rfl | hs'
              · exact step n hn
              · obtain ⟨m, hm, hmv⟩ := hinv s hs' n hn
                rw [chaseV_ref_dis res p t m id dis none] at hmv
                obtain ⟨m', hm', hmv'⟩ := step m hmv
                exact ⟨m', Nat.lt_trans hm' hm, hmv'⟩
            have ih := wildLoop_false res p t hne fuel (id :: seen) _ hinv' h
            intro n
            cases n with
            | zero => exact chaseV_zero ..
            | succ n => simp [chaseV_ref, hr, ht, ih n]

theorem wildLoop_some (res : Resolver) (p : FPath) (t : List Char) (mu : List (List Char) → Nat)
    (hmu : ∀ seen id d, res.resolveRef id = some d → seen.contains id = false →
      mu (id :: seen) < mu seen) :
    ∀ (fuel : Nat) (seen : List (List Char)) (cur : Val), mu seen < fuel →
      ∃ b, wildLoop res p t fuel seen cur = some b
  | 0, _, _, h => absurd h (Nat.not_lt_zero _)
  | fuel + 1, seen, cur, h => by
    by_cases hc : ∀ id dis, cur ≠ .ref id dis
    · exact ⟨false, wildLoop_notRef res p t fuel seen cur hc⟩
    · obtain ⟨id, dis, hcur⟩ := exists_ref_of_not cur hc
      subst hcur
      rw [wildLoop]
      by_cases ht : id = t
      · exact ⟨true, by rw [if_pos ht]⟩
      · rw [if_neg ht]
        by_cases hs : seen.contains id = true
        · exact ⟨false, by rw [if_pos hs]⟩
        · rw [if_neg hs]
          cases hr : res.resolveRef id with
          | none => exact ⟨false, rfl⟩
          | some d =>
            have hlt : mu (id :: seen) < fuel :=
              Nat.lt_of_lt_of_le (hmu seen id d hr (by simpa using hs)) (Nat.le_of_lt_succ h)
            simp only []
            split
            · exact wildLoop_some res p t mu hmu fuel (id :: seen) _ hlt
            · exact wildLoop_some res p t mu hmu fuel (id :: seen) _ hlt

/-! ### the record resolver of the harness -/

theorem recsResolveRef_nonempty (recs : List Tags) (id : List Char) (d : Tags)
    (h : recsResolveRef recs id = some d) : d.isEmpty = false := by
  have h2 : d.refId = some id := (mem_keys_of_find h).1
  cases d with
  | nil => simp [Tags.refId, Tags.get?] at h2
  | cons k v t => rfl

theorem wildLoop_terminates (recs : List Tags) (p : FPath) (t : List Char) (cur : Val) :
    ∃ b, wildLoop (recsResolver recs) p t (recs.length + 2) [] cur = some b := by
  -- the measure: ids of the record set not yet visited
  refine wildLoop_some (recsResolver recs) p t (unseen (recs.filterMap Tags.refId)) ?_ (recs.length + 2) [] cur ?_
  · intro seen id d hr hs
    exact unseen_cons_lt (mem_keys_of_find hr).2 (by simpa using hs)
  · have h1 := unseen_le_length (recs.filterMap Tags.refId) []
    have h2 := List.length_filterMap_le Tags.refId recs
    omega

/-- what the loop started with nothing visited answers: `true` only if the chain reaches the target within the fuel,
`false` only if it never does -/
theorem wildLoop_reach (recs : List Tags) (p : FPath) (t : List Char) (cur : Val) :
    ∃ b, wildLoop (recsResolver recs) p t (recs.length + 2) [] cur = some b ∧
      (b = true → chaseV (recsResolver recs) p t (recs.length + 2) cur = true) ∧
      (b = false → ∀ n, chaseV (recsResolver recs) p t n cur = false) := by
  obtain ⟨b, hb⟩ := wildLoop_terminates recs p t cur
  refine ⟨b, hb, ?_, ?_⟩
  · rintro rfl
    exact wildLoop_true _ p t (recsResolveRef_nonempty recs) _ _ _ hb
  · rintro rfl
    exact wildLoop_false _ p t (recsResolveRef_nonempty recs) _ _ _ (fun s hs => by simp at hs) hb

theorem wildLoop_spec (recs : List Tags) (p : FPath) (t : List Char) (cur : Val) :
    (wildLoop (recsResolver recs) p t (recs.length + 2) [] cur).getD false =
      chaseV (recsResolver recs) p t (recs.length + 2) cur := by
  obtain ⟨b, hb, ht, hf⟩ := wildLoop_reach recs p t cur
  rw [hb]
  cases b with
  | true => simp [ht rfl]
  | false => simp [hf rfl]

/-- the bound is no restriction: a chain that reaches the target at all reaches it within
`records + 2` hops -/
theorem chaseV_bounded (recs : List Tags) (p : FPath) (t : List Char) (cur : Val) (n : Nat)
    (h : chaseV (recsResolver recs) p t n cur = true) :
    chaseV (recsResolver recs) p t (recs.length + 2) cur = true := by
  obtain ⟨b, _, ht, hf⟩ := wildLoop_reach recs p t cur
  cases b with
  | true => exact ht rfl
  | false => rw [hf rfl n] at h; exact absurd h (by simp)

theorem chaseSpec_eq (recs : List Tags) (env : SpecEnv) (henv : env.deref = recsResolveRef recs)
    (p : FPath) (t : List Char) :
    ∀ (n : Nat) (d : Tags),
      chaseSpec env p t n d = chaseV (recsResolver recs) p t n (recsResolveFor recs d p)
  | 0, d => by simp [chaseSpec, chaseV]
  | n + 1, d => by
    rw [chaseSpec, recsResolveFor_spec, henv]
    cases hl : lookupSpec (recsResolveRef recs) d p with
    | none => simp [orNull, chaseV]
    | some v =>
      cases v <;> simp only [orNull] <;> try (simp [chaseV])
      case ref id dis =>
        cases hd : recsResolveRef recs id with
        | none => simp [recsResolver, hd]
        | some d' =>
          simp only [recsResolver, hd]
          rw [chaseSpec_eq recs env henv p t n d']
          rfl

end Hs

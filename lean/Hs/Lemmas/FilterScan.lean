/-
  Scanner view lemmas for the filter text proofs (C08): `Views s v` says that the scanner `s` is
  positioned on the byte string `v` (current byte = head of `v`, nothing peeked), whatever its
  stale byte, position counter and `last_peek` are: the scanner lemmas' `Hs.Clean`, `Hs.At` with an empty peek
  buffer (`views_iff_clean`), through which the reader lemmas of the Zinc ladder are used in the filter proofs and
  the scanner steps are theirs.  `consume_white_spaces` and `parse_id` over printed text.
-/
import Hs.Lemmas.ZincRtIds
namespace Hs.FText
open Hs Hs.Scan Hs.Zinc

def Views (s : Scan) (v : List UInt8) : Prop :=
  s.stash = [] ∧
  match v with
  | [] => s.eof = true ∧ s.inp = []
  | b :: r => s.eof = false ∧ s.cur = b ∧ s.inp = r

theorem Views.nil_eof {s : Scan} (h : Views s []) : s.eof = true := h.2.1
theorem Views.cons_eof {s : Scan} {b : UInt8} {r : List UInt8} (h : Views s (b :: r)) : s.eof = false := h.2.1
theorem Views.cons_cur {s : Scan} {b : UInt8} {r : List UInt8} (h : Views s (b :: r)) : s.cur = b := h.2.2.1

/-- `Views` is the scanner lemmas' `Hs.Clean`, written out on the fields -/
theorem views_iff_clean {s : Scan} {v : List UInt8} : Views s v ↔ Clean s v := by
  constructor
  · rintro ⟨hs, h⟩
    cases v with
    | nil => exact ⟨⟨h.1, hs, h.2⟩, hs⟩
    | cons b r => exact ⟨⟨h.1, h.2.1, by rw [hs]; exact h.2.2⟩, hs⟩
  · rintro ⟨h, hs⟩
    cases v with
    | nil => exact ⟨hs, h.1, h.2.2⟩
    | cons b r => exact ⟨hs, h.1, h.2.1, by rw [← h.2.2, hs]; rfl⟩

theorem Views.clean {s : Scan} {v : List UInt8} (h : Views s v) : Clean s v := views_iff_clean.1 h

theorem _root_.Hs.Clean.views {s : Scan} {v : List UInt8} (h : Clean s v) : Views s v := views_iff_clean.2 h

theorem views_make (bs : List UInt8) : Views (Scan.make bs) bs := Clean.views ⟨At_make_all bs, make_stash bs⟩

theorem Views.read_eq {s : Scan} {b c : UInt8} {r : List UInt8} (h : Views s (b :: c :: r)) :
    s.read = (some c, s.advance) := h.clean.here.read

theorem Views.advance {s : Scan} {b : UInt8} {r : List UInt8} (h : Views s (b :: r)) :
    Views s.advance r := h.clean.advance.views

def isWsB (b : UInt8) : Bool := b == 32 || b == 9 || b == 13 || b == 10

theorem isWhiteSpace_eq (s : Scan) : s.isWhiteSpace = isWsB s.cur := by
  simp [Scan.isWhiteSpace, Scan.isSpace, Scan.isNewline, isWsB, Bool.or_assoc]

theorem cws_skip (sp : List UInt8) (hsp : ∀ b ∈ sp, isWsB b = true) (v : List UInt8) (hv : Stop isWsB v)
    (fuel : Nat) (s : Scan) (hs : Views s (sp ++ v)) (hf : sp.length < fuel) :
    ∃ s', consumeWhiteSpaces fuel s = .ok s' ∧ Views s' v := by
  have hc := hs.clean
  obtain ⟨s', e, h', hs', -⟩ := skipLoop_run sp hsp s v fuel hc.here hv hf
  have hP : (fun b : UInt8 => (b == 32 || b == 9) || (b == 13 || b == 10)) = isWsB := by
    funext b; simp [isWsB, Bool.or_assoc]
  exact ⟨s', by rw [Scan.consumeWhiteSpaces_eq, hP]; exact e, Clean.views ⟨h', by rw [hs', advN_stash_nil _ _ hc.stash]⟩⟩

/-- on a byte that is not white space (the stale byte at the end of the input included)
`consume_white_spaces` does nothing -/
theorem cws_noop (n : Nat) (s : Scan) (h : isWsB s.cur = false) : consumeWhiteSpaces (n + 1) s = .ok s := by
  unfold consumeWhiteSpaces
  simp [isWhiteSpace_eq, h]

/-- identifier continuation byte: `is_alpha_num() || cur == b'_'` -/
def idByte (b : UInt8) : Bool := isDigitB b || isLowerB b || isUpperB b || b == 95

theorem idByte_lt (b : UInt8) (h : idByte b = true) : b < 128 := by
  have : b.toNat < 128 := by
    simp only [idByte, isDigitB, isLowerB, isUpperB, Bool.or_eq_true, Bool.and_eq_true, decide_eq_true_eq,
      beq_iff_eq, UInt8.le_iff_toNat_le] at h
    rcases h with ((h | h) | h) | h
    · have := h.2; simp at this; omega
    · have := h.2; simp at this; omega
    · have := h.2; simp at this; omega
    · subst h; decide
  exact this

def segBytes (seg : List Char) : List UInt8 := seg.map (fun c => UInt8.ofNat c.toNat)

def idBytesB : List UInt8 → Bool
  | [] => false
  | b :: r => isLowerB b && r.all idByte

/-- `seg` is an identifier (`parse_id`'s language): ASCII, lower-case start, then `[A-Za-z0-9_]*` -/
def IdSeg (seg : List Char) : Prop := seg = (segBytes seg).map chr ∧ idBytesB (segBytes seg) = true

instance (seg : List Char) : Decidable (IdSeg seg) := by unfold IdSeg; exact inferInstance

theorem idBytesB_all {w : List UInt8} (h : idBytesB w = true) : ∀ b ∈ w, idByte b = true := by
  cases w with
  | nil => simp [idBytesB] at h
  | cons a r =>
    simp only [idBytesB, Bool.and_eq_true, List.all_eq_true] at h
    intro b hb
    cases hb with
    | head => simp [idByte, h.1]
    | tail _ hb => exact h.2 b hb

theorem IdSeg.enc {seg : List Char} (h : IdSeg seg) : encChars seg = segBytes seg := by
  have := encChars_map_chr (segBytes seg) (fun b hb => idByte_lt b (idBytesB_all h.2 b hb))
  rw [← h.1] at this; exact this

example : IdSeg "siteRef".toList := by decide +kernel

theorem IdSeg.ident {seg : List Char} (h : IdSeg seg) : isIdent seg = true := by
  have ha : AllB isLitB seg = true := by
    rw [h.1]
    exact AllB_map_chr _ (fun b hb => ⟨idByte_lt b (idBytesB_all h.2 b hb), idBytesB_all h.2 b hb⟩)
  have h2 := h.2
  cases seg with
  | nil => simp [segBytes, idBytesB] at h2
  | cons c r =>
    obtain ⟨⟨h1, _⟩, h3⟩ := AllB_cons.mp ha
    simp only [segBytes, List.map_cons, idBytesB, Bool.and_eq_true] at h2
    simp only [isIdent, Bool.and_eq_true, decide_eq_true_eq]
    exact ⟨⟨h1, h2.1⟩, h3⟩

/-- `parseId_rt` over `Views`; at the end of the input the identifier's last byte stays in `cur` -/
theorem parseId_seg (seg : List Char) (hseg : IdSeg seg) (rest : List UInt8) (hrest : Stop idByte rest)
    (fuel : Nat) (s : Scan) (hs : Views s (segBytes seg ++ rest)) (hf : (segBytes seg).length < fuel) :
    ∃ s', parseId fuel s = .ok (seg, s') ∧ Views s' rest ∧ (rest = [] → idByte s'.cur = true) := by
  obtain ⟨hat, hst⟩ := hs.clean
  have hlen : (segBytes seg).length = seg.length := List.length_map _
  obtain ⟨e, h'⟩ := parseId_rt seg hseg.ident s rest fuel (by rw [hseg.enc]; exact hat) hrest (by omega)
  refine ⟨_, e, Clean.views ⟨h', advN_stash_nil _ _ hst⟩, ?_⟩
  rintro rfl
  have hne : segBytes seg ≠ [] := by
    intro h; have := hseg.2; rw [h] at this; simp [idBytesB] at this
  rw [List.append_nil, ← List.dropLast_concat_getLast hne] at hat
  rw [← hlen, ← List.dropLast_concat_getLast hne, List.length_append, List.length_singleton, advN_cur_last _ hat]
  exact idBytesB_all hseg.2 _ (List.getLast_mem hne)

end Hs.FText

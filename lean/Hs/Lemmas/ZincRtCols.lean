/-
  C01 ladder, grids: column meta (`parse_grid_column_meta`, tags separated by spaces and
  ended by `,` or newline): one column in any spelling (`col_stepD`), then the column line (`gridColumnsD`), for any
  way the header's lines end (`LineEnds`: the writer's bare terminators, a sentence's blanks and line endings).
-/
import Hs.Lemmas.ZincRtDict
namespace Hs.Zinc
open Hs Hs.Scan Hs.Spell

/-- the loop of `parse_grid_column_meta` positioned on the name of the first of the remaining tags -/
def RdTagsC (term : UInt8) (t : Tags) : Prop :=
  ∀ (k : List Char) (v : Val) (t' : Tags), t = .cons k v t' →
  ∀ (depth fuel : Nat) (p : PS) (acc : List (List Char × Val)) (rest : List UInt8),
    p.tok = .id k → At p.sc (valPart v ++ tailOf 32 term rest t') → p.sc.stash = [] →
    4 * (encTags t 32).length + 10 ≤ fuel → depth + nestT t ≤ 64 →
    ∃ p', colMeta fuel depth p acc = .ok (acc ++ (lexImgT t).toList, p') ∧ p'.tok = .ch term ∧
      At p'.sc rest ∧ p'.sc.stash = []

theorem RdTagsC_iff {term : UInt8} {t : Tags} : RdTagsC term t ↔ RdLoop colMetaL 32 term t :=
  ⟨fun h k v t' e depth fuel p _ => h k v t' e depth fuel p,
   fun h k v t' e depth fuel p => h k v t' e depth fuel p false⟩

theorem RdTagsC_nil (term : UInt8) : RdTagsC term .nil := RdTagsC_iff.mpr (RdLoop_nil colMetaL 32 term)

theorem RdTagsC_cons {term : UInt8} (st : TermC term) {k : List Char} {v : Val} {t' : Tags}
    (hkt : keysIdent t' = true) (hv : isMarker v = false → RdVal v)
    (ih : RdTagsC term t') : RdTagsC term (.cons k v t') :=
  RdTagsC_iff.mpr (RdLoop_cons (tagLoop_col term) (fun h => absurd h (by decide)) st.syn hkt hv (RdTagsC_iff.mp ih))

/-! ### the column line -/

def MetaOkC : OTags → Prop
  | .none => True
  | .some t => t.isEmpty = false ∧ keysIdent t = true ∧ keysSorted t.keys = true ∧ RdTagsC 44 t ∧ RdTagsC 10 t

def ColsOk : Cols → Prop
  | .nil => True
  | .cons n md c => isIdent n = true ∧ MetaOkC md ∧ ColsOk c

theorem col_stepD {D : List UInt8 → Prop} {E : List UInt8 → List UInt8 → Prop} {K : Nat} {term : UInt8}
    {ending after : List UInt8} (hEnds : Ends D term E) (hE : E ending after)
    (hterm : term = 44 ∨ term = 10) (n : List Char) (md : OTags) (m : List UInt8) (hn : isIdent n = true)
    (hmd : MetaOkD (RdTagsD E K colMetaL term) md m) (depth fuel : Nat) (p : PS) (ws : List UInt8) (hws : Blanks ws)
    (hp : Pre p.sc ws (encChars n ++ (m ++ ending)))
    (hafter : term = 44 → after ≠ [])
    (hf : 4 * ((encChars n).length + m.length) + ws.length + (ending.length - after.length) + K + 2 ≤ fuel)
    (hd : depth + nestO md ≤ 64) :
    ∃ p3 : PS, p3.tok = .ch term ∧ At p3.sc after ∧ p3.sc.stash = [] ∧
      ∀ (acc : List (List Char × OTags)),
        gridColumns (fuel + 1) depth p acc =
          if term = 10 then .ok (acc ++ [(n, lexImgO md)], p3)
          else gridColumns fuel depth p3 (acc ++ [(n, lexImgO md)]) := by
  have hlenn : n.length ≤ (encChars n).length := encChars_length_ge n
  have hn1 : 1 ≤ (encChars n).length := by obtain ⟨b, r, e, _⟩ := isIdent_head hn; rw [e]; simp
  cases hmd with
  | none =>
    simp only [List.length_nil] at hf
    obtain ⟨s1, e1, h1, hs1⟩ := lexRead_idW ws hws n hn p.sc ending hp (hEnds.stopLit hE) fuel (by omega)
    obtain ⟨s2, e2, h2, hs2⟩ := hEnds.lex hE s1 (Post.of_clean h1 hs1) fuel (by omega)
    refine ⟨{ sc := s2, tok := .ch term }, rfl, h2, hs2, ?_⟩
    intro acc
    rw [gridColumns]
    simp only [PS.read, e1, e2, isChar_ch]
    rcases hterm with rfl | rfl <;> simp [lexImgO]
  | some k v t' w body hw hwne hks hrt =>
    simp only [List.length_append] at hf
    obtain ⟨s1, e1, h1, hs1⟩ := lexRead_idW ws hws n hn p.sc (w ++ (body ++ ending)) (hp.cast (by simp))
      (stop_blanks (by decide) hw hwne _) fuel (by omega)
    obtain ⟨s2, p3, e2, e3, ht3, h3, hs3, heof2⟩ := hrt.enter hw depth fuel fuel s1 false [] hE (Pre.of_clean h1 hs1)
      (by omega) (by omega) (by simpa [nestO] using hd)
    replace heof2 := heof2 (hEnds.ne hE)
    have hdict : dictOf (lexImgT (.cons k v t')).toList = lexImgT (.cons k v t') :=
      dictOf_toList _ (by rw [lexImgT_keys]; exact hks)
    have hne' : ((lexImgT (.cons k v t')).toList).isEmpty = false := by simp [lexImgT, Tags.toList]
    refine ⟨p3, ht3, h3, hs3, ?_⟩
    intro acc
    have e3' : colMeta fuel depth { sc := s2, tok := .id k } [] = .ok ((lexImgT (.cons k v t')).toList, p3) := by
      simpa [colMetaL] using e3
    rw [gridColumns]
    simp only [PS.read, e1, e2, PS.isChar, PS.isEof, heof2, Bool.false_eq_true, if_false, e3',
      hne', Bool.not_false, if_true, hdict, lexImgO]
    rcases hterm with rfl | rfl
    · simp [ht3, h3.eof_of_ne_nil (hafter rfl)]
    · simp [ht3]

theorem MetaOkC.spelled {term : UInt8} (st : TermC term) {md : OTags} (hmd : MetaOkC md) :
    MetaOkD (RdTagsD (EndRt term) 9 colMetaL term) md (metaPart md) := by
  cases md with
  | none => exact .none
  | some t =>
    obtain ⟨hne, hki, hks, hr44, hr10⟩ := hmd
    cases t with
    | nil => simp [Tags.isEmpty] at hne
    | cons k v t' =>
      have hrt : RdTagsC term (.cons k v t') := by rcases st with rfl | rfl <;> assumption
      exact .some k v t' [32] _ blanks_one (by simp) hks ((RdTagsC_iff.mp hrt).spelled st.syn hki)

/-- how the lines of a grid header end in a spelling: `E 10` are the endings of a line, `E 44` those of a column that
is not the last (the comma alone is one) -/
structure LineEnds (D : List UInt8 → Prop) (E : UInt8 → List UInt8 → List UInt8 → Prop) : Prop where
  nl : Ends D 10 (E 10)
  col : Ends D 44 (E 44)
  comma : ∀ x, E 44 (44 :: x) x

theorem LineEnds.writer : LineEnds Delim EndRt :=
  ⟨(TermC.syn (Or.inr rfl)).ends, (TermC.syn (Or.inl rfl)).ends, fun _ => rfl⟩

theorem gridColumnsD {D : List UInt8 → Prop} {E : UInt8 → List UInt8 → List UInt8 → Prop} {K : Nat} (L : LineEnds D E)
    {cols : Cols} {cl : List UInt8} (hok : ColsOkD (fun term => RdTagsD (E term) K colMetaL term) cols cl) :
    ∀ (depth fuel : Nat) (p : PS) (acc : List (List Char × OTags)) (ending rest ws : List UInt8), E 10 ending rest →
    Blanks ws → Pre p.sc ws (cl ++ ending) → 4 * cl.length + ws.length + (ending.length - rest.length) + K + 4 ≤ fuel → depth + nestC cols ≤ 64 →
    ∃ p', gridColumns fuel depth p acc = .ok (acc ++ (lexImgC cols).toList, p') ∧ p'.tok = .ch 10 ∧
      At p'.sc rest ∧ p'.sc.stash = [] := by
  induction hok with
  | one n md m hn hm =>
    intro depth fuel p acc ending rest ws hE hws hp hf hd
    simp only [nestC] at hd
    simp only [List.length_append] at hf
    obtain ⟨f, rfl⟩ : ∃ f, fuel = f + 1 := ⟨fuel - 1, by omega⟩
    obtain ⟨p3, ht3, h3, hs3, e⟩ := col_stepD L.nl hE (Or.inr rfl) n md m hn hm depth f p ws hws
      (hp.cast (by simp)) (fun h => absurd h (by decide)) (by omega) (by omega)
    refine ⟨p3, ?_, ht3, h3, hs3⟩
    rw [e acc]
    simp [lexImgC, Cols.toList]
  | cons n md n2 md2 c m w restc hn hm hw t ih =>
    intro depth fuel p acc ending rest ws hE hws hp hf hd
    simp only [nestC] at hd
    simp only [List.length_append, List.length_cons] at hf
    obtain ⟨f, rfl⟩ : ∃ f, fuel = f + 1 := ⟨fuel - 1, by omega⟩
    have hne : w ++ (restc ++ ending) ≠ [] := by simp [L.nl.ne hE]
    obtain ⟨p3, ht3, h3, hs3, e⟩ := col_stepD L.col (L.comma (w ++ (restc ++ ending))) (Or.inl rfl) n md m hn hm
      depth f p ws hws (hp.cast (by simp)) (fun _ => hne) (by simp only [List.length_cons]; omega) (by omega)
    obtain ⟨p', e', ht', h', hs'⟩ := ih depth f p3 (acc ++ [(n, lexImgO md)]) ending rest w hE hw (Pre.of_clean h3 hs3)
      (by omega) (by simp only [nestC]; omega)
    refine ⟨p', ?_, ht', h', hs'⟩
    rw [e acc]
    simp only [show (44 : UInt8) ≠ 10 by decide, if_false, e', lexImgC_toList_cons]
    simp

theorem ColsOk.spelled : ∀ (n : List Char) (md : OTags) (c : Cols), ColsOk (.cons n md c) →
    ColsOkD (fun term => RdTagsD (EndRt term) 9 colMetaL term) (.cons n md c) (encCols (.cons n md c))
  | n, md, .nil, h => by
    rw [encCols_one]; exact .one n md _ h.1 (h.2.1.spelled (Or.inr rfl))
  | n, md, .cons n2 md2 c, h => by
    rw [encCols_cons2]
    exact .cons n md n2 md2 c _ [] _ h.1 (h.2.1.spelled (Or.inl rfl)) Blanks.nil (ColsOk.spelled n2 md2 c h.2.2)

end Hs.Zinc

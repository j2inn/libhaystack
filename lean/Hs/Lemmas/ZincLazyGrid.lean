/-
  C11 (lazy rows): `parse_grid_iterator` on a header and row lines the writer prints for a top-level grid, followed
  by any text at which the iterator's behaviour is known (`lazy_rows`, `TailOk`: the complete grid and the grid cut
  after the first token of a row line are the two cases): the header (`gridHeader`), then the row iterator driven call
  by call (`Hands`), with the position of the scanner at the moment each row is handed out.
-/
import Hs.Lemmas.ZincLazyRow
namespace Hs.Zinc
open Hs Hs.Scan

theorem headerBytes_length (md : OTags) (n : List Char) (cm : OTags) (c : Cols) :
    (headerBytes md (.cons n cm c)).length = 10 + (metaPart md).length + colsLen (.cons n cm c) := by
  have := encCols_length n cm c
  simp only [headerBytes, verBytes, List.length_cons, List.length_append, List.length_nil]
  omega

/-- `gridHeader` on the header the writer prints, whatever text `region` follows the column line: all of it but its
last step, the `lexRead` of the first token of `region`, which hands the iterator its first state -/
theorem gridHeader_at (md : OTags) (n : List Char) (cm : OTags) (c : Cols)
    (hmeta : MetaOkG md) (hcols : ColsOk (.cons n cm c)) (region : List UInt8) (D g : Nat)
    (hd : D + nestO md ≤ 64 ∧ D + nestC (.cons n cm c) ≤ 64)
    (hg : 4 * (headerBytes md (.cons n cm c)).length ≤ g) :
    ∃ (p0 p5 : PS), lexRead (g + 1) (Scan.make (headerBytes md (.cons n cm c) ++ region)) = .ok p0 ∧
      At p5.sc region ∧ p5.sc.stash = [] ∧
      ∀ p6, lexRead g p5.sc = .ok p6 →
        gridHeader (g + 1) D p0 = .ok ((lexImgO md, (lexImgC (.cons n cm c)).toList, ['3', '.', '0']),
          { p := p6, nestedStart := false, nestedEnd := false }) := by
  rw [headerBytes_length] at hg
  generalize hT : headerBytes md (.cons n cm c) ++ region = T
  have hat : At (Scan.make T) T := At_make_all _
  have hs : (Scan.make T).stash = [] := by
    rw [← hT]; simp [headerBytes, verBytes, Scan.make]
  generalize Scan.make T = s at hat hs ⊢
  rw [← hT] at hat
  simp only [headerBytes, verBytes, List.cons_append, List.nil_append, List.append_assoc] at hat
  obtain ⟨e0, h0⟩ := lexRead_id ['v', 'e', 'r'] isIdent_ver s _ (g + 1)
    (by rw [encChars_ver]; exact hat) (Stop_cons (by decide)) (by simp; omega)
  simp only [List.length_cons, List.length_nil] at e0 h0
  obtain ⟨p5, hh, h5, hs5⟩ := header_chain md hmeta n cm c hcols D g (advN 3 s) _ h0 (advN_stash_nil _ _ hs) (by omega)
    hd
  exact ⟨_, p5, e0, h5, hs5, fun p6 e6 => gridHeader_of_reads hh e6 _ (Or.inl ⟨rfl, rfl⟩)⟩

/-- stated over `cols` (only the proof looks at the first column), so that a caller keeps `cols.names` and
`cols.length == 1` as they stand in its own statement -/
theorem lazy_rows (md : OTags) (cols : Cols) (hne : cols ≠ .nil)
    (hmeta : MetaOkG md) (hcols : ColsOk cols) (rowsP : Rows) (Y Z : List UInt8) (End : RowState → Prop)
    (hrows : RowsOk cols.names (cols.length == 1) rowsP) (hgr : GoodR rowsP)
    (D g : Nat) (hY : TailOk g End Y Z)
    (hd : D + nestO md ≤ 64 ∧ D + nestC cols ≤ 64 ∧ D + nestR rowsP ≤ 64)
    (hF : 4 * ((headerBytes md cols).length + (encRows rowsP cols.names (cols.length == 1)).length) + 17 ≤ g) :
    ∃ (p0 : PS) (s : Scan) (p6 : PS),
      lexRead (g + 3) (Scan.make (headerBytes md cols ++ (encRows rowsP cols.names (cols.length == 1) ++ Y))) = .ok p0 ∧
      At s (encRows rowsP cols.names (cols.length == 1) ++ Y) ∧ s.stash = [] ∧
      lexRead (g + 2) s = .ok p6 ∧
      gridHeader (g + 3) D p0 = .ok ((lexImgO md, (lexImgC cols).toList, ['3', '.', '0']),
        { p := p6, nestedStart := false, nestedEnd := false }) ∧
      Hands (g + 3) D cols.names End { p := p6, nestedStart := false, nestedEnd := false }
        (rowTrace cols.names (cols.length == 1) Y Z rowsP) := by
  obtain ⟨n, cm, c, rfl⟩ : ∃ n cm c, cols = .cons n cm c := by
    cases cols with
    | nil => exact absurd rfl hne
    | cons n cm c => exact ⟨n, cm, c, rfl⟩
  have hnn : Cols.names (.cons n cm c) ≠ [] := by simp [Cols.names]
  obtain ⟨p0, p5, e0, h5, hs5, hhead⟩ := gridHeader_at md n cm c hmeta hcols
    (encRows rowsP (Cols.names (.cons n cm c)) (Cols.length (.cons n cm c) == 1) ++ Y) D (g + 2)
    ⟨hd.1, hd.2.1⟩ (by omega)
  cases rowsP with
  | cons r rs =>
    obtain ⟨p6, e6, hh⟩ := hands_rows (Cols.names (.cons n cm c)) (Cols.length (.cons n cm c) == 1) hnn
      (cols_singleW _) D g Y Z End hY r rs hrows hgr hd.2.2 (by omega) (g + 2) p5.sc h5 hs5 (by omega)
    exact ⟨p0, p5.sc, p6, e0, h5, hs5, e6, hhead p6 e6, hh⟩
  | nil =>
    obtain ⟨q, eq, hend⟩ := hY.noRow p5.sc (by simpa [encRows] using h5) hs5
    exact ⟨p0, p5.sc, q, e0, h5, hs5, eq, hhead q eq, hend⟩

end Hs.Zinc

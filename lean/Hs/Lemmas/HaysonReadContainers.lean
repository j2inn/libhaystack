/-
  Hs.Lemmas.HaysonReadContainers — reading the container objects of a Hayson document whose members stand in any
  order: dict objects (with or without `"_kind":"dict"`), a grid meta (with or without `ver`), column
  objects (with or without `meta`), the grid object (with or without `meta`).
-/
import Hs.Lemmas.HaysonReadObj
namespace Hs.Spec.Hayson
open Hs Hs.Hayson

/-! ### the members of a dict -/

theorem tagKeys_sorted {t : Tags} (hk : TagKeys t) : Key.Sorted t.toList := strictSorted_keys.mp hk.1

theorem fromJson_dictObj {tm km : Mems} {vals : List (List Char × Val)} {ms : Members}
    (hkm : OptKindDict km) (hp : ms.toList.Perm (km ++ tm)) (hv : decView tm = okView vals)
    (hd : (s "_kind" :: tm.map (·.1)).Nodup) :
    fromJson (.obj ms) = .ok (.dict (Tags.ofList (vals.foldl (fun acc p => insertTag p.1 p.2 acc) []))) := by
  cases hkm with
  | present => rw [fromJson_kindObj_collect hp known_dict hv hd, finish_dict]
  | absent =>
    rw [fromJson_obj_of_perm ms _ hp (List.nodup_cons.mp hd).2 (fun p hp' e => absurd e (noKind_of_names hd p hp')),
      List.nil_append, hv, runR_noKind vals _ _ (noKind_of_decView hv hd), finish_nil]

theorem keys_of_tags {t : Tags} {tm : Mems} (hv : decView tm = okView t.toList) : tm.map (·.1) = t.keys :=
  (keys_of_decView hv).trans (Tags.keys_eq t).symm

theorem read_dictObj {t : Tags} {tm km : Mems} {ms : Members}
    (hv : decView tm = okView t.toList) (hk : TagKeys t) (hkm : OptKindDict km)
    (hp : ms.toList.Perm (km ++ tm)) : fromJson (.obj ms) = .ok (.dict t) := by
  rw [fromJson_dictObj hkm hp hv (tagMembers_nodup (keys_of_tags hv) hk), foldl_insertTag_eq, Key.collect_sorted_nil (tagKeys_sorted hk),
    Tags.ofList_toList]

theorem read_metaObj {t : Tags} {ver : List Char} {tm km vm : Mems} {mm : Members}
    (hv : decView tm = okView t.toList) (hk : TagKeys t) (hnv : ∀ k ∈ t.keys, k ≠ s "ver")
    (hkm : OptKindDict km) (hvm : OptVer ver vm) (hp : mm.toList.Perm (km ++ vm ++ tm)) :
    ∃ m : Tags, fromJson (.obj mm) = .ok (.dict m) ∧
      (getStr m.toList "ver").getD (s "3.0") = ver ∧ removeTag m.toList "ver" = t.toList := by
  have hnv' : ∀ p ∈ t.toList, p.1 ≠ s "ver" := by
    intro p hp
    exact hnv p.1 (by rw [Tags.keys_eq]; exact List.mem_map_of_mem hp)
  rw [List.append_assoc] at hp
  cases hvm with
  | absent =>
    refine ⟨t, read_dictObj hv hk hkm hp, ?_, (removeTag_eq _ _).trans (Key.erase_of_not_mem hnv')⟩
    rw [getStr, getTag_eq, Key.find_eq_none.mpr hnv']; rfl
  | present =>
    have hnd := metaMembers_nodup (keys_of_tags hv) hk hnv (.present ver)
    refine ⟨_, fromJson_dictObj hkm hp (decView_cons_ok (fromJson_str ver) hv) hnd, ?_, ?_⟩
    all_goals
      rw [Tags.toList_ofList, foldl_insertTag_eq, Key.collect_cons, Key.collect_insert _ _ _ _ hnv',
        Key.collect_sorted_nil (tagKeys_sorted hk)]
    · simp [getStr, getTag_eq, Key.find_insert]
    · exact (removeTag_eq _ _).trans (Key.erase_insert _ _ _ hnv')

/-! ### column objects -/

theorem read_colNoMeta {n : List Char} {cm : Members} (hp : cm.toList.Perm [(s "name", .str n)]) :
    fromJson (.obj cm) = .ok (colVal (n, .none)) := by
  rw [fromJson_dictObj .absent hp (vals := [(s "name", .str n)]) rfl (by simp [s_inj])]
  rfl

theorem read_colMeta {n : List Char} {t : Tags} {mm cm : Members} (hm : fromJson (.obj mm) = .ok (.dict t))
    (hp : cm.toList.Perm [(s "name", .str n), (s "meta", .obj mm)]) :
    fromJson (.obj cm) = .ok (colVal (n, .some t)) := by
  rw [fromJson_dictObj .absent hp (vals := [(s "name", .str n), (s "meta", .dict t)])
    (decView_cons_ok (fromJson_str n) (decView_cons_ok hm rfl)) (by simp [s_inj])]
  simp [insertTag, s, leChars, colVal, Tags.ofList]

/-! ### the grid object -/

theorem read_gridMeta {ms mm : Members} {cjs rjs : Jsons} {m : Tags} {cs : List (List Char × OTags)}
    {rs : List Tags} (hm : fromJson (.obj mm) = .ok (.dict m)) (hc : seq cjs = .ok (cs.map colVal))
    (hr : seq rjs = .ok (rs.map Val.dict))
    (hp : ms.toList.Perm [kindMem "grid", (s "meta", .obj mm), (s "cols", .arr cjs), (s "rows", .arr rjs)]) :
    fromJson (.obj ms) = .ok (.grid (.some (Tags.ofList (removeTag m.toList "ver"))) (Cols.ofList cs)
      (Rows.ofList rs) ((getStr m.toList "ver").getD (s "3.0"))) := by
  rw [fromJson_kindObj hp known_grid (by simp)
    (vals := [(s "meta", .dict m), (s "cols", .list (Vals.ofList (cs.map colVal))),
      (s "rows", .list (Vals.ofList (rs.map Val.dict)))])
    (decView_cons_ok hm (decView_cons_ok (fromJson_arr _ _ hc) (decView_cons_ok (fromJson_arr _ _ hr) rfl))) names_grid4]
  exact finish_grid_meta (by simp [getTag]) (by simp [getTag, s_inj]) (by simp [getTag, s_inj])

theorem read_gridNoMeta {ms : Members} {cjs rjs : Jsons} {cs : List (List Char × OTags)}
    {rs : List Tags} (hc : seq cjs = .ok (cs.map colVal)) (hr : seq rjs = .ok (rs.map Val.dict))
    (hp : ms.toList.Perm [kindMem "grid", (s "cols", .arr cjs), (s "rows", .arr rjs)]) :
    fromJson (.obj ms) = .ok (.grid .none (Cols.ofList cs) (Rows.ofList rs) (s "3.0")) := by
  rw [fromJson_kindObj hp known_grid (by simp)
    (vals := [(s "cols", .list (Vals.ofList (cs.map colVal))), (s "rows", .list (Vals.ofList (rs.map Val.dict)))])
    (decView_cons_ok (fromJson_arr _ _ hc) (decView_cons_ok (fromJson_arr _ _ hr) rfl)) names_grid3]
  exact finish_grid_nometa (by simp [getTag, s_inj]) (by simp [getTag]) (by simp [getTag, s_inj])

end Hs.Spec.Hayson

/-
  C01 ladder, grids: one row line through `rowLoop` (`parse_row`): cells in column order,
  missing cells are empty, separated by `,`.  Proved once for any blank runs `B` after the commas and any notion `D`
  of what may follow a cell (`rowLoop_line`); the writer's line has no blanks, LF, and `Delim` (`rowLoop_rt`).
-/
import Hs.Lemmas.ZincRtVal
namespace Hs.Zinc
open Hs Hs.Scan

def CellsOk (r : Tags) (ns : List (List Char)) (single : Bool) : Prop :=
  ∀ n ∈ ns, (∀ v, r.get? n = some v → RdVal v) ∧ (single = true → r.get? n ≠ none)

theorem tokNone_ch (s : Scan) (c : UInt8) : PS.tokNone { sc := s, tok := .ch c } = false := rfl

section
open Hs.Spell

/-! ### one row line in any spelling -/

def CellsD (B D : List UInt8 → Prop) (r : Tags) (cells : List (List Char × List UInt8)) (ns : List (List Char)) :
    Prop :=
  ∀ n ∈ ns, (∀ v, r.get? n = some v → RdD D (cellText cells n) (lexImg v) (nestV v) ∧
      ∀ ws, B ws → ws ≠ [] → NoBlank (cellText cells n)) ∧
    (r.get? n = none → cellText cells n = [])

/-- `rowLoop` on one row line: blanks `ws`, the cells, blanks `w` and the line ending `nl`.  `Around` says that the comma
may follow a cell; that the end of the line may follow the last one depends on `nl` and is asked for here.  The last
conjunct: a line that cannot be empty (two columns, or one whose cell is present) begins with a token that is none of
what `rowNext` takes for the end of the rows (end of input, a line end, `>`) -/
theorem rowLoop_line {B D : List UInt8 → Prop} (A : Around B D) (r : Tags)
    (cells : List (List Char × List UInt8)) (names : List (List Char)) (single : Bool) (ns : List (List Char))
    (line : List UInt8) (hl : RowLineB B cells ns line) :
    ∀ (c : Nat), names.drop c = ns → CellsD B D r cells ns → (single = true → ∀ n ∈ ns, r.get? n ≠ none) →
    ∀ (depth f1 f2 : Nat) (sc : Scan) (acc : List (List Char × Val)) (rest nl w ws : List UInt8), Nl nl → Blanks w →
    D (w ++ (nl ++ rest)) → NoLF nl rest → B ws →
    depth + nestT r ≤ 64 → Pre sc ws (line ++ (w ++ (nl ++ rest))) →
    4 * line.length + ws.length + w.length + 12 ≤ f1 → 4 * line.length + ws.length + w.length + 12 ≤ f2 →
    ∃ p p', lexRead f1 sc = .ok p ∧ rowLoop f2 depth p names c acc = .ok (acc ++ cellsOf r ns, p') ∧
      p'.tok = .ch 10 ∧ At p'.sc rest ∧ p'.sc.stash = [] ∧
      ((2 ≤ ns.length ∨ single = true) → p.sc.eof = false ∧ PS.isChar p 10 = false ∧ PS.isChar p 62 = false) := by
  -- column by column along the line: a cell the row lacks has the empty text, so the first token is the comma (or the
  -- line end, after the last column); a present cell is read by `RdD.skip`, and the comma or the line end comes next
  induction hl with
  | one n =>
    intro c hdrop hC hpres depth f1 f2 sc acc rest nl w ws hn hw hD hcr hws hdepth hp hf1 hf2
    have hname : names[c]? = some n := by
      have := congrArg List.head? hdrop
      simpa [List.head?_drop] using this
    obtain ⟨g2, rfl⟩ : ∃ g, f2 = g + 2 := ⟨f2 - 2, by omega⟩
    cases hget : r.get? n with
    | none =>
      have hempty := (hC n (by simp)).2 hget
      rw [hempty] at hp hf1 hf2
      simp only [List.length_nil] at hf1 hf2
      have hsf : single = false := by
        cases single with
        | false => rfl
        | true => exact absurd hget (hpres rfl n (by simp))
      obtain ⟨s', e, h', hs'⟩ := lexRead_nlW (ws ++ w) (Blanks.append (A.blanks hws) hw) nl hn sc rest
        ⟨by simpa using hp.here, hp.stash_le, fun e => hp.stash_nil (List.append_eq_nil_iff.mp e).1⟩ hcr f1 (by simp; omega)
      refine ⟨{ sc := s', tok := .ch 10 }, { sc := s', tok := .ch 10 }, e, ?_, rfl, h', hs', ?_⟩
      · rw [rowLoop]
        simp [isChar_ch, cellsOf, hget]
      · intro h; rcases h with h | h
        · simp at h
        · rw [hsf] at h; cases h
    | some v =>
      obtain ⟨hv, hvf⟩ := (hC n (by simp)).1 v hget
      have hnest : depth + nestV v < 64 := by have := nest_get? r n v hget; omega
      obtain ⟨p, p1, e1, hne1, hst, e2, hp1⟩ := hv.skip ws (A.blanks hws) (hvf ws hws) depth f1 (g2 + 1) sc (w ++ (nl ++ rest)) hp
        hD (by omega) (by omega) hnest
      obtain ⟨s2, e3, h2, hs2⟩ := lexRead_nlW w hw nl hn p1.sc rest (hp1.pre_nl hn) hcr (g2 + 1) (by omega)
      have hne : w ++ (nl ++ rest) ≠ [] := by obtain ⟨b, r', e, _⟩ := nl_head hn rest; rw [e]; simp
      refine ⟨p, { sc := s2, tok := .ch 10 }, e1, ?_, rfl, h2, hs2,
        fun _ => ⟨hne1 hne, hst.isChar 10 (by decide), hst.isChar 62 (by decide)⟩⟩
      rw [rowLoop]
      simp only [hst.isChar 44 (by decide), hst.isChar 10 (by decide), hst.tokNone, Bool.false_eq_true, if_false,
        e2, hname, PS.read, e3]
      rw [rowLoop]
      simp [isChar_ch, cellsOf, hget]
  | cons n n2 ns' w0 restl hw0 hl' ih =>
    intro c hdrop hC hpres depth f1 f2 sc acc rest nl w ws hn hw hD hcr hws hdepth hp hf1 hf2
    have hname : names[c]? = some n := by
      have := congrArg List.head? hdrop
      simpa [List.head?_drop] using this
    have hdrop' : names.drop (c + 1) = n2 :: ns' := by
      have := congrArg List.tail hdrop
      simpa [List.tail_drop] using this
    simp only [List.length_append, List.length_cons] at hf1 hf2
    obtain ⟨g2, rfl⟩ : ∃ g, f2 = g + 3 := ⟨f2 - 3, by omega⟩
    cases hget : r.get? n with
    | none =>
      have hempty := (hC n (by simp)).2 hget
      rw [hempty] at hp hf1 hf2
      simp only [List.length_nil] at hf1 hf2
      obtain ⟨s1, e1, h1, hs1⟩ := lexRead_specialW ws (A.blanks hws) sc 44 (w0 ++ (restl ++ (w ++ (nl ++ rest))))
        (hp.cast (by simp)) (by decide) (by decide) f1 (by omega)
      obtain ⟨p, p', e3, e4, ht, h', hs', _⟩ := ih (c + 1) hdrop' (fun x hx => hC x (by simp [hx]))
        (fun h x hx => hpres h x (by simp [hx])) depth (g2 + 2) (g2 + 2) s1 acc rest nl w w0 hn hw hD hcr hw0
        hdepth (Pre.of_clean h1 hs1) (by omega) (by omega)
      have heof : s1.eof = false := by
        obtain ⟨b, r', e, _⟩ := nl_head hn rest
        exact h1.eof_of_ne_nil (by rw [e]; simp)
      refine ⟨{ sc := s1, tok := .ch 44 }, p', e1, ?_, ht, h', hs',
        fun _ => ⟨heof, by simp [isChar_ch], by simp [isChar_ch]⟩⟩
      rw [rowLoop]
      simp only [isChar_ch, PS.read, e3]
      simp [e4, cellsOf, hget]
    | some v =>
      obtain ⟨hv, hvf⟩ := (hC n (by simp)).1 v hget
      have hnest : depth + nestV v < 64 := by have := nest_get? r n v hget; omega
      obtain ⟨p, p1, e1, hne1, hst, e2, hp1⟩ := hv.skip ws (A.blanks hws) (hvf ws hws) depth f1 (g2 + 2) sc
        (44 :: (w0 ++ (restl ++ (w ++ (nl ++ rest))))) (hp.cast (by simp)) (A.punct A.none (Or.inl rfl) _) (by omega)
        (by omega) hnest
      have hs1 : p1.sc.advance.stash = [] := by
        rw [At.advance_stash, (hp1.pre (ws := []) (by decide)).stash_nil rfl]; rfl
      obtain ⟨q, p', e3, e4, ht, h', hs', _⟩ := ih (c + 1) hdrop' (fun x hx => hC x (by simp [hx]))
        (fun h x hx => hpres h x (by simp [hx])) depth (g2 + 1) (g2 + 1) p1.sc.advance
        (acc ++ [(n, lexImg v)]) rest nl w w0 hn hw hD hcr hw0 hdepth (Pre.of_clean hp1.1.advance hs1) (by omega) (by omega)
      refine ⟨p, p', e1, ?_, ht, h', hs',
        fun _ => ⟨hne1 (by simp), hst.isChar 10 (by decide), hst.isChar 62 (by decide)⟩⟩
      rw [rowLoop]
      simp only [hst.isChar 44 (by decide), hst.isChar 10 (by decide), hst.tokNone, Bool.false_eq_true, if_false,
        e2, hname, PS.read, lexRead_special hp1.1 (by decide) (by decide) (g2 + 1)]
      rw [rowLoop]
      simp only [isChar_ch, PS.read, e3]
      simp [e4, cellsOf, hget]

end

theorem rowLoop_rt (r : Tags) (names : List (List Char)) (single : Bool) :
    ∀ (ns : List (List Char)) (c : Nat), ns ≠ [] → names.drop c = ns →
    ∀ (depth f1 f2 : Nat) (sc : Scan) (acc : List (List Char × Val)) (rest : List UInt8),
    CellsOk r ns single → depth + nestT r ≤ 64 →
    At sc (rowBytes r ns single ++ 10 :: rest) → sc.stash = [] →
    4 * (rowBytes r ns single).length + 12 ≤ f1 → 4 * (rowBytes r ns single).length + 12 ≤ f2 →
    ∃ p p', lexRead f1 sc = .ok p ∧ rowLoop f2 depth p names c acc = .ok (acc ++ cellsOf r ns, p') ∧
      p'.tok = .ch 10 ∧ At p'.sc rest ∧ p'.sc.stash = [] ∧
      ((2 ≤ ns.length ∨ single = true) → p.sc.eof = false ∧ PS.isChar p 10 = false ∧ PS.isChar p 62 = false) := by
  intro ns c hne hdrop depth f1 f2 sc acc rest hok hdepth hat hs hf1 hf2
  have hC : CellsD (· = []) Delim r (encCells r) ns := by
    intro n hn
    have e := cellText_encCells n r
    refine ⟨fun v hv => ⟨?_, fun ws h h' => absurd h h'⟩, fun h => by rw [e, h]⟩
    rw [e, hv]
    exact (hok n hn).1 v hv
  exact rowLoop_line Around.writer r
    (encCells r) names single ns _ (rowLineB_rowBytes r single ns hne (fun n hn => (hok n hn).2)) c hdrop hC
    (fun h n hn => (hok n hn).2 h) depth f1 f2 sc acc rest [10] [] [] Spell.Nl.lf Blanks.nil
    (.of_end rest (by simp)) (fun h => by cases h) rfl hdepth (Pre.of_clean (by simpa using hat) hs)
    (by simpa using hf1) (by simpa using hf2)

end Hs.Zinc

/-
  Hs.Lemmas.ZincTotalScan — C03 (totality of the Zinc decoder): the scanner measure `Scan.mu`
  ("bytes not yet consumed, counting the current one while `eof` is false") and how every scanner
  primitive changes it.
-/
import Hs.Model.Scan
namespace Hs
namespace Scan

def mu (s : Scan) : Nat := s.remaining + (if s.eof then 0 else 1)

theorem mu_le_remaining (s : Scan) : s.mu ≤ s.remaining + 1 := by
  unfold mu; split <;> omega

theorem remaining_le_mu (s : Scan) : s.remaining ≤ s.mu := by
  unfold mu; omega

theorem mu_eof {s : Scan} (h : s.eof = true) : s.mu = s.remaining := by
  simp [mu, h]

theorem mu_not_eof {s : Scan} (h : s.eof = false) : s.mu = s.remaining + 1 := by
  simp [mu, h]

theorem mu_make (bs : List UInt8) : (Scan.make bs).mu = bs.length := by
  cases bs <;> simp [make, mu, remaining]

/-! ### `read` -/

theorem read_some {s s' : Scan} {b : UInt8} (h : s.read = (some b, s')) :
    s'.remaining + 1 = s.remaining ∧ s'.eof = s.eof ∧ s'.cur = b := by
  obtain ⟨cur, stash, lp, eof, inp, pos⟩ := s
  cases stash with
  | cons b' r =>
    simp only [read, Prod.mk.injEq, Option.some.injEq] at h
    obtain ⟨rfl, rfl⟩ := h
    simp [remaining]; omega
  | nil =>
    cases inp with
    | nil => simp [read, readByte] at h
    | cons b' r =>
      simp only [read, readByte, Prod.mk.injEq, Option.some.injEq] at h
      obtain ⟨rfl, rfl⟩ := h
      simp [remaining]

theorem read_none {s s' : Scan} (h : s.read = (none, s')) :
    s'.remaining = s.remaining ∧ s'.eof = true ∧ s'.cur = s.cur ∧ s.remaining = 0 := by
  obtain ⟨cur, stash, lp, eof, inp, pos⟩ := s
  cases stash with
  | cons b' r => simp [read] at h
  | nil =>
    cases inp with
    | nil =>
      simp only [read, readByte, Prod.mk.injEq, true_and] at h
      subst h
      simp [remaining]
    | cons b' r => simp [read, readByte] at h

theorem read_mu_some {s s' : Scan} {b : UInt8} (h : s.read = (some b, s')) : s'.mu < s.mu := by
  have := read_some h
  unfold mu; rw [this.2.1]; omega

theorem read_mu_none {s s' : Scan} (h : s.read = (none, s')) :
    s'.mu ≤ s.mu ∧ (s.eof = false → s'.mu < s.mu) ∧ s'.eof = true := by
  have := read_none h
  unfold mu; rw [this.2.1]
  refine ⟨by simp; omega, ?_, rfl⟩
  intro he; simp [he]; omega

theorem read_mu {s s' : Scan} {o : Option UInt8} (h : s.read = (o, s')) :
    s'.mu ≤ s.mu ∧ (s.eof = false → s'.mu < s.mu) := by
  cases o with
  | none => exact ⟨(read_mu_none h).1, (read_mu_none h).2.1⟩
  | some b => exact ⟨Nat.le_of_lt (read_mu_some h), fun _ => read_mu_some h⟩

theorem advance_mu (s : Scan) : s.advance.mu ≤ s.mu :=
  (read_mu (s := s) (o := s.read.1) (s' := s.read.2) rfl).1

theorem advance_mu_lt {s : Scan} (h : s.eof = false) : s.advance.mu < s.mu :=
  (read_mu (s := s) (o := s.read.1) (s' := s.read.2) rfl).2 h

theorem readQ_eof {s s' : Scan} (h : s.readQ = .ok s') : s'.eof = s.eof := by
  unfold readQ at h
  split at h
  · next b s1 hr => cases h; exact (read_some hr).2.1
  · cases h

/-! ### `peek` -/

/-- what a look-ahead that found a byte leaves alone -/
def Kept (s s' : Scan) : Prop := s'.remaining = s.remaining ∧ s'.eof = s.eof ∧ s'.cur = s.cur

theorem Kept.trans {s s' s'' : Scan} (h : Kept s s') (h' : Kept s' s'') : Kept s s'' :=
  ⟨h'.1.trans h.1, h'.2.1.trans h.2.1, h'.2.2.trans h.2.2⟩

theorem Kept.mu {s s' : Scan} (h : Kept s s') : s'.mu = s.mu := by
  unfold Scan.mu; rw [h.1, h.2.1]

theorem peek_some {s s' : Scan} {b : UInt8} (h : s.peek = (some b, s')) : Kept s s' := by
  obtain ⟨cur, stash, lp, eof, inp, pos⟩ := s
  cases inp with
  | nil => simp [peek, readByte] at h
  | cons b' r =>
    simp only [peek, readByte, Prod.mk.injEq, Option.some.injEq] at h
    obtain ⟨rfl, rfl⟩ := h
    simp [Kept, remaining]; omega

theorem peek_none {s s' : Scan} (h : s.peek = (none, s')) :
    s'.remaining = s.remaining ∧ s'.eof = true ∧ s'.cur = s.cur := by
  obtain ⟨cur, stash, lp, eof, inp, pos⟩ := s
  cases inp with
  | nil =>
    simp only [peek, readByte, Prod.mk.injEq, true_and] at h
    subst h
    simp [remaining]
  | cons b' r => simp [peek, readByte] at h

theorem peek_mu {s s' : Scan} {o : Option UInt8} (h : s.peek = (o, s')) : s'.mu ≤ s.mu := by
  cases o with
  | some b => exact Nat.le_of_eq (peek_some h).mu
  | none =>
    have := peek_none h
    unfold mu; rw [this.1, this.2.1]; simp

end Scan
end Hs

/-
  Hs.Lemmas.Tz — general lemmas for C06, lifting the kernel-checked table facts
  (`Hs.Lemmas.TzTables`) to statements about all names, offsets and instants.
-/
import Hs.Lemmas.TzTables
namespace Hs.Tz
open Hs Hs.Gen.Zones

/-! ### the search tree: `str::parse::<Tz>` -/

theorem find_mem : ∀ (t : ZTree) (q : Nat) (id : List Char), ZTree.find t q = some id → id ∈ ZTree.ids t := by
  intro t
  induction t with
  | leaf => intro q id h; simp [ZTree.find] at h
  | node l k i r ihl ihr =>
    intro q id h
    simp only [ZTree.find] at h
    simp only [ZTree.ids, List.mem_append, List.mem_cons]
    split at h
    · simp only [Option.some.injEq] at h; exact .inr (.inl h.symm)
    · split at h
      · exact .inl (ihl q id h)
      · exact .inr (.inr (ihr q id h))

theorem parseTz_some {n z : List Char} (h : parseTz n = some z) : z = n ∧ n ∈ zones := by
  unfold parseTz at h
  split at h
  · rename_i id hf
    split at h
    · rename_i he
      simp only [Option.some.injEq] at h
      subst h; subst he
      exact ⟨rfl, by rw [← tbl_tree_ids]; exact find_mem _ _ _ hf⟩
    · cases h
  · cases h

theorem find_of_ok : ∀ (t : ZTree) (lo : Nat) (hi : Option Nat), ZTree.ok t lo hi = true → ∀ id ∈ ZTree.ids t,
    (lo < key id ∧ ∀ h ∈ hi, key id < h) ∧ ZTree.find t (key id) = some id := by
  intro t
  induction t with
  | leaf => intro _ _ _ id h; simp [ZTree.ids] at h
  | node l k id' r ihl ihr =>
    intro lo hi hok id hid
    simp only [ZTree.ok, Bool.and_eq_true, beq_iff_eq, decide_eq_true_eq, Option.all_eq_true] at hok
    obtain ⟨⟨⟨⟨hk, hlo⟩, hhi⟩, hl⟩, hr⟩ := hok
    simp only [ZTree.ids, List.mem_append, List.mem_cons] at hid
    simp only [ZTree.find]
    rcases hid with h | rfl | h
    · obtain ⟨⟨h1, h2⟩, hf⟩ := ihl lo (some k) hl id h
      have hlt := h2 k rfl
      rw [if_neg (Nat.ne_of_lt hlt), if_pos hlt]
      exact ⟨⟨h1, fun h hh => Nat.lt_trans hlt (hhi h hh)⟩, hf⟩
    · rw [if_pos hk.symm]
      exact ⟨⟨hk ▸ hlo, fun h hh => hk ▸ hhi h hh⟩, rfl⟩
    · obtain ⟨⟨h1, h2⟩, hf⟩ := ihr k hi hr id h
      rw [if_neg (Nat.ne_of_gt h1), if_neg (Nat.lt_asymm h1)]
      exact ⟨⟨Nat.lt_trans hlo h1, h2⟩, hf⟩

theorem parseTz_of_mem {z : List Char} (h : z ∈ zones) : parseTz z = some z := by
  rw [← tbl_tree_ids] at h
  simp only [parseTz, (find_of_ok _ _ _ tbl_tree_ok z h).2, if_true]

theorem parseTz_mem {n z : List Char} (h : parseTz n = some z) : z ∈ zones :=
  (parseTz_some h).1 ▸ (parseTz_some h).2

theorem parseTz_iff (n : List Char) : parseTz n = some n ↔ n ∈ zones :=
  ⟨fun h => (parseTz_some h).2, parseTz_of_mem⟩

/-! ### `find_timezone`: ids and city names -/

theorem findPrefixed_mem {n z : List Char} : ∀ {ps : List (List Char)}, findPrefixed n ps = some z → z ∈ zones := by
  intro ps
  induction ps with
  | nil => intro h; simp [findPrefixed] at h
  | cons p ps ih =>
    intro h
    simp only [findPrefixed] at h
    split at h
    · rename_i w hw
      simp only [Option.some.injEq] at h
      exact h ▸ parseTz_mem hw
    · exact ih h

theorem findTimezone_mem {n z : List Char} (h : findTimezone n = some z) : z ∈ zones := by
  unfold findTimezone at h
  split at h
  · rename_i w hw
    simp only [Option.some.injEq] at h
    exact h ▸ parseTz_mem hw
  · exact findPrefixed_mem h

theorem findTimezone_of_mem {z : List Char} (h : z ∈ zones) : findTimezone z = some z := by
  simp [findTimezone, parseTz_of_mem h]

theorem afterSlash_none {s : List Char} (h : '/' ∉ s) : afterSlash s = none := by
  induction s with
  | nil => rfl
  | cons c cs ih =>
    simp only [List.mem_cons, not_or] at h
    simp only [afterSlash, if_neg (Ne.symm h.1), ih h.2]

theorem afterSlash_append {p : List Char} (s : List Char) (h : '/' ∉ p) : afterSlash (p ++ '/' :: s) = some s := by
  induction p with
  | nil => simp [afterSlash]
  | cons c cs ih =>
    simp only [List.mem_cons, not_or] at h
    simp only [List.cons_append, afterSlash, if_neg (Ne.symm h.1), ih h.2]

theorem findPrefixed_some {c p z : List Char} (hz : parseTz (p ++ '/' :: c) = some z) :
    ∀ {ps : List (List Char)}, p ∈ ps → ∃ q ∈ ps, findPrefixed c ps = some (q ++ '/' :: c) := by
  intro ps
  induction ps with
  | nil => intro h; cases h
  | cons q ps ih =>
    intro h
    simp only [findPrefixed]
    split
    · rename_i w hw
      exact ⟨q, List.mem_cons_self, by rw [(parseTz_some hw).1]⟩
    · rename_i hn
      rcases List.mem_cons.1 h with rfl | h
      · rw [hn] at hz; cases hz
      · obtain ⟨q', hq', e⟩ := ih h
        exact ⟨q', List.mem_cons_of_mem _ hq', e⟩

theorem city_resolves {p c : List Char} (hp : p ∈ prefixes) (hc : '/' ∉ c) (hz : p ++ '/' :: c ∈ zones) :
    ∃ w, findTimezone c = some w ∧ w ∈ zones ∧ shortName w = c := by
  unfold findTimezone shortName
  split
  · rename_i w hw
    obtain ⟨rfl, hm⟩ := parseTz_some hw
    exact ⟨w, rfl, hm, by rw [afterSlash_none hc]; rfl⟩
  · obtain ⟨q, hq, e⟩ := findPrefixed_some (parseTz_of_mem hz) hp
    have hq' : '/' ∉ q := by simpa using List.all_eq_true.1 tbl_prefixes q hq
    exact ⟨_, e, findPrefixed_mem e, by rw [afterSlash_append c hq']; rfl⟩

theorem short_resolves_some {z : List Char} (h : z ∈ zones) :
    ∃ w, findTimezone (shortName z) = some w ∧ w ∈ zones ∧ shortName w = shortName z := by
  have hz := List.all_eq_true.1 tbl_city_ok z h
  unfold cityOk at hz
  unfold shortName
  split at hz
  · rename_i hn
    exact ⟨z, by rw [hn]; exact findTimezone_of_mem h, h, rfl⟩
  · rename_i c hc
    rw [hc, Option.getD_some]
    rcases Bool.or_eq_true _ _ ▸ hz with hz | hz
    · simp only [Bool.and_eq_true, Bool.not_eq_true', ← Bool.not_eq_true, List.contains_iff_mem, List.any_eq_true,
        beq_iff_eq] at hz
      obtain ⟨hslash, p, hp, rfl⟩ := hz
      exact city_resolves hp hslash h
    · split at hz
      · rename_i w hw
        exact ⟨w, hw, findTimezone_mem hw, by simpa [shortName] using hz⟩
      · cases hz

theorem short_resolves {z : List Char} (h : z ∈ zones) (hu : Unambiguous z) :
    findTimezone (shortName z) = some z := by
  obtain ⟨w, hw, hm, hs⟩ := short_resolves_some h
  rw [hw, hu w hm hs]

theorem short_lexable {z : List Char} (h : z ∈ zones) : lexable (shortName z) = true :=
  List.all_eq_true.1 tbl_short_lexable z h

theorem short_ne_utc {z : List Char} (hu : Unambiguous z) (hne : z ≠ utcName) : shortName z ≠ utcName := by
  intro h
  exact hne (hu utcName tbl_utc.1 (by rw [tbl_utc.2, h])).symm

/-- the city name `UTC` is shared (`tbl_utc_alias`), so a zone with an unambiguous city name is not `UTC` -/
theorem unambiguous_ne_utc {z : List Char} (hu : Unambiguous z) : z ≠ utcName := by
  rintro rfl
  obtain ⟨w, hw, hs, hne⟩ := tbl_utc_alias
  exact hne (hu w hw (hs.trans tbl_utc.2.symm))

/-! ### rounding to the minute -/

theorem roundMin_nonneg {o : Int} (h : 0 ≤ o) : roundMin o = (o + 30) / 60 * 60 := by
  unfold roundMin
  rcases Int.lt_or_eq_of_le h with hp | rfl
  · rw [Int.sign_eq_one_of_pos hp, Int.natAbs_of_nonneg h, Int.one_mul]
  · simp

theorem roundMin_neg {o : Int} (h : o < 0) : roundMin o = -((-o + 30) / 60 * 60) := by
  unfold roundMin
  have : ((o.natAbs : Nat) : Int) = -o := by omega
  rw [Int.sign_eq_neg_one_of_neg h, this]
  omega

theorem roundMin_of_whole {o : Int} (h : o % 60 = 0) : roundMin o = o := by
  by_cases hn : o < 0
  · rw [roundMin_neg hn]; omega
  · rw [roundMin_nonneg (by omega)]; omega

theorem roundMin_bounds (o : Int) : roundMin o % 60 = 0 ∧ -30 ≤ o - roundMin o ∧ o - roundMin o ≤ 30 ∧
    (0 ≤ o → 0 ≤ roundMin o) ∧ (o ≤ 0 → roundMin o ≤ 0) := by
  by_cases hn : o < 0
  · rw [roundMin_neg hn]; omega
  · rw [roundMin_nonneg (by omega)]; omega

/-- the reader's sign and magnitude of an offset text, put together again -/
theorem signed_roundMin (o : Int) :
    (if decide (0 < o) = true then (((o.natAbs + 30) / 60 * 60 : Nat) : Int) else -(((o.natAbs + 30) / 60 * 60 : Nat) : Int))
      = roundMin o := by
  by_cases hn : o < 0
  · rw [roundMin_neg hn, if_neg (by simpa using Int.le_of_lt hn)]; omega
  · rw [roundMin_nonneg (by omega)]
    by_cases hp : 0 < o
    · rw [if_pos (by simpa using hp)]; omega
    · rw [if_neg (by simpa using hp)]; omega

/-! ### offset texts: digits, chrono's RFC 3339 offset against the reader's parser -/

theorem digitVal_digit : ∀ n, n < 10 → digitVal (digit n) = some n := by decide

theorem d2_parse (n : Nat) (h : n < 100) :
    ∃ a b, d2 n = [digit a, digit b] ∧ digitVal (digit a) = some a ∧ digitVal (digit b) = some b ∧ a * 10 + b = n := by
  refine ⟨n / 10 % 10, n % 10, rfl, digitVal_digit _ (Nat.mod_lt _ (by decide)), digitVal_digit _ (Nat.mod_lt _ (by decide)), ?_⟩
  omega

theorem digit_ne_colon (n : Nat) : digit n ≠ ':' := by unfold digit; split <;> decide

theorem digit_ne_zero {n : Nat} (h : n ≠ 0) : digit n ≠ '0' := by
  unfold digit; split <;> first | decide | exact absurd rfl h

theorem d2_any {n : Nat} (h0 : n ≠ 0) (h : n < 100) : (d2 n).any (fun c => c != ':' && c != '0') = true := by
  have : n / 10 % 10 ≠ 0 ∨ n % 10 ≠ 0 := by omega
  simp only [d2, List.any_cons, List.any_nil, Bool.or_false, Bool.or_eq_true, Bool.and_eq_true, bne_iff_ne, ne_eq]
  exact this.imp (fun h => ⟨digit_ne_colon _, digit_ne_zero h⟩) (fun h => ⟨digit_ne_colon _, digit_ne_zero h⟩)

theorem parseOffTxt_rfcOffsetText (off : Int) (hlt : (off.natAbs + 30) / 60 < 1440) (hne : off ≠ 0) :
    parseOffTxt (rfcOffsetText off) = some (.fixed (decide (0 < off)) ((off.natAbs + 30) / 60 * 60)) := by
  obtain ⟨a, b, e1, ha', hb', hab⟩ := d2_parse ((off.natAbs + 30) / 60 / 60) (by omega)
  obtain ⟨x, y, e2, hx', hy', hxy⟩ := d2_parse ((off.natAbs + 30) / 60 % 60) (by omega)
  have hdur : (a * 10 + b) * 3600 + (x * 10 + y) * 60 = (off.natAbs + 30) / 60 * 60 := by rw [hab, hxy]; omega
  simp only [rfcOffsetText, hne, if_false, minuteOffsetText, e1, e2, List.cons_append, List.nil_append]
  by_cases hneg : off < 0
  · have : ¬ (0 < off) := by omega
    simp [parseOffTxt, hneg, ha', hb', hx', hy', hdur, this]
  · have : 0 < off := by omega
    simp [parseOffTxt, hneg, ha', hb', hx', hy', hdur, this]

/-! ### `make_date_time_from_text` -/

theorem fromText_of_whole (db : TzDb) (secs : Int) (ns : Nat) (written : Int) (name z : List Char)
    (hres : findTimezone name = some z) (h60 : db.offsetAt z secs % 60 = 0) :
    makeDateTimeFromText db secs ns written name = .ok ⟨secs, ns, z⟩ := by
  have hr := roundMin_of_whole h60
  simp [makeDateTimeFromText, makeDateTimeWithTz, hres, DT.offset, hr]

/-- the text of the instant `secs` in a zone whose offset `o` there has seconds carries the exact wall-clock time
`secs + o` and the rounded offset; when the zone's offset is `o` as well at the instant the text seems to denote,
`o − rounded o` seconds away, the reader returns `secs` -/
theorem fromText_exact (db : TzDb) (secs : Int) (ns : Nat) (name z : List Char)
    (hres : findTimezone name = some z)
    (hst : db.offsetAt z (secs + (db.offsetAt z secs - roundMin (db.offsetAt z secs))) = db.offsetAt z secs) :
    makeDateTimeFromText db (secs + db.offsetAt z secs - roundMin (db.offsetAt z secs)) ns
      (roundMin (db.offsetAt z secs)) name = .ok ⟨secs, ns, z⟩ := by
  generalize ho : db.offsetAt z secs = o at hst
  rw [show secs + o - roundMin o = secs + (o - roundMin o) by omega]
  have hback : secs + (o - roundMin o) - (o - roundMin o) = secs := by omega
  by_cases he : o - roundMin o = 0
  · simp [makeDateTimeFromText, makeDateTimeWithTz, hres, DT.offset, he, ho]
  · simp [makeDateTimeFromText, makeDateTimeWithTz, hres, DT.offset, hst, he, hback, ho]

/-! ### the zone `make_date_time` derives from an offset -/

def OffsetOk (off : Int) : Prop := off % 60 = 0 ∧ -43200 ≤ off ∧ off ≤ 50400

/-- whole minutes below 24 h and, when whole hours, −12 h … +14 h: more than `make_date_time` asks for, which is
the last clause alone (`rfcZone_eq`) -/
def RfcOk (off : Int) : Prop := off % 60 = 0 ∧ off.natAbs < 86400 ∧ (off % 3600 = 0 → -43200 ≤ off ∧ off ≤ 50400)

theorem RfcOk_of_OffsetOk {off : Int} (h : OffsetOk off) : RfcOk off := ⟨h.1, by have := h.2; omega, fun _ => h.2⟩

theorem rfcZone_hours {n : Int} (h : n ∈ etcHours) : rfcZone (n * 3600) = .ok (etcName n) := by
  have := List.all_eq_true.1 tbl_rfc_hours n h
  simpa using this

theorem fixedTimezone_tail {s a b : Char} {rest : List Char} (hs : s ≠ ':') (ha : a ≠ ':') (hb : b ≠ ':')
    (hr : rest.any (fun c => c != ':' && c != '0') = true) :
    fixedTimezone (s :: a :: b :: ':' :: rest) = .ok utcName := by
  have hc : findColon (s :: a :: b :: ':' :: rest) = some 3 := by simp [findColon, hs, ha, hb]
  have hst : ¬ (3 < hourStart) := by decide
  simp [fixedTimezone, hc, hst, hr]

/-- the Display text of an offset that is not whole hours has a minute or second digit other than `0` -/
theorem fixedTimezone_minutes (off : Int) (h : off.natAbs % 3600 ≠ 0) :
    fixedTimezone (offsetText off) = .ok utcName := by
  refine fixedTimezone_tail (rest := d2 (off.natAbs % 3600 / 60) ++ _) (by split <;> decide)
    (digit_ne_colon _) (digit_ne_colon _) ?_
  rw [List.any_append, Bool.or_eq_true]
  by_cases hm : off.natAbs % 3600 / 60 = 0
  · have hs : off.natAbs % 60 ≠ 0 := by omega
    rw [if_neg hs, List.any_cons, d2_any hs (by omega), Bool.or_true]
    exact .inr rfl
  · exact .inl (d2_any hm (by omega))

theorem rfcZone_minutes (off : Int) (h : off % 3600 ≠ 0) : rfcZone off = .ok utcName := by
  have : off.natAbs % 3600 ≠ 0 := by omega
  simp only [rfcZone, fixedTimezone_minutes off this, findTimezone_of_mem tbl_utc.1]

theorem rfcZone_eq (off : Int) (h : off % 3600 = 0 → -43200 ≤ off ∧ off ≤ 50400) :
    rfcZone off = .ok (if off % 3600 = 0 then etcName (off / 3600) else utcName) := by
  by_cases hw : off % 3600 = 0
  · rw [if_pos hw]
    obtain ⟨hlo, hhi⟩ := h hw
    have := rfcZone_hours (mem_etcHours (n := off / 3600) (by omega) (by omega))
    rwa [show off / 3600 * 3600 = off by omega] at this
  · rw [if_neg hw]
    exact rfcZone_minutes off hw

/-! ### what the readers do with the fields of a text -/

theorem zincDec_offset (db : TzDb) (loc : Int) (ns : Nat) {off : Int} {n : List Char} (h0 : off ≠ 0)
    (hr : off.natAbs < 86370) (hl : lexable n = true) (hn : n ≠ utcName) :
    zincDec db ⟨loc, ns, rfcOffsetText off, some n⟩ = makeDateTimeFromText db (loc - roundMin off) ns (roundMin off) n := by
  have hlt : (off.natAbs + 30) / 60 * 60 < 86400 := by omega
  simp only [zincDec, parseOffTxt_rfcOffsetText off (by omega) h0, hl, hn, hlt, if_true, if_false]
  rw [← signed_roundMin off]
  by_cases hp : 0 < off <;> simp [hp]

theorem jsonDec_tz (db : TzDb) (loc : Int) (ns : Nat) {w : Int} (n : List Char)
    (hw : w % 3600 = 0 → -43200 ≤ w ∧ w ≤ 50400) :
    jsonDec db ⟨loc, ns, w, some n⟩ = makeDateTimeFromText db (loc - w) ns w n := by
  simp only [jsonDec, makeDateTime, rfcZone_eq w hw]

end Hs.Tz

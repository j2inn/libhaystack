/-
  Hs.Lemmas.HaysonDenotesDict — the side conditions of `Denotes` on dicts (tags in ascending key order) do not
  exclude any document: every JSON object with pairwise distinct member names, none of them `_kind`, whose
  member values are Hayson documents, is a Hayson document of a dict (its tags sorted by name).
-/
import Hs.Spec.HaysonDenote
import Hs.Lemmas.HaysonOrd
namespace Hs.Spec.Hayson
open Hs Hs.Hayson

theorem denotesM_exists : ∀ tm : Mems, (∀ p ∈ tm, ∃ w, Denotes w p.2) →
    ∃ t : Tags, DenotesM t tm ∧ t.keys = tm.map (·.1)
  | [], _ => ⟨.nil, .nil, rfl⟩
  | (k, j) :: tm, h => by
    obtain ⟨w, hw⟩ := h (k, j) (by simp)
    obtain ⟨t, ht, hk⟩ := denotesM_exists tm (fun p hp => h p (List.mem_cons_of_mem _ hp))
    exact ⟨.cons k w t, .cons hw ht, by simp [Tags.keys, hk]⟩

theorem denotes_dict_exists (ms : Members) (hd : (ms.toList.map (·.1)).Nodup)
    (hk : ∀ p ∈ ms.toList, p.1 ≠ s "_kind") (hv : ∀ p ∈ ms.toList, ∃ w, Denotes w p.2) :
    ∃ t : Tags, Denotes (.dict t) (.obj ms) := by
  -- the dict's tags are the members sorted by name (`mergeSort` by `≤`): strictly ascending, the names being distinct
  let le : List Char × Json → List Char × Json → Bool := fun a b => leChars a.1 b.1
  have hperm : (ms.toList.mergeSort le).Perm ms.toList := List.mergeSort_perm _ _
  have hsorted : (ms.toList.mergeSort le).Pairwise (fun a b => le a b = true) :=
    List.pairwise_mergeSort (fun a b c h1 h2 => by simp only [le, leChars_iff] at *; exact List.le_trans h1 h2)
      (fun a b => by
        rcases List.le_total a.1 b.1 with h | h <;> simp [le, leChars_iff, h]) _
  have hnd : ((ms.toList.mergeSort le).map (·.1)).Nodup := (hperm.map (·.1)).nodup_iff.mpr hd
  obtain ⟨t, ht, hkeys⟩ := denotesM_exists (ms.toList.mergeSort le)
    (fun p hp => hv p (hperm.mem_iff.mp hp))
  refine ⟨t, .dict (.mk ht ⟨?_, ?_⟩ .absent (by simpa using hperm.symm))⟩
  · rw [strictSorted_iff, hkeys, Key.Asc, List.pairwise_map]
    have hne : (ms.toList.mergeSort le).Pairwise (fun a b => a.1 ≠ b.1) := by
      rw [← List.pairwise_map (f := fun p : List Char × Json => p.1) (R := fun a b => a ≠ b)]
      exact hnd
    refine (hsorted.and hne).imp ?_
    intro a b h
    exact Key.le_and_ne.mp ⟨(leChars_iff _ _).mp h.1, h.2⟩
  · intro k hk'
    rw [hkeys] at hk'
    obtain ⟨p, hp, e⟩ := List.mem_map.mp hk'
    subst e
    exact hk p (hperm.mem_iff.mp hp)

end Hs.Spec.Hayson

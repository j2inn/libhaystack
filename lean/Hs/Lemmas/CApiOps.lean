/-
  One equation per function for `cstep` where the refinement theorems of C17 call it — the container and length entry
  points on a live handle of the right kind, kind tests and getters, the time and date constructors under their validity
  hypothesis, the codec entry points and `filter_match_dict`, `last_error_message` — so that C17 unfolds `cexec` only
  by `rfl`, for the other constructors on literal `.ok` arguments; and `SeenAt`, the outcome of a call as seen at one
  handle.
-/
import Hs.Lemmas.CApiSeq
import Hs.Lemmas.CApiStep
namespace Hs.CApi
open Hs

variable {s : CState} {h : Nat}

theorem pget_write_same {w : Val} (v : Val) (hl : pget s.pool h = some w) : pget (s.write h v).pool h = some v :=
  pget_pset_same _ _ _ (Option.isSome_of_eq_some hl)

theorem pget_alloc (v : Val) : pget (s.alloc v).1.pool s.next = some v := pget_cons_same _ _ _

def SeenAt {ρ : Type} (s : CState) (h : Nat) (p : CState × ρ) (v : Val) (r : ρ) : Prop :=
  pget p.1.pool h = some v ∧ p.2 = r ∧ AgreeOff h p.1 s

theorem SeenAt.here {ρ : Type} {p : CState × ρ} {v : Val} {r : ρ} (hp : SeenAt s h p v r) :
    pget p.1.pool h = some v := hp.1

theorem SeenAt.answer {ρ : Type} {p : CState × ρ} {v : Val} {r : ρ} (hp : SeenAt s h p v r) : p.2 = r := hp.2.1

theorem SeenAt.off {ρ : Type} {p : CState × ρ} {v : Val} {r : ρ} (hp : SeenAt s h p v r) :
    ∀ h', h' ≠ h → pget p.1.pool h' = pget s.pool h' := hp.2.2

theorem SeenAt.agree {ρ : Type} {s0 : CState} {p : CState × ρ} {v : Val} {r : ρ} (h0 : AgreeOff h s0 s)
    (hp : SeenAt s h p v r) : AgreeOff h s0 p.1 :=
  fun h' hne => (h0 h' hne).trans (hp.off h' hne).symm

theorem SeenAt.keep {ρ : Type} {v : Val} (hh : pget s.pool h = some v) (r : ρ) : SeenAt s h (s, r) v r :=
  ⟨hh, rfl, fun _ _ => rfl⟩

/-- a call seen at `h`, then the rest of a history seen at `h` from the state the call left -/
theorem SeenAt.crun_cons {op : COp} {ops : List COp} {v w : Val} {r : CRes} {rs : List CRes}
    (h1 : SeenAt s h (cstep s op) v r) (h2 : SeenAt (cstep s op).1 h (crun (cstep s op).1 ops) w rs) :
    SeenAt s h (crun s (op :: ops)) w (r :: rs) :=
  ⟨h2.here, by rw [← h1.answer, ← h2.answer]; rfl, fun h' hne => (h2.off h' hne).trans (h1.off h' hne)⟩

theorem SeenAt.failed {v : Val} (hh : pget s.pool h = some v) (e : CErr) (sen : Sentinel) :
    SeenAt s h (s.failed e sen) v (.fail sen) := ⟨hh, rfl, fun _ _ => rfl⟩

theorem SeenAt.write {v : Val} (hh : pget s.pool h = some v) (w : Val) (r : CRes) :
    SeenAt s h (s.write h w, r) w r :=
  ⟨pget_write_same w hh, rfl, fun _ => pget_pset_other _ _ _ _⟩

theorem cstep_isKind {p : Ptr} {v : Val} (hv : s.val? p = some v) (k : Kind) :
    cstep s (.isKind k p) = (s, .ok (.bool (k.test v))) := by simp only [cstep, cexec, hv]

theorem cstep_get {p : Ptr} {v : Val} {g : Getter} {r : GVal} (hv : s.val? p = some v) (hr : g.read v = some r) :
    (cstep s (.get g p)).2 = match (generalizing := false) r with
      | .f64 x => .ok (.f64 x) | .usize n => .ok (.usize n) | .u32 n => .ok (.u32 n) | .result b => .ok (.result b)
      | .text none => .ok .noStr
      | .text (some t) => if hasNul t then .fail g.sentinel else .ok (.cstr t) := by
  simp only [cstep, cexec, hv, hr]
  rcases r with x | n | n | b | _ | t
  iterate 5 rfl
  cases hn : hasNul t <;> simp only [hn, if_true, if_false, Bool.false_eq_true]

theorem cstep_get_usize {p : Ptr} {v : Val} {g : Getter} {n : Nat} (hv : s.val? p = some v)
    (hr : g.read v = some (.usize n)) : cstep s (.get g p) = (s, .ok (.usize n)) := by
  simp only [cstep, cexec, hv, hr]

section list
variable {xs : Vals} (hv : s.val? (some h) = some (.list xs))
include hv

theorem cstep_lpush (e : Ptr) :
    cstep s (.lpush (some h) e) = match s.val? e with
      | some v => (s.write h (.list (vPush xs v)), .ok (.result true))
      | none => s.failed .badRef .err := by
  simp only [cstep, cexec, hv]; cases s.val? e <;> rfl

theorem cstep_lget (i : Nat) :
    cstep s (.lget (some h) i true) = match vGet? xs i with
      | some v => (s, .ok (.borrow v))
      | none => s.failed .bounds .err := by
  simp only [cstep, cexec, hv]; cases vGet? xs i <;> rfl

theorem cstep_lset (i : Nat) (e : Ptr) :
    cstep s (.lset (some h) i e) =
      if i < xs.length then
        match s.val? e with
        | some v => (s.write h (.list (vSet xs i v)), .ok (.result true))
        | none => s.failed .badRef .err
      else s.failed .bounds .err := by
  by_cases hi : i < xs.length <;> simp only [cstep, cexec, hv, hi, if_true, if_false]
  cases s.val? e <;> rfl

theorem cstep_lrem (i : Nat) :
    cstep s (.lrem (some h) i) =
      if i < xs.length then (s.write h (.list (vRemoveAt xs i)), .ok (.result true)) else s.failed .bounds .err := by
  by_cases hi : i < xs.length <;> simp only [cstep, cexec, hv, hi, if_true, if_false]

end list

section dict
variable {t : Tags} (hv : s.val? (some h) = some (.dict t))
include hv

theorem cstep_dins (key : CStr) (e : Ptr) :
    cstep s (.dins (some h) key e) = match key with
      | .ok k =>
        match s.val? e with
        | some v => (s.write h (.dict (tInsert t k v)), .ok (.result true))
        | none => s.failed (if e.isNone then .nullArg else .badRef) .err
      | .bad => s.failed (if e.isNone then .nullArg else .badText) .err
      | .null => s.failed .nullArg .err := by
  have hn : s.val? none = none := rfl
  cases key <;> cases e <;> simp only [cstep, cexec, hv, hn, CStr.isNull, CStr.text, Option.isNone, Bool.or_true,
    Bool.or_false, Bool.or_self, if_true, if_false, Bool.false_eq_true]
  rename_i k e; cases s.val? (some e) <;> rfl

theorem cstep_dget (key : CStr) :
    cstep s (.dget (some h) key true) = match key with
      | .ok k => (s, match t.get? k with | some v => .ok (.borrow v) | none => .ok (.result false))
      | .bad => s.failed .badText .err
      | .null => s.failed .nullArg .err := by
  cases key <;> simp only [cstep, cexec, hv, CStr.isNull, CStr.text, Option.isNone, Bool.or_true, Bool.not_true,
    Bool.or_false, Bool.or_self, if_true, if_false, Bool.false_eq_true]
  rename_i k; cases t.get? k <;> rfl

theorem cstep_drem (key : CStr) :
    cstep s (.drem (some h) key) = match key with
      | .ok k => (s.write h (.dict (tRemove t k)), .ok (.result true))
      | .bad => s.failed .badText .err
      | .null => s.failed .nullArg .err := by
  cases key <;> simp only [cstep, cexec, hv, CStr.isNull, CStr.text, Option.isNone, Bool.or_true, Bool.or_self,
    if_true, if_false, Bool.false_eq_true]

theorem cstep_dkeys {r : Nat} {v : Val} (hr : s.val? (some r) = some v) :
    cstep s (.dkeys (some h) (some r)) = (s.write r (.list (keysList t)), .ok (.result true)) := by
  simp only [cstep, cexec, hv, hr]

end dict

theorem cstep_gfrom {xs : Vals} (hv : s.val? (some h) = some (.list xs)) (hne : dictsOf xs ≠ []) :
    cstep s (.gfrom (some h)) = ((s.alloc (gridFromDicts (dictsOf xs) .none)).1, .ok (.handle s.next)) := by
  simp only [cstep, cexec, gridFromRows, hv]
  cases hd : dictsOf xs with
  | nil => exact absurd hd hne
  | cons r rs => rfl

theorem cstep_grow {g r : Nat} {md : OTags} {cols : Cols} {rows : Rows} {ver : List Char} {v : Val}
    (hg : s.val? (some g) = some (.grid md cols rows ver)) (hr : s.val? (some r) = some v) (i : Nat) :
    cstep s (.grow (some g) i (some r)) = match rGet? rows i with
      | some row => (s.write r (.dict row), .ok (.result true))
      | none => s.failed .bounds .err := by
  simp only [cstep, cexec, hg, hr]; cases rGet? rows i <;> rfl

theorem cexec_mkTime {h m sec : Nat} (hok : timeOk h m sec 0 = true) :
    cexec s (.mkTime h m sec) = .ok (s.alloc (mkTimeVal h m sec 0)) := by simp only [cexec, hok, if_true]

theorem cexec_mkTimeMs {h m sec ms : Nat} (hlt : 1000000 * ms < 4294967296) (hok : timeOk h m sec (1000000 * ms) = true) :
    cexec s (.mkTimeMs h m sec ms) = .ok (s.alloc (mkTimeVal h m sec (1000000 * ms))) := by
  simp only [cexec, if_neg (Nat.not_le.mpr hlt), hok, if_true]

theorem cexec_mkDate {y m d : Nat} (hok : dateOk y m d = true) :
    cexec s (.mkDate y m d) = .ok (s.alloc (mkDateVal y m d)) := by
  simp only [cexec, decide_eq_true (Int.natCast_nonneg y), hok, Bool.and_self, if_true]

/-! ### codecs and filters: the library's answer `ext` is passed through after the pointer and text checks -/

section codec
variable {k : Nat} {v : Val} (hv : s.val? (some k) = some v)
include hv

theorem cstep_toZinc (ext : Option (List Char)) :
    cstep s (.toZinc (some k) ext) = match ext with
      | some t => (s, .ok (.cstr t))
      | none => s.failed .ext .null := by
  simp only [cstep, cexec, hv]; cases ext <;> rfl

theorem cstep_toJson (ext : Option (List Char)) :
    cstep s (.toJson (some k) ext) = match ext with
      | some t => (s, .ok (.cstr t))
      | none => s.failed .ext .null := by
  simp only [cstep, cexec, hv]; cases ext <;> rfl

end codec

theorem cstep_fromZinc (txt : List Char) (ext : Option Val) :
    cstep s (.fromZinc (.ok txt) ext) = match ext with
      | some w => ((s.alloc w).1, .ok (.handle s.next))
      | none => s.failed .ext .null := by
  simp only [cstep, cexec, CStr.text]; cases ext <;> rfl

theorem cstep_fromJson (txt : List Char) (ext : Option Val) :
    cstep s (.fromJson (.ok txt) ext) = match ext with
      | some w => ((s.alloc w).1, .ok (.handle s.next))
      | none => s.failed .ext .null := by
  simp only [cstep, cexec, CStr.text]; cases ext <;> rfl

theorem cstep_fmatch {f k : Nat} {src : List Char} {t : Tags} (hf : pget s.fpool f = some src)
    (hv : s.val? (some k) = some (.dict t)) (b : Bool) :
    cstep s (.fmatch (some f) (some k) b) = (s, .ok (.result b)) := by
  simp [cstep, cexec, hv, CState.flt?, hf]

theorem cstep_takeErr :
    cstep s .takeErr = match s.lastErr with
      | some _ => ({ s with lastErr := none }, .ok .errMsg)
      | none => (s, .ok .noStr) := by
  simp only [cstep, cexec]; cases s.lastErr <;> rfl

end Hs.CApi

/-
  C11, decoder image invariant: vocabulary.  `decV v` is the shape every value RETURNED by the Zinc reader has, whatever
  the text (proved with the statements about the readers: `lexRead_sat`, `parserSpecs`); `excluded v` the shapes the
  reader can return on which re-encoding is NOT stable (each with a kernel-checked witness text in `Hs.Thm.C11`);
  `image_good` (`ZincImageWf`) gets from `decV v`, `lexLeavesOk v`, not `excluded v` the hypotheses `GoodVG (asRead v)` of
  C01's round trip (column names possibly repeated) and `lexImg (asRead v) = v`.
  Last, `dictOf` on ANY entry list and the Boolean predicates on `Tags` from statements about the entries.
-/
import Hs.Lemmas.ZincWf
namespace Hs.Zinc
open Hs Hs.Scan

/-! ### values without lexical leaves -/

mutual
def structV : Val → Bool
  | .null => true | .remove => true | .marker => true | .na => true | .bool _ => true
  | .str _ => true | .uri _ => true | .ref _ _ => true | .sym _ => true | .xstr _ _ => true
  | .list xs => structVs xs
  | .dict d => structT d
  | .grid md cols rows _ => structO md && structC cols && structR rows
  | .num _ => false | .date _ => false | .time _ => false | .dateTime _ => false | .coord _ _ => false
def structVs : Vals → Bool
  | .nil => true
  | .cons v vs => structV v && structVs vs
def structT : Tags → Bool
  | .nil => true
  | .cons _ v t => structV v && structT t
def structO : OTags → Bool
  | .none => true
  | .some t => structT t
def structC : Cols → Bool
  | .nil => true
  | .cons _ md c => structO md && structC c
def structR : Rows → Bool
  | .nil => true
  | .cons r rs => structT r && structR rs
end

/-! ### the shape of the reader's values -/

def rowDec (names : List (List Char)) (r : Tags) : Bool :=
  keysSorted r.keys && r.keys.all (fun k => names.contains k)
def rowsDec (names : List (List Char)) : Rows → Bool
  | .nil => true
  | .cons r rs => rowDec names r && rowsDec names rs

def rowFull (names : List (List Char)) (r : Tags) : Bool := names.all (fun n => (r.get? n).isSome)
def rowsFull (names : List (List Char)) : Rows → Bool
  | .nil => true
  | .cons r rs => rowFull names r && rowsFull names rs

def colsNE : Cols → Bool
  | .nil => false
  | _ => true

mutual
def decV : Val → Bool
  | .null => true | .remove => true | .marker => true | .na => true | .bool _ => true
  | .str _ => true | .uri _ => true
  | .ref id _ => isRefId id
  | .sym s => isSymBody s
  | .xstr ty _ => isXStrType ty
  | .num n => decide (lexNumI n = n)
  | .date d => dateOk d
  | .time _ => true
  | .dateTime t => t.secs == 0 && t.ns == 0 && t.off == 0 && t.zone == [] && t.tzid == []
  | .coord a b => a.bits == lexBits && b.bits == lexBits && decTextOk a.txt && decTextOk b.txt
  | .list xs => decVs xs
  | .dict d => keysIdent d && keysSorted d.keys && decT d
  | .grid md cols rows _ =>
    metaShape md && colsNE cols && colsShapeAux cols && rowsDec cols.names rows && decO md && decC cols && decR rows
def decVs : Vals → Bool
  | .nil => true
  | .cons v vs => decV v && decVs vs
def decT : Tags → Bool
  | .nil => true
  | .cons _ v t => decV v && decT t
def decO : OTags → Bool
  | .none => true
  | .some t => decT t
def decC : Cols → Bool
  | .nil => true
  | .cons _ md c => decO md && decC c
def decR : Rows → Bool
  | .nil => true
  | .cons r rs => decT r && decR rs
end

theorem decV_grid_iff {md : OTags} {cols : Cols} {rows : Rows} {ver : List Char} :
    decV (.grid md cols rows ver) = true ↔
      metaShape md = true ∧ colsNE cols = true ∧ colsShapeAux cols = true ∧ rowsDec cols.names rows = true ∧
        decO md = true ∧ decC cols = true ∧ decR rows = true := by
  simp only [decV, Bool.and_eq_true, and_assoc]

/-! ### the exclusion list -/

mutual
def anyGrid (P : OTags → Cols → Rows → List Char → Bool) : Val → Bool
  | .list xs => anyGridVs P xs
  | .dict d => anyGridT P d
  | .grid md cols rows ver => P md cols rows ver || anyGridO P md || anyGridC P cols || anyGridR P rows
  | _ => false
def anyGridVs (P : OTags → Cols → Rows → List Char → Bool) : Vals → Bool
  | .nil => false
  | .cons v vs => anyGrid P v || anyGridVs P vs
def anyGridT (P : OTags → Cols → Rows → List Char → Bool) : Tags → Bool
  | .nil => false
  | .cons _ v t => anyGrid P v || anyGridT P t
def anyGridO (P : OTags → Cols → Rows → List Char → Bool) : OTags → Bool
  | .none => false
  | .some t => anyGridT P t
def anyGridC (P : OTags → Cols → Rows → List Char → Bool) : Cols → Bool
  | .nil => false
  | .cons _ md c => anyGridO P md || anyGridC P c
def anyGridR (P : OTags → Cols → Rows → List Char → Bool) : Rows → Bool
  | .nil => false
  | .cons r rs => anyGridT P r || anyGridR P rs
end

def exVer (ver : List Char) : Bool := ver != ['3', '.', '0']
def exZ4 (cols : Cols) (rows : Rows) : Bool := cols.length == 1 && !rowsFull cols.names rows
def exDup (cols : Cols) : Bool := !nodupB cols.names

def hasVer (v : Val) : Bool := anyGrid (fun _ _ _ ver => exVer ver) v
def hasZ4 (v : Val) : Bool := anyGrid (fun _ cols rows _ => exZ4 cols rows) v
/-- `v` contains a grid with two columns of the same name (NOT an exclusion: C01's grid ladder does not ask
for distinct names, see `ZincImageDup`) -/
def dupCols (v : Val) : Bool := anyGrid (fun _ cols _ _ => exDup cols) v

/-- **the exclusion list**: the two shapes the reader can return on which one re-encode changes the model's value.
`hasZ4` is known finding Z4.  `hasVer` is not a defect: `ver` is the format version of the document, not a component
of the value in the property's sense; the writer always writes 3.0, the model's `Val` carries the string, so the
literal statement needs the exclusion (witness `Hs.C11.verText`). -/
def excluded (v : Val) : Bool := hasVer v || hasZ4 v

def badNode (_md : OTags) (cols : Cols) (rows : Rows) (ver : List Char) : Bool :=
  exVer ver || exZ4 cols rows

mutual
theorem anyGrid_or (P Q : OTags → Cols → Rows → List Char → Bool) :
    ∀ v : Val, anyGrid (fun a b c d => P a b c d || Q a b c d) v = (anyGrid P v || anyGrid Q v)
  | .list xs => anyGridVs_or P Q xs
  | .dict d => anyGridT_or P Q d
  | .grid md cols rows ver => by
    simp only [anyGrid, anyGridO_or P Q md, anyGridC_or P Q cols, anyGridR_or P Q rows]
    ac_rfl
  | .null | .remove | .marker | .na | .bool _ | .num _ | .str _ | .uri _ | .ref _ _ | .sym _ | .date _ | .time _
  | .dateTime _ | .coord _ _ | .xstr _ _ => rfl
theorem anyGridVs_or (P Q : OTags → Cols → Rows → List Char → Bool) :
    ∀ xs : Vals, anyGridVs (fun a b c d => P a b c d || Q a b c d) xs = (anyGridVs P xs || anyGridVs Q xs)
  | .nil => rfl
  | .cons v vs => by
    simp only [anyGridVs, anyGrid_or P Q v, anyGridVs_or P Q vs]
    ac_rfl
theorem anyGridT_or (P Q : OTags → Cols → Rows → List Char → Bool) :
    ∀ t : Tags, anyGridT (fun a b c d => P a b c d || Q a b c d) t = (anyGridT P t || anyGridT Q t)
  | .nil => rfl
  | .cons _ v t => by
    simp only [anyGridT, anyGrid_or P Q v, anyGridT_or P Q t]
    ac_rfl
theorem anyGridO_or (P Q : OTags → Cols → Rows → List Char → Bool) :
    ∀ o : OTags, anyGridO (fun a b c d => P a b c d || Q a b c d) o = (anyGridO P o || anyGridO Q o)
  | .none => rfl
  | .some t => anyGridT_or P Q t
theorem anyGridC_or (P Q : OTags → Cols → Rows → List Char → Bool) :
    ∀ c : Cols, anyGridC (fun a b c d => P a b c d || Q a b c d) c = (anyGridC P c || anyGridC Q c)
  | .nil => rfl
  | .cons _ md c => by
    simp only [anyGridC, anyGridO_or P Q md, anyGridC_or P Q c]
    ac_rfl
theorem anyGridR_or (P Q : OTags → Cols → Rows → List Char → Bool) :
    ∀ r : Rows, anyGridR (fun a b c d => P a b c d || Q a b c d) r = (anyGridR P r || anyGridR Q r)
  | .nil => rfl
  | .cons r rs => by
    simp only [anyGridR, anyGridT_or P Q r, anyGridR_or P Q rs]
    ac_rfl
end

theorem badNode_false (v : Val) (hx : excluded v = false) : anyGrid badNode v = false := by
  have h1 : anyGrid badNode v =
      (anyGrid (fun _ _ _ ver => exVer ver) v || anyGrid (fun _ cols rows _ => exZ4 cols rows) v) := by
    unfold badNode
    rw [anyGrid_or (fun _ _ _ ver => exVer ver) (fun _ cols rows _ => exZ4 cols rows)]
  rw [h1]
  simpa [excluded, hasVer, hasZ4] using hx

/-! ### the lexical leaves -/

mutual
/-- every Number / Time / DateTime leaf is a lexeme the round trip of C01 covers (`wfV` of the leaf, the timestamp
printed as read).  Date and Coord leaves need no hypothesis: the reader's dates and coordinates ARE such lexemes
(`ZincImageLeaf`, part of `decV`). -/
def lexLeavesOk : Val → Bool
  | .num n => numOk n
  | .time t => timeOk t
  | .dateTime t => dtOk { t with tzid := "UTC".toList }
  | .list xs => lexLeavesOks xs
  | .dict d => lexLeavesOkT d
  | .grid md cols rows _ => lexLeavesOkO md && lexLeavesOkC cols && lexLeavesOkR rows
  | _ => true
def lexLeavesOks : Vals → Bool
  | .nil => true
  | .cons v vs => lexLeavesOk v && lexLeavesOks vs
def lexLeavesOkT : Tags → Bool
  | .nil => true
  | .cons _ v t => lexLeavesOk v && lexLeavesOkT t
def lexLeavesOkO : OTags → Bool
  | .none => true
  | .some t => lexLeavesOkT t
def lexLeavesOkC : Cols → Bool
  | .nil => true
  | .cons _ md c => lexLeavesOkO md && lexLeavesOkC c
def lexLeavesOkR : Rows → Bool
  | .nil => true
  | .cons r rs => lexLeavesOkT r && lexLeavesOkR rs
end

mutual
theorem lexLeaves_of_struct : ∀ v : Val, structV v = true → lexLeavesOk v = true
  | .list xs, h => lexLeaves_of_structs xs h
  | .dict d, h => lexLeaves_of_structT d h
  | .grid md cols rows _, h => by
    simp only [structV, Bool.and_eq_true] at h
    simp only [lexLeavesOk, Bool.and_eq_true]
    exact ⟨⟨lexLeaves_of_structO md h.1.1, lexLeaves_of_structC cols h.1.2⟩, lexLeaves_of_structR rows h.2⟩
  | .null, _ | .remove, _ | .marker, _ | .na, _ | .bool _, _ | .str _, _ | .uri _, _ | .ref _ _, _ | .sym _, _
  | .xstr _ _, _ => rfl
  | .num _, h | .date _, h | .time _, h | .dateTime _, h | .coord _ _, h => by cases h
theorem lexLeaves_of_structs : ∀ xs : Vals, structVs xs = true → lexLeavesOks xs = true
  | .nil, _ => rfl
  | .cons v vs, h => by
    simp only [structVs, Bool.and_eq_true] at h
    simp only [lexLeavesOks, Bool.and_eq_true]; exact ⟨lexLeaves_of_struct v h.1, lexLeaves_of_structs vs h.2⟩
theorem lexLeaves_of_structT : ∀ t : Tags, structT t = true → lexLeavesOkT t = true
  | .nil, _ => rfl
  | .cons _ v t, h => by
    simp only [structT, Bool.and_eq_true] at h
    simp only [lexLeavesOkT, Bool.and_eq_true]; exact ⟨lexLeaves_of_struct v h.1, lexLeaves_of_structT t h.2⟩
theorem lexLeaves_of_structO : ∀ o : OTags, structO o = true → lexLeavesOkO o = true
  | .none, _ => rfl
  | .some t, h => lexLeaves_of_structT t h
theorem lexLeaves_of_structC : ∀ c : Cols, structC c = true → lexLeavesOkC c = true
  | .nil, _ => rfl
  | .cons _ md c, h => by
    simp only [structC, Bool.and_eq_true] at h
    simp only [lexLeavesOkC, Bool.and_eq_true]; exact ⟨lexLeaves_of_structO md h.1, lexLeaves_of_structC c h.2⟩
theorem lexLeaves_of_structR : ∀ r : Rows, structR r = true → lexLeavesOkR r = true
  | .nil, _ => rfl
  | .cons r rs, h => by
    simp only [structR, Bool.and_eq_true] at h
    simp only [lexLeavesOkR, Bool.and_eq_true]; exact ⟨lexLeaves_of_structT r h.1, lexLeaves_of_structR rs h.2⟩
end

theorem dictOf_sorted (kvs : List (List Char × Val)) : keysSorted (dictOf kvs).keys = true := by
  rw [keysSorted_iff, ← Tags.sorted_toList, dictOf_eq_collect, Tags.toList_ofList]
  exact Key.collect_sorted kvs List.Pairwise.nil

theorem dictOf_mem (kvs : List (List Char × Val)) (p : List Char × Val) (h : p ∈ (dictOf kvs).toList) : p ∈ kvs := by
  rw [dictOf_eq_collect, Tags.toList_ofList] at h
  exact (Key.mem_collect p kvs [] h).resolve_left List.not_mem_nil

theorem dictOf_nonempty (kvs : List (List Char × Val)) (h : kvs.isEmpty = false) : (dictOf kvs).isEmpty = false := by
  have := Key.collect_ne_nil kvs [] (.inr fun e => by rw [e] at h; cases h)
  rw [dictOf_eq_collect]
  cases hx : Key.collect kvs [] with
  | nil => exact absurd hx this
  | cons p r => rfl

/-! ### Boolean predicates on `Tags` from statements about the entries -/

theorem keysIdent_of_mem : ∀ t : Tags, (∀ p ∈ t.toList, isIdent p.1 = true) → keysIdent t = true
  | .nil, _ => rfl
  | .cons k v t, h => by
    simp only [keysIdent, Bool.and_eq_true]
    exact ⟨h (k, v) (by simp [Tags.toList]), keysIdent_of_mem t (fun p hp => h p (by simp [Tags.toList, hp]))⟩

theorem decT_of_mem : ∀ t : Tags, (∀ p ∈ t.toList, decV p.2 = true) → decT t = true
  | .nil, _ => rfl
  | .cons k v t, h => by
    simp only [decT, Bool.and_eq_true]
    exact ⟨h (k, v) (by simp [Tags.toList]), decT_of_mem t (fun p hp => h p (by simp [Tags.toList, hp]))⟩

theorem nestT_le_of_mem (n : Nat) : ∀ t : Tags, (∀ p ∈ t.toList, nestV p.2 + 1 ≤ n) → nestT t ≤ n
  | .nil, _ => by simp [nestT]
  | .cons k v t, h => by
    simp only [nestT]
    have h1 := h (k, v) (by simp [Tags.toList])
    have h2 := nestT_le_of_mem n t (fun p hp => h p (by simp [Tags.toList, hp]))
    simp only at h1
    omega

theorem keysAll_of_mem (names : List (List Char)) : ∀ t : Tags, (∀ p ∈ t.toList, p.1 ∈ names) →
    t.keys.all (fun k => names.contains k) = true
  | .nil, _ => rfl
  | .cons k v t, h => by
    simp only [Tags.keys, List.all_cons, Bool.and_eq_true]
    refine ⟨by simpa using h (k, v) (by simp [Tags.toList]), ?_⟩
    exact keysAll_of_mem names t (fun p hp => h p (by simp [Tags.toList, hp]))

end Hs.Zinc

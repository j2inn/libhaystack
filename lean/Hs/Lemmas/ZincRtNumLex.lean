/-
  C01 and C04 read direction: the look-ahead of `parse_number_date_time` (`ndtPeeks`: where it stops, what it
  leaves in the peek stash; `AfterDec` keeps it inside the decimal), then `parse_number_date_time` and the lexer on a
  number text (the look-ahead rules for time `dd:` and date `dddd-` do not fire on a decimal text), and on `-INF`.
-/
import Hs.Lemmas.ZincRtNum
namespace Hs.Zinc
open Hs Hs.Scan

def DigitsTo (T : List UInt8) (k : Nat) : Prop := ∀ i, i < k → ∃ x, T[i]? = some x ∧ isDigitB x = true

theorem afterDec_at {tb U : List UInt8} (hU : AfterDec U) {x : UInt8} (hx : (tb ++ U)[tb.length]? = some x) :
    isDigitB x = false ∧ x ≠ 58 ∧ x ≠ 45 := by
  rw [List.getElem?_append_right (Nat.le_refl _)] at hx
  simp only [Nat.sub_self] at hx
  cases U with
  | nil => simp at hx
  | cons y r =>
    simp only [List.getElem?_cons_zero, Option.some.injEq] at hx
    subst hx
    exact hU _ r rfl

theorem digits_within (tb U : List UInt8) (hU : AfterDec U) (k : Nat) (hd : DigitsTo (tb ++ U) k) :
    k ≤ tb.length := by
  by_cases hk : k ≤ tb.length
  · exact hk
  · exfalso
    obtain ⟨x, hx, hdx⟩ := hd tb.length (by omega)
    rw [(afterDec_at hU hx).1] at hdx
    cases hdx

theorem byte_after_digits (tb U : List UInt8) (hnum : ∀ b ∈ tb, isDecB b = true)
    (htail : ∀ b ∈ tb.tail, b ≠ 45) (hU : AfterDec U) (k : Nat) (h1 : 1 ≤ k) (h2 : k ≤ tb.length) (x : UInt8)
    (hx : (tb ++ U)[k]? = some x) : x ≠ 58 ∧ x ≠ 45 := by
  by_cases hk : k < tb.length
  · rw [List.getElem?_append_left hk] at hx
    have hmem : x ∈ tb := List.mem_of_getElem? hx
    have hmem' : x ∈ tb.tail := by
      cases tb with
      | nil => simp at hk
      | cons t0 ts =>
        obtain ⟨j, rfl⟩ : ∃ j, k = j + 1 := ⟨k - 1, by omega⟩
        simp only [List.getElem?_cons_succ] at hx
        exact List.mem_of_getElem? hx
    exact ⟨ne_of_class (hnum x hmem) (by decide), htail x hmem'⟩
  · have : k = tb.length := by omega
    subst this
    exact (afterDec_at hU hx).2

/-- `Scan.at b r lp pos` after `k` successful peeks: the first `k` bytes of `r` are in the stash -/
def pk (b : UInt8) (r : List UInt8) (lp : UInt8) (pos k : Nat) : Scan :=
  { cur := b, stash := r.take k, lastPeek := if k = 0 then lp else (r[k - 1]?).getD 0, eof := false,
    inp := r.drop k, pos := pos }

theorem pk_zero (b : UInt8) (r : List UInt8) (lp : UInt8) (pos : Nat) : pk b r lp pos 0 = Scan.at b r lp pos := by
  simp [pk, Scan.at]

theorem At_pk (b : UInt8) (r : List UInt8) (lp : UInt8) (pos k : Nat) : At (pk b r lp pos k) (b :: r) := by
  simp [At, pk]

theorem pk_stash_length (b : UInt8) (r : List UInt8) (lp : UInt8) (pos k : Nat) (hk : k ≤ r.length) :
    (pk b r lp pos k).stash.length = k := by
  simp [pk]; omega

theorem peek_pk_some (b : UInt8) (r : List UInt8) (lp : UInt8) (pos k : Nat) (x : UInt8) (hx : r[k]? = some x) :
    (pk b r lp pos k).peek = (some x, pk b r lp pos (k + 1)) := by
  have hlt : k < r.length := by
    rw [List.getElem?_eq_some_iff] at hx; exact hx.1
  have hd : r.drop k = x :: r.drop (k + 1) := by
    rw [List.getElem?_eq_some_iff] at hx
    rw [← hx.2]; exact List.drop_eq_getElem_cons hlt
  unfold Scan.peek Scan.readByte
  simp only [pk, hd]
  simp [hx, List.take_add_one]

theorem peek_pk_none (b : UInt8) (r : List UInt8) (lp : UInt8) (pos k : Nat) (hk : r.length ≤ k) :
    (pk b r lp pos k).peek = (none, { pk b r lp pos k with eof := true }) := by
  unfold Scan.peek Scan.readByte
  simp [pk, List.drop_eq_nil_of_le hk]

/-- started with `k` bytes peeked, all bytes before position `k` being digits, the look-ahead stops with `k' ≤ k + n`
bytes peeked and the same said of `k'`: either on a byte of the text, the count grown by `k' - k`, or — every byte of the
text is a digit — on the failed peek at its end, which raises `is_eof` -/
theorem ndtPeeks_pk (b : UInt8) (r : List UInt8) (lp : UInt8) (pos : Nat) :
    ∀ (n k count : Nat) (cur : UInt8), k ≤ r.length → (b :: r)[k]? = some cur → DigitsTo (b :: r) k →
    ∃ k' c', k ≤ k' ∧ k' ≤ r.length ∧ k' ≤ k + n ∧ DigitsTo (b :: r) k' ∧
      ((ndtPeeks n cur count (pk b r lp pos k) = (c', pk b r lp pos k') ∧ c' + k = count + k') ∨
       (ndtPeeks n cur count (pk b r lp pos k) = (c', { pk b r lp pos k' with eof := true }) ∧ k' = r.length
          ∧ DigitsTo (b :: r) (k' + 1))) := by
  intro n
  induction n with
  | zero =>
    intro k count cur hk hcur hd
    exact ⟨k, count, Nat.le_refl _, hk, by omega, hd, Or.inl ⟨by simp [ndtPeeks], rfl⟩⟩
  | succ n ih =>
    intro k count cur hk hcur hd
    by_cases hdig : isDigitB cur = true
    · have hd1 : DigitsTo (b :: r) (k + 1) := by
        intro i hi
        by_cases hik : i < k
        · exact hd i hik
        · have : i = k := by omega
          subst this; exact ⟨cur, hcur, hdig⟩
      by_cases hlt : k < r.length
      · have hx : r[k]? = some r[k] := List.getElem?_eq_getElem hlt
        have hcur' : (b :: r)[k + 1]? = some r[k] := by simp [hx]
        obtain ⟨k', c', h1, h2, h3, h4, h5⟩ := ih (k + 1) (count + 1) r[k] (by omega) hcur' hd1
        refine ⟨k', c', by omega, h2, by omega, h4, ?_⟩
        rw [ndtPeeks]
        simp only [hdig, Bool.not_true, pk, Bool.false_or]
        have hp := peek_pk_some b r lp pos k r[k] hx
        simp only [pk] at hp
        simp only [Bool.false_eq_true, if_false, hp]
        simp only [pk] at h5
        rcases h5 with ⟨e, he⟩ | ⟨e, he⟩
        · exact Or.inl ⟨e, by omega⟩
        · exact Or.inr ⟨e, he⟩
      · -- end of input: `cur` keeps its value, `is_eof` is set
        have hk' : k = r.length := by omega
        refine ⟨k, count + 1, Nat.le_refl _, hk, by omega, hd, Or.inr ⟨?_, hk', hd1⟩⟩
        rw [ndtPeeks]
        have hp := peek_pk_none b r lp pos k (by omega)
        simp only [pk] at hp
        simp only [hdig, Bool.not_true, pk, Bool.false_or, Bool.false_eq_true, if_false, hp]
        cases n with
        | zero => simp [ndtPeeks]
        | succ m => rw [ndtPeeks]; simp
    · refine ⟨k, count, Nat.le_refl _, hk, by omega, hd, Or.inl ⟨?_, rfl⟩⟩
      rw [ndtPeeks]
      simp [hdig]

theorem eq_at_of_At {s : Scan} {b : UInt8} {r : List UInt8} (h : At s (b :: r)) (hs : s.stash = []) :
    s = Scan.at b r s.lastPeek s.pos := by
  obtain ⟨he, hc, hu⟩ := h
  rw [hs] at hu
  simp only [List.nil_append] at hu
  cases s
  simp_all [Scan.at]

theorem ndt_number_sp (lex tb : List UInt8) (hsh : DecShape lex tb) (U : List UInt8) (hU : AfterDec U)
    (s : Scan) (fuel : Nat) (h : At s (tb ++ U)) (hs : s.stash = []) :
    ∃ s', parseNumberDateTime fuel s = parseNumber fuel s' ∧ At s' (tb ++ U) ∧ s'.stash.length ≤ tb.length := by
  obtain ⟨b0, tb', rfl, hfirst⟩ := hsh.first
  have hnum := hsh.cls
  have htail := hsh.tail
  simp only [List.cons_append] at h
  simp only [List.tail_cons] at htail
  by_cases hminus : b0 = 45
  · -- a sign: one peek, the byte after it is not `I`
    subst hminus
    cases tb' with
    | nil =>
      rcases hfirst with hfirst | ⟨_, hne⟩
      · exact absurd hfirst (by decide)
      · exact absurd rfl hne
    | cons b1 tb'' =>
      simp only [List.cons_append] at h
      obtain ⟨s1, e1, hat1, hs1, _, _⟩ := h.peek0' hs
      have hb1 : b1 ≠ 73 := ne_of_class (hnum b1 (by simp)) (by decide)
      refine ⟨s1, ?_, by simpa using hat1, by simp [hs1]⟩
      unfold parseNumberDateTime
      simp [h.cur, e1, hb1]
  · -- a digit: up to four peeks.  They stay inside `tb` (the byte after it is no digit, `AfterDec`), so the byte
    -- peeked last, which the tests for `dd:` and `dddd-` look at, lies in `tb` past its first byte or is the byte
    -- after `tb`: neither is `:` or `-` (`byte_after_digits`)
    have hdig : isDigitB b0 = true := by
      rcases hfirst with h' | ⟨h', _⟩
      · exact h'
      · exact absurd h' hminus
    have hseq := eq_at_of_At h hs
    rw [← pk_zero] at hseq
    generalize s.lastPeek = lp at hseq
    generalize s.pos = pos at hseq
    subst hseq
    obtain ⟨k', c', _, hk2, hk3, hdk, hres⟩ := ndtPeeks_pk b0 (tb' ++ U) lp pos 4 0 0 b0 (Nat.zero_le _) rfl
      (by intro i hi; omega)
    have hwithin : k' ≤ (b0 :: tb').length := digits_within (b0 :: tb') U hU k' (by simpa using hdk)
    have hcur : (pk b0 (tb' ++ U) lp pos 0).cur = b0 := rfl
    have hne45 : (b0 == 45) = false := by simpa using hminus
    refine ⟨pk b0 (tb' ++ U) lp pos k', ?_, At_pk _ _ _ _ _, by rw [pk_stash_length _ _ _ _ _ hk2]; exact hwithin⟩
    unfold parseNumberDateTime
    simp only [hcur, hne45, Bool.false_eq_true, if_false]
    rcases hres with ⟨e, hc⟩ | ⟨e, _, _⟩
    · rw [e]
      have hc' : c' = k' := by omega
      subst hc'
      have heof : (pk b0 (tb' ++ U) lp pos c').eof = false := rfl
      have hlp : ∀ (hk : 1 ≤ c'), (pk b0 (tb' ++ U) lp pos c').lastPeek ≠ 58 ∧
          (pk b0 (tb' ++ U) lp pos c').lastPeek ≠ 45 := by
        intro hk
        have hz : c' ≠ 0 := by omega
        simp only [pk, hz, if_false]
        cases hx : (tb' ++ U)[c' - 1]? with
        | none => simp
        | some x =>
          have hx' : ((b0 :: tb') ++ U)[c']? = some x := by
            obtain ⟨j, rfl⟩ : ∃ j, c' = j + 1 := ⟨c' - 1, by omega⟩
            simpa using hx
          simpa using byte_after_digits (b0 :: tb') U hnum (by simpa using htail) hU c' hk hwithin x hx'
      simp only [heof, Bool.false_eq_true, if_false]
      by_cases h2 : c' = 2
      · have := (hlp (by omega)).1
        subst h2
        simp [this]
      · by_cases h4 : c' = 4
        · have := (hlp (by omega)).2
          subst h4
          simp [this]
        · simp [h2, h4]
    · rw [e]
      simp
      rfl

/-! ### the lexer on a number -/

theorem lexRead_ndt {s : Scan} {b : UInt8} {r : List UInt8} (h : At s (b :: r))
    (hb : (isDigitB b || b == 45) = true) (fuel : Nat) :
    lexRead (fuel + 1) s =
      (match parseNumberDateTime fuel s with
       | .ok (v, s') => .ok { sc := s', tok := .val v }
       | .err => .err | .panic => .panic | .diverge => .diverge | .depth => .depth) := by
  have hd := num_dispatch b
  simp only [hb, Bool.not_true, Bool.false_or, Bool.and_eq_true, bne_iff_ne, ne_eq,
    Bool.not_eq_eq_eq_not] at hd
  obtain ⟨⟨⟨⟨⟨⟨d1, d2⟩, d3⟩, d4⟩, d5⟩, d6⟩, d7⟩ := hd
  simp only [Bool.or_eq_true, beq_iff_eq] at hb
  rw [lexRead]
  simp only [h.eof, h.cur]
  simp [d1, d2, d3, d4, d5, d6, d7, hb]
  rfl

theorem lexRead_numSp (lex bs : List UInt8) (hsh : DecShape lex bs) {xo : Option (List UInt8 × List UInt8)}
    {X : List UInt8} (hX : ExpPart xo X) (uo : Option (List Char)) (hu : unitOk uo = true) (s : Scan)
    (rest : List UInt8) (fuel : Nat) (h : At s (bs ++ (X ++ (unitBytes uo ++ rest)))) (hs : s.stash = [])
    (hd : Stop isNumMoreB rest) (hf : bs.length + X.length + (unitBytes uo).length + 2 ≤ fuel) :
    ∃ s', lexRead fuel s = .ok { sc := s', tok := .val (mkNum lex xo uo) } ∧ At s' rest ∧ s'.stash = [] := by
  obtain ⟨f, rfl⟩ : ∃ f, fuel = f + 1 := ⟨fuel - 1, by omega⟩
  obtain ⟨s1, e1, h1, hs1⟩ := ndt_number_sp lex bs hsh _ (hX.after uo hu rest hd).2 s f h hs
  obtain ⟨s', e', h', hs'⟩ := parseNumber_sp lex bs hsh hX uo hu s1 rest f h1 hs1 hd (by omega)
  refine ⟨s', ?_, h', hs'⟩
  obtain ⟨b0, r0, rfl, hb0⟩ := hsh.first'
  simp only [List.cons_append] at h
  rw [lexRead_ndt h hb0, e1, e']

theorem lexRead_dec (lex bs : List UInt8) (hsh : DecShape lex bs) (uo : Option (List Char))
    (hu : unitOk uo = true) (s : Scan) (rest : List UInt8) (fuel : Nat)
    (h : At s (bs ++ (unitBytes uo ++ rest))) (hs : s.stash = []) (hd : Stop isNumMoreB rest)
    (hf : bs.length + (unitBytes uo).length + 2 ≤ fuel) :
    ∃ s', lexRead fuel s = .ok { sc := s', tok := .val (mkNum lex Option.none uo) } ∧ At s' rest ∧ s'.stash = [] :=
  lexRead_numSp lex bs hsh .none uo hu s rest fuel h hs hd hf

theorem lexRead_num (tb : List UInt8) (hok : numBytesOk tb = true) (uo : Option (List Char)) (hu : unitOk uo = true)
    (s : Scan) (rest : List UInt8) (fuel : Nat) (h : At s (tb ++ (unitBytes uo ++ rest))) (hs : s.stash = [])
    (hd : Delim rest) (hf : tb.length + (unitBytes uo).length + 2 ≤ fuel) :
    ∃ s', lexRead fuel s = .ok { sc := s', tok := .val (mkNum tb none uo) } ∧ At s' rest ∧ s'.stash = [] :=
  lexRead_dec tb tb (decShape_of_numBytesOk hok) uo hu s rest fuel h hs (hd.stop (by decide)) hf

theorem lexRead_neginf (s : Scan) (rest : List UInt8) (fuel : Nat) (h : At s (45 :: 73 :: 78 :: 70 :: rest))
    (hs : s.stash = []) (hf : 2 ≤ fuel) :
    ∃ s', lexRead fuel s = .ok { sc := s', tok := .val (.num ⟨⟨negInfBits, "-inf".toList⟩, none⟩) } ∧
      At s' rest ∧ s'.stash = [] := by
  obtain ⟨f, rfl⟩ : ∃ f, fuel = f + 1 := ⟨fuel - 1, by omega⟩
  obtain ⟨s1, e1, h1, hs1, _, _⟩ := h.peek0' hs
  have h2 := h1.advance
  have h3 := h2.advance
  have h4 := h3.advance
  have hs2 : s1.advance.stash = [] := advance_stash_nil (by omega)
  refine ⟨s1.advance.advance.advance.advance, ?_, h4.advance, advN_stash_nil 3 _ hs2⟩
  rw [lexRead_ndt h (by decide)]
  unfold parseNumberDateTime
  simp only [h.cur, e1]
  unfold parseNegInf
  simp only [h1.cur]
  simp only [Scan.expectAndConsumeSeq, h2.cur, h2.read, h3.cur, h3.read, h4.cur]
  cases rest with
  | nil => rw [h4.read_last]; simp
  | cons x r => rw [h4.read]; simp

end Hs.Zinc

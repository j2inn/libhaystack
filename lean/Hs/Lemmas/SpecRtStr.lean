/-
  C04 (write direction): the reference reader's `str` and `uri` read back the writer's quoted image of
  every text, whatever follows.
-/
import Hs.Lemmas.SpecRtBasic
namespace Hs.Spec
open Hs Hs.Zinc Hs.Scan

def Reads (body : Nat → In → In → Option (In × In)) (k : Nat) (w out : In) : Prop :=
  ∀ (fuel : Nat) (r acc : In), body (fuel + k) (w ++ r) acc = body fuel r (acc ++ out)

theorem Reads.bytes {body : Nat → In → In → Option (In × In)} :
    ∀ bs : In, (∀ b ∈ bs, Reads body 1 [b] [b]) → Reads body bs.length bs bs
  | [], _ => fun fuel r acc => by simp
  | b :: bs, h => fun fuel r acc => by
    have hb := h b (by simp) (fuel + bs.length) (bs ++ r) acc
    have ih := Reads.bytes bs (fun x hx => h x (by simp [hx])) fuel r (acc ++ [b])
    simp only [List.cons_append, List.nil_append, List.append_assoc] at hb ih ⊢
    exact hb.trans ih

theorem Reads.raw {body : Nat → In → In → Option (In × In)} {q : UInt8}
    (hp : ∀ b, b ≠ q → b ≠ 92 → Reads body 1 [b] [b]) (hq : q.toNat < 128) (c : Char)
    (h1 : c.toNat ≠ q.toNat) (h2 : c.toNat ≠ (92 : UInt8).toNat) :
    Reads body (encChar c).length (encChar c) (encChar c) :=
  Reads.bytes _ fun b hb => hp b (encChar_bytes_ne c q hq h1 b hb) (encChar_bytes_ne c 92 (by decide) h2 b hb)

theorem Reads.text {body : Nat → In → In → Option (In × In)} {q : UInt8} {encC : Char → List UInt8}
    (hq : ∀ fuel r acc, body (fuel + 1) (q :: r) acc = some (acc, r))
    (hc : ∀ c, ∃ k, 1 ≤ k ∧ k ≤ (encC c).length ∧ Reads body k (encC c) (encChar c)) :
    ∀ (cs : List Char) (fuel : Nat) (rest acc : In), (cs.flatMap encC).length < fuel →
      body fuel (cs.flatMap encC ++ q :: rest) acc = some (acc ++ encChars cs, rest)
  | [], fuel, rest, acc, hf => by
    obtain ⟨f, rfl⟩ : ∃ f, fuel = f + 1 := ⟨fuel - 1, by omega⟩
    simp [hq]
  | c :: cs, fuel, rest, acc, hf => by
    simp only [List.flatMap_cons, List.length_append, List.append_assoc] at hf ⊢
    obtain ⟨k, hk1, hk2, e⟩ := hc c
    obtain ⟨f, rfl⟩ : ∃ f, fuel = f + k := ⟨fuel - k, by omega⟩
    rw [e, Reads.text hq hc cs f rest _ (by omega), encChars_cons]
    simp

theorem uEscape_hex (n : Nat) (hn : n < 32) : ∃ a b c d, uEscape n = [92, 117, a, b, c, d] ∧
    (isHex a && isHex b && isHex c && isHex d) = true ∧
    hexVal a * 4096 + hexVal b * 256 + hexVal c * 16 + hexVal d = n := by
  have e1 := hexVal_lower (n / 4096 % 16) (Nat.mod_lt _ (by decide))
  have e2 := hexVal_lower (n / 256 % 16) (Nat.mod_lt _ (by decide))
  have e3 := hexVal_lower (n / 16 % 16) (Nat.mod_lt _ (by decide))
  have e4 := hexVal_lower (n % 16) (Nat.mod_lt _ (by decide))
  refine ⟨_, _, _, _, rfl, by rw [e1.1, e2.1, e3.1, e4.1]; rfl, ?_⟩
  rw [e1.2, e2.2, e3.2, e4.2, Nat.div_eq_of_lt (by omega : n < 4096), Nat.div_eq_of_lt (by omega : n < 256)]
  omega

theorem strBody_quote (fuel : Nat) (r acc : List UInt8) : strBody (fuel + 1) (34 :: r) acc = some (acc, r) := by
  rw [strBody.eq_def]; simp

theorem strBody_plain (b : UInt8) (h1 : b ≠ 34) (h2 : b ≠ 92) : Reads strBody 1 [b] [b] := by
  intro fuel r acc
  rw [strBody.eq_def]; simp [h1, h2]

theorem strBody_esc (c x : UInt8)
    (hx : (c = 110 ∧ x = 10) ∨ (c = 114 ∧ x = 13) ∨ (c = 116 ∧ x = 9) ∨ (c = 34 ∧ x = 34) ∨ (c = 36 ∧ x = 36)
        ∨ (c = 92 ∧ x = 92)) : Reads strBody 1 [92, c] [x] := by
  intro fuel r acc
  rw [strBody.eq_def]
  rcases hx with ⟨rfl, rfl⟩ | ⟨rfl, rfl⟩ | ⟨rfl, rfl⟩ | ⟨rfl, rfl⟩ | ⟨rfl, rfl⟩ | ⟨rfl, rfl⟩ <;> simp

theorem strBody_escU (n : Nat) (hn : n < 32) : Reads strBody 1 (uEscape n) (encChar (Char.ofNat n)) := by
  obtain ⟨a, b, c, d, e, hh, hv⟩ := uEscape_hex n hn
  intro fuel r acc
  rw [e, strBody.eq_def]
  simp [hh, hv]

theorem strBody_char (c : Char) :
    ∃ k, 1 ≤ k ∧ k ≤ (encStrChar c).length ∧ Reads strBody k (encStrChar c) (encChar c) := by
  by_cases c1 : c = '"'
  · subst c1; exact ⟨1, by decide, by decide, strBody_esc 34 34 (by simp)⟩
  by_cases c2 : c = '\t'
  · subst c2; exact ⟨1, by decide, by decide, strBody_esc 116 9 (by simp)⟩
  by_cases c3 : c = '\r'
  · subst c3; exact ⟨1, by decide, by decide, strBody_esc 114 13 (by simp)⟩
  by_cases c4 : c = '\n'
  · subst c4; exact ⟨1, by decide, by decide, strBody_esc 110 10 (by simp)⟩
  by_cases c5 : c = '\\'
  · subst c5; exact ⟨1, by decide, by decide, strBody_esc 92 92 (by simp)⟩
  by_cases c6 : c.toNat < 32
  · have e : encStrChar c = uEscape c.toNat := by simp [encStrChar, c1, c2, c3, c4, c5, c6]
    rw [e]
    have hu := strBody_escU c.toNat c6
    rw [Char.ofNat_toNat] at hu
    exact ⟨1, by simp, by simp [uEscape], hu⟩
  by_cases c7 : c = '$'
  · subst c7; exact ⟨1, by decide, by decide, strBody_esc 36 36 (by simp)⟩
  have e : encStrChar c = encChar c := by simp [encStrChar, c1, c2, c3, c4, c5, c6, c7]
  rw [e]
  exact ⟨_, encChar_length_pos c, Nat.le_refl _, Reads.raw strBody_plain (by decide) c
    (fun e => c1 (Char.toNat_inj.mp e)) (fun e => c5 (Char.toNat_inj.mp e))⟩

theorem encQuoted_append (s : List Char) (rest : List UInt8) :
    encQuoted s ++ rest = 34 :: (s.flatMap encStrChar ++ 34 :: rest) := by simp [encQuoted]

theorem str_quoted (s : List Char) (rest : List UInt8) :
    str (34 :: (s.flatMap encStrChar ++ 34 :: rest)) = some (s, rest) := by
  rw [str, Reads.text strBody_quote strBody_char s _ rest [] (by simp; omega)]
  simp [text, lossy_encChars]

theorem uriBody_tick (fuel : Nat) (r acc : List UInt8) : uriBody (fuel + 1) (96 :: r) acc = some (acc, r) := by
  rw [uriBody.eq_def]; simp

theorem uriBody_plain (b : UInt8) (h1 : b ≠ 96) (h2 : b ≠ 92) : Reads uriBody 1 [b] [b] := by
  intro fuel r acc
  rw [uriBody.eq_def]; simp [h1, h2]

theorem uriBody_esc (c : UInt8) (hc : c = 96 ∨ c = 92) : Reads uriBody 1 [92, c] [c] := by
  intro fuel r acc
  rw [uriBody.eq_def]
  rcases hc with rfl | rfl <;> simp

theorem uriBody_escU (n : Nat) (hn : n < 32) : Reads uriBody 1 (uEscape n) (encChar (Char.ofNat n)) := by
  obtain ⟨a, b, c, d, e, hh, hv⟩ := uEscape_hex n hn
  intro fuel r acc
  rw [e, uriBody.eq_def]
  simp [hh, hv]

theorem uriBody_char (c : Char) :
    ∃ k, 1 ≤ k ∧ k ≤ (encUriChar c).length ∧ Reads uriBody k (encUriChar c) (encChar c) := by
  by_cases c1 : c = '`'
  · subst c1; exact ⟨1, by decide, by decide, uriBody_esc 96 (Or.inl rfl)⟩
  by_cases c2 : c = '\\'
  · subst c2; exact ⟨1, by decide, by decide, uriBody_esc 92 (Or.inr rfl)⟩
  by_cases c3 : c.toNat < 32
  · have e : encUriChar c = uEscape c.toNat := by simp [encUriChar, c1, c2, c3]
    rw [e]
    have hu := uriBody_escU c.toNat c3
    rw [Char.ofNat_toNat] at hu
    exact ⟨1, by simp, by simp [uEscape], hu⟩
  have e : encUriChar c = encChar c := by simp [encUriChar, c1, c2, c3]
  rw [e]
  exact ⟨_, encChar_length_pos c, Nat.le_refl _, Reads.raw uriBody_plain (by decide) c
    (fun e => c1 (Char.toNat_inj.mp e)) (fun e => c2 (Char.toNat_inj.mp e))⟩

theorem encUri_append (s : List Char) (rest : List UInt8) :
    encUri s ++ rest = 96 :: (s.flatMap encUriChar ++ 96 :: rest) := by simp [encUri]

theorem uri_quoted (s : List Char) (rest : List UInt8) :
    uri (96 :: (s.flatMap encUriChar ++ 96 :: rest)) = some (s, rest) := by
  rw [uri, Reads.text uriBody_tick uriBody_char s _ rest [] (by simp; omega)]
  simp [text, lossy_encChars]

end Hs.Spec

/-
  C01 ladder: tags.  `dictParts` (`,` inside `{}`, ` ` in grid meta) and `colMeta` (column meta) are one loop up to
  what separates and what ends the tags (`TagLoop`).  One tag and what follows it are read once, in any spelling; what
  that gives for a run of tags is `RdTagsD`; then `parseDict` around the tag loop (`RdD_dict`).  The writer's text is an
  instance (`RdLoop_cons`: `RdTags` here, `RdTagsC` in `ZincRtCols`), every legal spelling another (`ZincSpellTags`).
-/
import Hs.Lemmas.ZincRtVal
namespace Hs.Zinc
open Hs Hs.Scan

/-- the equations shared by `dictParts` and `colMeta`; `term` is a token that ends the loop -/
structure TagLoop (loop : Nat → Nat → PS → Bool → KVs → Res (KVs × PS)) (term : UInt8) : Prop where
  idStep : ∀ (f d : Nat) (sc : Scan) (key : List Char) (ec : Bool) (acc : KVs), sc.eof = false →
    loop (f + 1) d { sc := sc, tok := .id key } ec acc =
      (match lexRead f sc with
       | .ok p1 =>
         if PS.isEof p1 then .ok (acc ++ [(key, Val.marker)], p1)
         else if PS.isChar p1 58 then
           match PS.read f p1 with
           | .ok p2 =>
             match parseValue f d p2 with
             | .ok (v, p3) =>
               match PS.read f p3 with
               | .ok p4 => loop f d p4 true (acc ++ [(key, v)])
               | .err => .err | .panic => .panic | .diverge => .diverge | .depth => .depth
             | .err => .err | .panic => .panic | .diverge => .diverge | .depth => .depth
           | .err => .err | .panic => .panic | .diverge => .diverge | .depth => .depth
         else loop f d p1 true (acc ++ [(key, Val.marker)])
       | .err => .err | .panic => .panic | .diverge => .diverge | .depth => .depth)
  termStep : ∀ (f d : Nat) (sc : Scan) (acc : KVs), loop (f + 1) d { sc := sc, tok := .ch term } true acc =
    .ok (acc, { sc := sc, tok := .ch term })
  eofStep : ∀ (f d : Nat) (p : PS) (ec : Bool) (acc : KVs), p.sc.eof = true → loop (f + 1) d p ec acc = .ok (acc, p)

/-- a comma separates tags (only `dictParts`) -/
def CommaLoop (loop : Nat → Nat → PS → Bool → KVs → Res (KVs × PS)) : Prop :=
  ∀ (f d : Nat) (sc : Scan) (acc : KVs), sc.eof = false →
    loop (f + 1) d { sc := sc, tok := .ch 44 } true acc =
      (match lexRead f sc with
       | .ok p1 => loop f d p1 false acc
       | .err => .err | .panic => .panic | .diverge => .diverge | .depth => .depth)

/-- `colMeta` with the type of `dictParts` (which also takes `expectComma`), so that one statement speaks of both -/
def colMetaL (f d : Nat) (p : PS) (_ : Bool) (acc : KVs) : Res (KVs × PS) := colMeta f d p acc

theorem tagLoop_dict {term : UInt8} (h44 : term ≠ 44) : TagLoop dictParts term where
  idStep := by
    intro f d sc key ec acc heof
    rw [dictParts]
    simp only [PS.isEof, heof, PS.isChar, PS.read, Bool.false_eq_true, if_false, Bool.and_false]
    cases lexRead f sc <;> rfl
  termStep := by
    intro f d sc acc
    rw [dictParts]
    have : (term == 44) = false := by simpa using h44
    by_cases he : sc.eof = true <;> simp [PS.isEof, he, PS.isChar, this]
  eofStep := by
    intro f d p ec acc he
    rw [dictParts]; simp [PS.isEof, he]

theorem commaLoop_dict : CommaLoop dictParts := by
  intro f d sc acc heof
  rw [dictParts]
  simp only [PS.isEof, heof, PS.isChar, PS.read, Bool.false_eq_true, if_false, Bool.and_self, beq_self_eq_true, if_true]
  cases lexRead f sc <;> rfl

theorem tagLoop_col (term : UInt8) : TagLoop colMetaL term where
  idStep := by
    intro f d sc key ec acc heof
    unfold colMetaL
    rw [colMeta]
    simp only [PS.isEof, heof, PS.isChar, PS.read, Bool.false_eq_true, if_false]
    cases lexRead f sc <;> rfl
  termStep := by
    intro f d sc acc
    unfold colMetaL
    rw [colMeta]
    by_cases he : sc.eof = true <;> by_cases h44 : (term == 44) = true <;> simp [PS.isEof, he, PS.isChar, h44]
  eofStep := by
    intro f d p ec acc he
    unfold colMetaL
    rw [colMeta]; simp [PS.isEof, he]

theorem isEof_mk (s : Scan) (t : Tok) : PS.isEof { sc := s, tok := t } = s.eof := rfl

/-! ### one tag and what follows it, in any spelling

`D` says what may follow a value (`Delim` for the writer's text, `DelimW` for every spelling), `E ending rest` that
the text `ending` yields the token `term` and leaves `rest` (the terminator alone, or `EndOk`), `K` is the fuel beyond
four times the length of the text.  `NextOkD_nil` needs `2 ≤ K`, what `Ends.lex` asks for the terminator; `TagsRun_val`
`4 ≤ K`: the value after `:` costs `4 * length + 9`, of which the `:` pays 4 and the step of the loop 1.  The writer's
instance is at 7 (`RdTags` promises `4 * length + 10`; the terminator's byte and the two steps of `TagsRun_*` go off),
the grammar's at 10 (`RdTagsW` promises 12). -/

section spelled
open Hs.Spell

variable {loop : Nat → Nat → PS → Bool → KVs → Res (KVs × PS)} {term : UInt8}
  {D : List UInt8 → Prop} {E : List UInt8 → List UInt8 → Prop} {K : Nat}

structure Ends (D : List UInt8 → Prop) (term : UInt8) (E : List UInt8 → List UInt8 → Prop) : Prop where
  ne58 : ∀ {ending rest}, E ending rest → (term == 58) = false
  ne : ∀ {ending rest}, E ending rest → ending ≠ []
  delim : ∀ {ending rest}, E ending rest → D ending
  stopLit : ∀ {ending rest}, E ending rest → Stop isLitB ending
  lex : ∀ {ending rest}, E ending rest → ∀ (s : Scan), Post s ending → ∀ fuel, (ending.length - rest.length) + 2 ≤ fuel →
    ∃ s', lexRead fuel s = .ok { sc := s', tok := .ch term } ∧ At s' rest ∧ s'.stash = []

/-- `tl` is the text between the end of a tag and the end of the tags `t'` that follow it -/
structure NextOkD (D : List UInt8 → Prop) (E : List UInt8 → List UInt8 → Prop) (K : Nat)
    (loop : Nat → Nat → PS → Bool → KVs → Res (KVs × PS)) (term : UInt8) (t' : Tags) (tl : List UInt8) : Prop where
  delim : ∀ ending rest, E ending rest → D (tl ++ ending)
  run : ∀ (depth f g : Nat) (sc : Scan) (acc : KVs) (ending rest : List UInt8), E ending rest →
    Post sc (tl ++ ending) → 4 * tl.length + (ending.length - rest.length) + K ≤ f →
    4 * tl.length + (ending.length - rest.length) + K ≤ g → depth + nestT t' ≤ 64 →
    ∃ p4 p', lexRead f sc = .ok p4 ∧ PS.isChar p4 58 = false ∧
      loop g depth p4 true acc = .ok (acc ++ (lexImgT t').toList, p') ∧ p'.tok = .ch term ∧
      At p'.sc rest ∧ p'.sc.stash = []

/-- the loop on the name `k` of the first tag of `t`, the scanner after the name: `afterK` is the rest of the
spelled text `body` of `t` -/
def TagsRun (E : List UInt8 → List UInt8 → Prop) (K : Nat) (loop : Nat → Nat → PS → Bool → KVs → Res (KVs × PS))
    (term : UInt8) (t : Tags) (k : List Char) (body afterK : List UInt8) : Prop :=
  ∀ (depth fuel : Nat) (sc : Scan) (ec : Bool) (acc : KVs) (ending rest : List UInt8), E ending rest →
    At sc (afterK ++ ending) → sc.stash = [] → 4 * body.length + (ending.length - rest.length) + K ≤ fuel →
    depth + nestT t ≤ 64 →
    ∃ p', loop fuel depth { sc := sc, tok := .id k } ec acc = .ok (acc ++ (lexImgT t).toList, p') ∧
      p'.tok = .ch term ∧ At p'.sc rest ∧ p'.sc.stash = []

def RdTagsD (E : List UInt8 → List UInt8 → Prop) (K : Nat) (loop : Nat → Nat → PS → Bool → KVs → Res (KVs × PS))
    (term : UInt8) (t : Tags) (body : List UInt8) : Prop :=
  ∀ (k : List Char) (v : Val) (t' : Tags), t = .cons k v t' →
  ∃ afterK, body = encChars k ++ afterK ∧ isIdent k = true ∧
    (∀ ending rest, E ending rest → Stop isLitB (afterK ++ ending)) ∧ TagsRun E K loop term t k body afterK

/-- how `RdTagsD` is used: after blanks, the name of the first tag is read and the loop runs to the ending -/
theorem RdTagsD.enter {k : List Char} {v : Val} {t' : Tags} {body : List UInt8}
    (h : RdTagsD E K loop term (.cons k v t') body) {ws : List UInt8} (hws : Blanks ws) (depth f1 f2 : Nat) (sc : Scan)
    (ec : Bool) (acc : KVs) {ending rest : List UInt8} (hE : E ending rest) (hp : Pre sc ws (body ++ ending))
    (hf1 : 4 * body.length + ws.length ≤ f1) (hf2 : 4 * body.length + (ending.length - rest.length) + K ≤ f2)
    (hn : depth + nestT (.cons k v t') ≤ 64) :
    ∃ s' p', lexRead f1 sc = .ok { sc := s', tok := .id k } ∧
      loop f2 depth { sc := s', tok := .id k } ec acc = .ok (acc ++ (lexImgT (.cons k v t')).toList, p') ∧
      p'.tok = .ch term ∧ At p'.sc rest ∧ p'.sc.stash = [] ∧ (ending ≠ [] → s'.eof = false) := by
  obtain ⟨afterK, hb, hk, hstop, hrun⟩ := h k v t' rfl
  obtain ⟨b, r, ek, _⟩ := isIdent_head hk
  have hlenk := encChars_length_ge k
  have hlb : body.length = (encChars k).length + afterK.length := by rw [hb]; simp
  have hk1 : 1 ≤ (encChars k).length := by rw [ek]; simp
  obtain ⟨s', e, h', hs'⟩ := lexRead_idW ws hws k hk sc (afterK ++ ending) (hp.cast (by rw [hb]; simp))
    (hstop ending rest hE) f1 (by omega)
  obtain ⟨p', e', ht', hat', hst'⟩ := hrun depth f2 s' ec acc ending rest hE h' hs' hf2 hn
  exact ⟨s', p', e, e', ht', hat', hst', fun hne => h'.eof_of_ne_nil (by simp [hne])⟩

theorem RdTagsD.head {k : List Char} {v : Val} {t' : Tags} {body : List UInt8}
    (h : RdTagsD E K loop term (.cons k v t') body) : ∃ b r, body = b :: r ∧ isLowerB b = true := by
  obtain ⟨afterK, hb, hk, _, _⟩ := h k v t' rfl
  obtain ⟨b, r, ek, hlow⟩ := isIdent_head hk
  exact ⟨b, r ++ afterK, by rw [hb, ek]; simp, hlow⟩

theorem NextOkD_nil (hL : TagLoop loop term) (hE : Ends D term E) (hK : 2 ≤ K) : NextOkD D E K loop term .nil [] where
  delim := by intro ending rest h; simpa using hE.delim h
  run := by
    intro depth f g sc acc ending rest h hp hf hg hn
    simp only [List.nil_append] at hp
    obtain ⟨s', e, h', hs'⟩ := hE.lex h sc hp f (by simp at hf; omega)
    obtain ⟨g', rfl⟩ : ∃ g', g = g' + 1 := ⟨g - 1, by omega⟩
    refine ⟨{ sc := s', tok := .ch term }, { sc := s', tok := .ch term }, e, by simp [isChar_ch, hE.ne58 h], ?_, rfl,
      h', hs'⟩
    rw [hL.termStep]; simp [lexImgT, Tags.toList]

/-- tags separated by a blank run: it is not one of the optional runs of `Around` (the writer's is one space), so that a
name may follow a value after it (`hD`) is asked for here -/
theorem NextOkD_space {k2 : List Char} {v2 : Val} {t2 : Tags} {w body2 : List UInt8} (hw : Blanks w) (hne : w ≠ [])
    (hD : ∀ x r, isLowerB x = true → D (w ++ x :: r))
    (ih : RdTagsD E (K + 2) loop term (.cons k2 v2 t2) body2) : NextOkD D E K loop term (.cons k2 v2 t2) (w ++ body2) := by
  constructor
  · intro ending rest _
    obtain ⟨b, r, e, hlow⟩ := ih.head
    rw [e]
    simpa using hD b (r ++ ending) hlow
  · intro depth f g sc acc ending rest h hp hf hg hn
    have hwl : 1 ≤ w.length := by cases w with | nil => exact absurd rfl hne | cons _ _ => simp
    simp only [List.length_append] at hf hg
    have hp' : Post sc (w ++ (body2 ++ ending)) := by simpa using hp
    obtain ⟨s', p', e, e', ht', hat', hst', _⟩ := ih.enter hw depth f g sc true acc h (hp'.pre_of_ne hne) (by omega)
      (by omega) hn
    exact ⟨_, p', e, rfl, e', ht', hat', hst'⟩

theorem NextOkD_comma {B : List UInt8 → Prop} (A : Around B D) (hC : CommaLoop loop) {k2 : List Char} {v2 : Val}
    {t2 : Tags} {w w' body2 : List UInt8} (hw : B w) (hw' : B w')
    (ih : RdTagsD E (K + 2) loop term (.cons k2 v2 t2) body2) :
    NextOkD D E K loop term (.cons k2 v2 t2) (w ++ 44 :: (w' ++ body2)) := by
  constructor
  · intro ending rest _
    simpa using A.punct hw (Or.inl rfl) (w' ++ body2 ++ ending)
  · intro depth f g sc acc ending rest h hp hf hg hn
    simp only [List.length_cons, List.length_append] at hf hg
    have hp' : Post sc (w ++ 44 :: (w' ++ (body2 ++ ending))) := by simpa using hp
    obtain ⟨s1, e1, h1, hs1⟩ := lexRead_specialW w (A.blanks hw) sc 44 _ (hp'.pre (by decide)) (by decide) (by decide) f
      (by omega)
    obtain ⟨g', rfl⟩ : ∃ g', g = g' + 1 := ⟨g - 1, by omega⟩
    obtain ⟨s2, p', e2, e', ht', hat', hst', _⟩ := ih.enter (A.blanks hw') depth g' g' s1 false acc h
      (Pre.of_clean h1 hs1) (by omega) (by omega) hn
    obtain ⟨b, r, eb, _⟩ := ih.head
    have heof : s1.eof = false := h1.eof_of_ne_nil (by rw [eb]; simp)
    refine ⟨_, p', e1, by simp [isChar_ch], ?_, ht', hat', hst'⟩
    rw [hC g' depth s1 acc heof, e2]
    exact e'

theorem TagsRun_marker (hL : TagLoop loop term) (hE : Ends D term E) (k : List Char) {t' : Tags} {tl : List UInt8}
    (hnext : NextOkD D E K loop term t' tl) :
    TagsRun E (K + 2) loop term (.cons k .marker t') k (encChars k ++ tl) tl := by
  intro depth fuel sc ec acc ending rest h hat hs hf hn
  obtain ⟨f, rfl⟩ : ∃ f, fuel = f + 1 := ⟨fuel - 1, by omega⟩
  simp only [nestT] at hn
  simp only [List.length_append] at hf
  obtain ⟨p4, p', e4, h58, e', ht', h', hs'⟩ := hnext.run depth f f sc (acc ++ [(k, .marker)]) ending rest h
    (Post.of_clean hat hs) (by omega) (by omega) (by omega)
  have heof : sc.eof = false := hat.eof_of_ne_nil fun hx => hE.ne h (List.append_eq_nil_iff.mp hx).2
  refine ⟨p', ?_, ht', h', hs'⟩
  rw [hL.idStep f depth sc k ec acc heof, e4]
  by_cases he : p4.sc.eof = true
  · -- the terminator was the last byte: the loop returns at once
    obtain ⟨f', rfl⟩ : ∃ f', f = f' + 1 := ⟨f - 1, by omega⟩
    rw [hL.eofStep f' depth p4 true _ he] at e'
    simp only [PS.isEof, he, if_true]
    rw [e']; simp [lexImgT, Tags.toList, lexImg]
  · simp only [PS.isEof, he, Bool.false_eq_true, if_false, h58, e']
    simp [lexImgT, Tags.toList, lexImg]

theorem TagsRun_val (hL : TagLoop loop term) (hE : Ends D term E) (hK : 4 ≤ K) (k : List Char) {v : Val}
    {bs w : List UInt8} (hv : RdD D bs (lexImg v) (nestV v)) (hw : Blanks w) (hfirst : w ≠ [] → NoBlank bs)
    {t' : Tags} {tl : List UInt8} (hnext : NextOkD D E K loop term t' tl) :
    TagsRun E (K + 2) loop term (.cons k v t') k (encChars k ++ (58 :: (w ++ bs) ++ tl)) (58 :: (w ++ bs) ++ tl) := by
  intro depth fuel sc ec acc ending rest h hat hs hf hn
  obtain ⟨f, rfl⟩ : ∃ f, fuel = f + 2 := ⟨fuel - 2, by omega⟩
  simp only [nestT] at hn
  simp only [List.length_append, List.length_cons] at hf
  have hat0 : At sc (58 :: (w ++ (bs ++ (tl ++ ending)))) := by simpa using hat
  have h1 := hat0.advance
  have hs1 : sc.advance.stash = [] := advance_clean hs
  obtain ⟨p2, p3, e2, _, hst, e3, hp3⟩ := hv.skip w hw hfirst depth (f + 1) (f + 1) sc.advance (tl ++ ending)
    (Pre.of_clean h1 hs1) (hnext.delim ending rest h) (by omega) (by omega) (by omega)
  obtain ⟨p4, p', e4, _, e', ht', h', hs'⟩ := hnext.run depth (f + 1) (f + 1) p3.sc (acc ++ [(k, lexImg v)]) ending rest h
    hp3 (by omega) (by omega) (by omega)
  have heof1 : sc.advance.eof = false := h1.eof_of_ne_nil (by simp [hE.ne h])
  refine ⟨p', ?_, ht', h', hs'⟩
  rw [hL.idStep (f + 1) depth sc k ec acc hat0.eof, lexRead_special hat0 (by decide) (by decide) f]
  simp only [PS.isEof, heof1, Bool.false_eq_true, if_false, isChar_ch, beq_self_eq_true, if_true, PS.read, e2, e3, e4, e']
  simp [lexImgT, Tags.toList]

end spelled

section
open Hs.Spell

theorem RdD_dict (D' : List UInt8 → Prop) {E : List UInt8 → List UInt8 → Prop} {K : Nat} {d : Tags}
    {w1 body w2 : List UInt8} (h1 : Blanks w1) (h2 : Blanks w2)
    (hsort : keysSorted d.keys = true) (hnil : d = .nil → body = [])
    (hE : ∀ rest, E (w2 ++ 125 :: rest) rest) (hK : K ≤ 12) (hrun : RdTagsD E K dictParts 125 d body) :
    RdD D' (123 :: (w1 ++ body ++ w2 ++ [125])) (lexImg (.dict d)) (nestV (.dict d)) := by
  intro depth f1 f2 s rest hat hs _ hf1 hf2 hn
  simp only [List.cons_append, List.append_assoc, List.length_cons, List.length_append, List.length_nil,
    List.nil_append] at hat hf1 hf2
  simp only [nestV] at hn
  obtain ⟨g1, rfl⟩ : ∃ g, f1 = g + 1 := ⟨f1 - 1, by omega⟩
  obtain ⟨g2, rfl⟩ : ∃ g, f2 = g + 3 := ⟨f2 - 3, by omega⟩
  have hnd : ¬ (depth ≥ maxNestingDepth) := by unfold maxNestingDepth; omega
  have hat1 := hat.advance
  have hs1 : s.advance.stash = [] := advance_clean hs
  have hfin : dictOf (lexImgT d).toList = lexImgT d := dictOf_toList _ (by rw [lexImgT_keys]; exact hsort)
  have heof1 : s.advance.eof = false := hat1.eof_of_ne_nil (by simp)
  cases d with
  | nil =>
    have hb := hnil rfl
    subst hb
    have hat1' : At s.advance ((w1 ++ w2) ++ 125 :: rest) := by simpa using hat1
    obtain ⟨s', e, h', hs'⟩ := lexRead_specialW (w1 ++ w2) (Blanks.append h1 h2) s.advance 125 rest
      (Pre.of_clean hat1' hs1) (by decide) (by decide) (g2 + 1) (by simp at hf2 ⊢; omega)
    refine ⟨_, { sc := s', tok := .ch 125 }, lexRead_special hat (by decide) (by decide) g1, fun _ => heof1,
      Or.inr (Or.inl rfl), ?_, Post.of_clean h' hs'⟩
    rw [parseValue]
    simp only [hnd, if_false]
    rw [parseDict]
    simp only [isChar_ch, PS.read, e]
    rw [dictParts]
    simp only [isEof_mk, isChar_ch]
    by_cases he : s'.eof = true <;> simp [he, lexImg, lexImgT, dictOf, Tags.ofList, isChar_ch]
  | cons k v t' =>
    obtain ⟨s', p', e5, e', ht', h', hs', _⟩ := hrun.enter h1 (depth + 1) (g2 + 1) (g2 + 1) s.advance false [] (hE rest)
      (Pre.of_clean (by simpa using hat1) hs1) (by omega)
      (by simp only [List.length_append, List.length_cons]; omega) (by omega)
    refine ⟨_, p', lexRead_special hat (by decide) (by decide) g1, fun _ => heof1, Or.inr (Or.inl rfl), ?_,
      Post.of_clean h' hs'⟩
    rw [parseValue]
    simp only [hnd, if_false]
    rw [parseDict]
    simp only [isChar_ch, PS.read, e5, e']
    have : PS.isChar p' 125 = true := by unfold PS.isChar; rw [ht']; rfl
    simp [this, lexImg, hfin]

end

/-! ### the writer's text: separator `sep`, the terminator alone (`EndRt`), no blanks -/

def RdLoop (loop : Nat → Nat → PS → Bool → KVs → Res (KVs × PS)) (sep term : UInt8) (t : Tags) : Prop :=
  ∀ (k : List Char) (v : Val) (t' : Tags), t = .cons k v t' →
  ∀ (depth fuel : Nat) (p : PS) (ec : Bool) (acc : KVs) (rest : List UInt8),
    p.tok = .id k → At p.sc (valPart v ++ tailOf sep term rest t') → p.sc.stash = [] →
    4 * (encTags t sep).length + 10 ≤ fuel → depth + nestT t ≤ 64 →
    ∃ p', loop fuel depth p ec acc = .ok (acc ++ (lexImgT t).toList, p') ∧ p'.tok = .ch term ∧
      At p'.sc rest ∧ p'.sc.stash = []

/-- the loop of `parse_dict_parts` positioned on the name of the first of the remaining tags -/
def RdTags (sep term : UInt8) (t : Tags) : Prop :=
  ∀ (k : List Char) (v : Val) (t' : Tags), t = .cons k v t' →
  ∀ (depth fuel : Nat) (p : PS) (ec : Bool) (acc : List (List Char × Val)) (rest : List UInt8),
    p.tok = .id k → At p.sc (valPart v ++ tailOf sep term rest t') → p.sc.stash = [] →
    4 * (encTags t sep).length + 10 ≤ fuel → depth + nestT t ≤ 64 →
    ∃ p', dictParts fuel depth p ec acc = .ok (acc ++ (lexImgT t).toList, p') ∧ p'.tok = .ch term ∧
      At p'.sc rest ∧ p'.sc.stash = []

section loop
variable {loop : Nat → Nat → PS → Bool → KVs → Res (KVs × PS)} {sep term : UInt8}

theorem RdLoop_nil (loop : Nat → Nat → PS → Bool → KVs → Res (KVs × PS)) (sep term : UInt8) :
    RdLoop loop sep term .nil := by
  intro k v t' e; cases e

def EndRt (term : UInt8) (ending rest : List UInt8) : Prop := ending = term :: rest

theorem TagSyn.ends (sy : TagSyn sep term) : Ends Delim term (EndRt term) := by
  obtain ⟨hlit, hspecial, h13, h32, h58⟩ := sy.term_facts
  exact {
    ne58 := fun _ => h58
    ne := by rintro _ _ rfl; simp
    delim := by rintro _ rest rfl; exact Delim_tailOf sy rest .nil rfl
    stopLit := by rintro _ _ rfl; exact Stop_cons hlit
    lex := by
      rintro _ rest rfl s hp fuel hf
      obtain ⟨f, rfl⟩ : ∃ f, fuel = f + 1 := ⟨fuel - 1, by omega⟩
      have hs : s.stash = [] := (hp.pre (ws := []) h32).stash_nil rfl
      exact ⟨s.advance, lexRead_special hp.1 hspecial h13 f, hp.1.advance, advance_clean hs⟩ }

theorem RdLoop_iff (k : List Char) (v : Val) (t' : Tags) {afterK : List UInt8}
    (htl : ∀ rest, afterK ++ term :: rest = valPart v ++ tailOf sep term rest t') :
    RdLoop loop sep term (.cons k v t') ↔
      TagsRun (EndRt term) 9 loop term (.cons k v t') k (encChars k ++ afterK) afterK := by
  have hlen : (encTags (.cons k v t') sep).length = (encChars k ++ afterK).length := by
    have := congrArg List.length (encTags_split k v t' sep term [])
    rw [← htl] at this
    simp only [List.length_append, List.length_cons, List.length_nil] at this ⊢
    omega
  constructor
  · rintro h depth fuel sc ec acc _ rest rfl hat hs hf hn
    rw [htl] at hat
    exact h k v t' rfl depth fuel { sc := sc, tok := .id k } ec acc rest rfl hat hs
      (by rw [hlen]; simp at hf ⊢; omega) hn
  · intro h k0 v0 t0 e0
    cases e0
    intro depth fuel p ec acc rest htok hat hs hf hn
    obtain ⟨sc, tok⟩ := p
    subst htok
    exact h depth fuel sc ec acc _ rest rfl (by rw [htl]; exact hat) hs (by rw [← hlen]; simp; omega) hn

theorem RdLoop.spelled (sy : TagSyn sep term) {k : List Char} {v : Val} {t' : Tags}
    (hk : keysIdent (.cons k v t') = true) (h : RdLoop loop sep term (.cons k v t')) :
    RdTagsD (EndRt term) 9 loop term (.cons k v t') (encTags (.cons k v t') sep) := by
  intro k0 v0 t0 e0
  cases e0
  obtain ⟨afterK, hb, htl⟩ := encTags_afterK k v t' sep
  simp only [keysIdent, Bool.and_eq_true] at hk
  refine ⟨afterK, hb, hk.1, ?_, by rw [hb]; exact (RdLoop_iff k v t' (htl term)).mp h⟩
  rintro _ rest rfl
  rw [htl]; exact sy.stop_lit_tail rest v t'

theorem NextOkD_tailOf (L : TagLoop loop term) (C : sep = 44 → CommaLoop loop) (sy : TagSyn sep term)
    (t : Tags) (hk : keysIdent t = true) (ih : RdLoop loop sep term t) :
    ∃ tl, NextOkD Delim (EndRt term) 7 loop term t tl ∧ ∀ rest, tl ++ term :: rest = tailOf sep term rest t := by
  cases t with
  | nil => exact ⟨[], NextOkD_nil L sy.ends (by omega), fun _ => rfl⟩
  | cons k v t' =>
    have hsp := ih.spelled sy hk
    rcases sy.sep with rfl | rfl
    · exact ⟨[] ++ 44 :: ([] ++ encTags (.cons k v t') 44),
        NextOkD_comma Around.writer (C rfl) rfl rfl hsp,
        fun _ => by simp [tailOf]⟩
    · exact ⟨[32] ++ encTags (.cons k v t') 32,
        NextOkD_space blanks_one (by simp) (fun _ r hx => .of_space r hx) hsp,
        fun _ => by simp [tailOf]⟩

theorem RdLoop_cons (L : TagLoop loop term) (C : sep = 44 → CommaLoop loop) (sy : TagSyn sep term)
    {k : List Char} {v : Val} {t' : Tags} (hkt : keysIdent t' = true) (hv : isMarker v = false → RdVal v)
    (ih : RdLoop loop sep term t') : RdLoop loop sep term (.cons k v t') := by
  obtain ⟨tl, hnext, htl⟩ := NextOkD_tailOf L C sy t' hkt ih
  by_cases hm : isMarker v = true
  · obtain ⟨rfl, _⟩ := lexImg_marker hm
    exact (RdLoop_iff k .marker t' fun rest => by rw [htl]; rfl).mpr (TagsRun_marker L sy.ends k hnext)
  · have hvp : valPart v = 58 :: ([] ++ enc v true) := by simp [valPart, hm]
    exact (RdLoop_iff k v t' fun rest => by rw [hvp, ← htl]; simp).mpr
      (TagsRun_val L sy.ends (by omega) k (hv (by simpa using hm)) Blanks.nil (fun h => absurd rfl h) hnext)

end loop

theorem RdTags_nil (sep term : UInt8) : RdTags sep term .nil := RdLoop_nil dictParts sep term

theorem RdTags_cons {sep term : UInt8} (st : SepTerm sep term) {k : List Char} {v : Val} {t' : Tags}
    (hkt : keysIdent t' = true) (hv : isMarker v = false → RdVal v)
    (ih : RdTags sep term t') : RdTags sep term (.cons k v t') :=
  RdLoop_cons (tagLoop_dict (by rcases st.term with h | h <;> rw [h] <;> decide)) (fun _ => commaLoop_dict) st.syn
    hkt hv ih

theorem RdVal_dict {d : Tags} (hk : keysIdent d = true) (hsort : keysSorted d.keys = true)
    (h : RdTags 44 125 d) : RdVal (.dict d) := by
  have hr : RdTagsD (EndRt 125) 9 dictParts 125 d (encTags d 44) := by
    cases d with
    | nil => intro k v t' e; cases e
    | cons k v t' => exact RdLoop.spelled (loop := dictParts) st_dict.syn hk h
  have := RdD_dict Delim (w1 := []) (w2 := []) Blanks.nil Blanks.nil hsort (fun e => by rw [e]; rfl) (fun _ => rfl)
    (by decide) hr
  show RdD Delim (enc (.dict d) true) _ _
  rw [enc_dict]
  simpa using this

end Hs.Zinc

/-
  Hs.Lemmas.CmpHash — equal values make the same writes to a hasher; `partial_cmp`, when it
  answers, answers what `cmp` answers.
-/
import Hs.Lemmas.CmpEq
namespace Hs

theorem signMag_inj {m m' s s' : Nat} (hs : s < 2) (hs' : s' < 2)
    (h : (if s = 1 then -(m : Int) else m) = if s' = 1 then -(m' : Int) else m') :
    m = m' ∧ (m = 0 ∨ s = s') := by
  split at h <;> split at h <;> omega

theorem Flt.hashBits_of_key (x y : Flt) (hx : x.isNaN = false) (hy : y.isNaN = false)
    (h : x.key = y.key) : x.hashBits = y.hashBits := by
  -- the low 64 bits are magnitude and sign bit, the two things `key` is made of
  have lo (n : Nat) : n % 2 ^ 64 = n % 2 ^ 63 + 2 ^ 63 * (n / 2 ^ 63 % 2) := Nat.mod_pow_succ
  unfold Flt.hashBits
  simp only [hx, hy, Bool.false_eq_true, if_false, lo]
  obtain ⟨hm, h0 | hs⟩ := signMag_inj (Nat.mod_lt _ Nat.zero_lt_two) (Nat.mod_lt _ Nat.zero_lt_two) h
  · rw [if_pos h0, if_pos (hm ▸ h0)]
  · rw [hm, hs]

theorem Flt.feq_hash (x y : Flt) (h : x.feq y = true) : x.hashBits = y.hashBits := by
  simp [Flt.feq] at h
  exact Flt.hashBits_of_key x y h.1.1 h.1.2 h.2

theorem Date.cmp_eq (a b : Date) (h : a.cmp b = .eq) : a.y = b.y ∧ a.m = b.m ∧ a.d = b.d := by
  simpa [Date.cmp, Ordering.then_eq_eq, Int.compare_eq_eq, Nat.compare_eq_eq] using h
theorem Time.cmp_eq (a b : Time) (h : a.cmp b = .eq) : a.secs = b.secs ∧ a.ns = b.ns := by
  simpa [Time.cmp, Ordering.then_eq_eq, Nat.compare_eq_eq] using h
theorem DateTime.cmp_eq (a b : DateTime) (h : a.cmp b = .eq) : a.secs = b.secs ∧ a.ns = b.ns := by
  simpa [DateTime.cmp, Ordering.then_eq_eq, Int.compare_eq_eq, Nat.compare_eq_eq] using h

mutual
theorem hash_val : (a b : Val) → Val.eqv a b = true → a.hashSeq = b.hashSeq
  | a, b, h => by
    have hk := eqv_kind a b h
    cases Val.sameKind hk
    all_goals simp only [Val.eqv] at h
    all_goals simp only [Val.hashSeq]
    case bool x y => simp at h; rw [h]
    case num x y =>
      simp only [Num.eqv, Bool.and_eq_true, beq_iff_eq] at h
      rw [Flt.feq_hash _ _ h.1, h.2]
    case str x y => simp at h; rw [h]
    case uri x y => simp at h; rw [h]
    case ref x _ y _ => simp at h; rw [h]
    case sym x y => simp at h; rw [h]
    case date x y =>
      simp at h; obtain ⟨h1, h2, h3⟩ := Date.cmp_eq x y h; rw [h1, h2, h3]
    case time x y =>
      simp at h; obtain ⟨h1, h2⟩ := Time.cmp_eq x y h; rw [h1, h2]
    case dateTime x y =>
      simp at h; obtain ⟨h1, h2⟩ := DateTime.cmp_eq x y h; rw [h1, h2]
    case coord x1 x2 y1 y2 =>
      simp only [coordEq, Bool.and_eq_true] at h
      rw [Flt.feq_hash _ _ h.1, Flt.feq_hash _ _ h.2]
    case xstr x1 x2 y1 y2 => simp at h; rw [h.1, h.2]
    case list xs ys =>
      obtain ⟨h1, h2⟩ := hash_vals xs ys h; rw [h1, h2]
    case dict x y =>
      obtain ⟨h1, h2⟩ := hash_tags x y h; rw [h1, h2]
    case grid m1 c1 r1 v1 m2 c2 r2 v2 =>
      simp only [Bool.and_eq_true, beq_iff_eq] at h
      obtain ⟨⟨⟨hm, hc⟩, hr⟩, hv⟩ := h
      obtain ⟨hc1, hc2⟩ := hash_cols c1 c2 hc
      obtain ⟨hr1, hr2⟩ := hash_rows r1 r2 hr
      rw [hash_otags m1 m2 hm, hc1, hc2, hr1, hr2, hv]
termination_by structural a => a
theorem hash_vals : (a b : Vals) → Vals.eqv a b = true → a.length = b.length ∧ a.hashSeq = b.hashSeq
  | .nil, .nil, _ => ⟨rfl, rfl⟩
  | .nil, .cons _ _, h => by simp [Vals.eqv] at h
  | .cons _ _, .nil, h => by simp [Vals.eqv] at h
  | .cons a as, .cons b bs, h => by
    simp only [Vals.eqv, Bool.and_eq_true] at h
    obtain ⟨h1, h2⟩ := hash_vals as bs h.2
    simp only [Vals.length, Vals.hashSeq, hash_val a b h.1, h1, h2, and_self]
termination_by structural a => a
theorem hash_tags : (a b : Tags) → Tags.eqv a b = true → a.length = b.length ∧ a.hashSeq = b.hashSeq
  | .nil, .nil, _ => ⟨rfl, rfl⟩
  | .nil, .cons _ _ _, h => by simp [Tags.eqv] at h
  | .cons _ _ _, .nil, h => by simp [Tags.eqv] at h
  | .cons k a as, .cons l b bs, h => by
    simp only [Tags.eqv, Bool.and_eq_true, beq_iff_eq] at h
    obtain ⟨h1, h2⟩ := hash_tags as bs h.2
    simp only [Tags.length, Tags.hashSeq, hash_val a b h.1.2, h.1.1, h1, h2, and_self]
termination_by structural a => a
theorem hash_otags : (a b : OTags) → OTags.eqv a b = true → a.hashSeq = b.hashSeq
  | .none, .none, _ => rfl
  | .none, .some _, h => by simp [OTags.eqv] at h
  | .some _, .none, h => by simp [OTags.eqv] at h
  | .some a, .some b, h => by
    simp only [OTags.eqv] at h
    obtain ⟨h1, h2⟩ := hash_tags a b h
    simp only [OTags.hashSeq, h1, h2]
termination_by structural a => a
theorem hash_cols : (a b : Cols) → Cols.eqv a b = true → a.length = b.length ∧ a.hashSeq = b.hashSeq
  | .nil, .nil, _ => ⟨rfl, rfl⟩
  | .nil, .cons _ _ _, h => by simp [Cols.eqv] at h
  | .cons _ _ _, .nil, h => by simp [Cols.eqv] at h
  | .cons n m c, .cons n' m' c', h => by
    simp only [Cols.eqv, Bool.and_eq_true, beq_iff_eq] at h
    obtain ⟨h1, h2⟩ := hash_cols c c' h.2
    simp only [Cols.length, Cols.hashSeq, hash_otags m m' h.1.2, h.1.1, h1, h2, and_self]
termination_by structural a => a
theorem hash_rows : (a b : Rows) → Rows.eqv a b = true → a.length = b.length ∧ a.hashSeq = b.hashSeq
  | .nil, .nil, _ => ⟨rfl, rfl⟩
  | .nil, .cons _ _, h => by simp [Rows.eqv] at h
  | .cons _ _, .nil, h => by simp [Rows.eqv] at h
  | .cons a as, .cons b bs, h => by
    simp only [Rows.eqv, Bool.and_eq_true] at h
    obtain ⟨h1, h2⟩ := hash_rows as bs h.2
    obtain ⟨h3, h4⟩ := hash_tags a b h.1
    simp only [Rows.length, Rows.hashSeq, h1, h2, h3, h4, and_self]
termination_by structural a => a
end

theorem pThen_then {p : Option Ordering} {k : Unit → Option Ordering} {c1 c2 o : Ordering}
    (h1 : ∀ r, p = some r → c1 = r) (h2 : ∀ r, k () = some r → c2 = r) :
    pThen p k = some o → c1.then c2 = o := by
  intro h
  cases p with
  | none => simp [pThen] at h
  | some r =>
    have := h1 r rfl; subst this
    cases c1 <;> simp [pThen] at h <;> simp [Ordering.then]
    · exact h
    · exact h2 o h
    · exact h

theorem Num.pcmp_cmp (a b : Num) (ha : a.v.isNaN = false) (hb : b.v.isNaN = false) (o : Ordering) :
    a.pcmp b = some o → a.cmp b = o := by
  unfold Num.pcmp
  split
  · rename_i hu
    have hu' : a.unit = b.unit := by simpa using hu
    rw [Flt.pcmp_of _ _ ha hb, Num.cmp_of a b ha hb, hu', (cmpOptChars_eq_iff b.unit b.unit).2 rfl]
    intro h; cases h; cases compare a.v.key b.v.key <;> rfl
  · intro h; cases h

theorem coordPcmp_cmp (a1 a2 b1 b2 : Flt) (h1 : a1.isNaN = false) (h2 : a2.isNaN = false)
    (h3 : b1.isNaN = false) (h4 : b2.isNaN = false) (o : Ordering) :
    coordPcmp a1 a2 b1 b2 = some o → coordCmp a1 a2 b1 b2 = o := by
  rw [coordCmp_of _ _ _ _ h1 h2 h3 h4]
  unfold coordPcmp
  rw [Flt.pcmp_of _ _ h1 h3, Flt.pcmp_of _ _ h2 h4]
  cases compare a1.key b1.key <;> simp [Ordering.then] <;> intro h <;> exact h

theorem Tags.pcmp_cmp_of (a b : Tags) (h : ∀ o, Tags.pcmpVals a b = some o → Tags.cmpVals a b = o)
    (o : Ordering) : Tags.pcmp a b = some o → Tags.cmp a b = o := by
  rw [Tags.pcmp, Tags.cmp]
  cases cmpList cmpChars a.keys b.keys <;> simp [Ordering.then]
  exact h o

mutual
theorem pcmp_val : (a b : Val) → NF a → NF b → (o : Ordering) → Val.pcmp a b = some o → Val.cmp a b = o
  | a, b, ha, hb, o => by
    by_cases hk : a.kindIdx = b.kindIdx
    · rw [Val.pcmp_of_kind_eq hk, Val.cmp_of_kind_eq hk]
      cases Val.sameKind hk
      all_goals simp only [Val.pcmpSame, Val.cmpSame]
      case num x y => exact Num.pcmp_cmp x y (nf_num.1 ha) (nf_num.1 hb) o
      case coord x1 x2 y1 y2 =>
        exact coordPcmp_cmp _ _ _ _ (nf_coord.1 ha).1 (nf_coord.1 ha).2 (nf_coord.1 hb).1 (nf_coord.1 hb).2 o
      case list xs ys => exact pcmp_vals xs ys ha hb o
      case dict x y => exact Tags.pcmp_cmp_of x y (pcmp_tagsVals x y ha hb) o
      case grid m1 c1 r1 v1 m2 c2 r2 v2 =>
        obtain ⟨hm1, hc1, hr1⟩ := nf_grid.1 ha
        obtain ⟨hm2, hc2, hr2⟩ := nf_grid.1 hb
        exact pThen_then (pcmp_otags m1 m2 hm1 hm2) fun r =>
          pThen_then (pcmp_cols c1 c2 hc1 hc2) fun r =>
            pThen_then (pcmp_rows r1 r2 hr1 hr2) fun r h => by cases h; rfl
      -- the other payloads are totally ordered: `pcmpSame` is `some (cmpSame ..)`
      all_goals (intro h; cases h; rfl)
    · rw [Val.pcmp_of_kind_ne hk]
      exact fun h => Option.some.inj h
termination_by structural a => a
theorem pcmp_vals : (a b : Vals) → NFs a → NFs b → (o : Ordering) → Vals.pcmp a b = some o → Vals.cmp a b = o
  | .nil, .nil, _, _, o => by simp [Vals.pcmp, Vals.cmp]
  | .nil, .cons _ _, _, _, o => by simp [Vals.pcmp, Vals.cmp]
  | .cons _ _, .nil, _, _, o => by simp [Vals.pcmp, Vals.cmp]
  | .cons a as, .cons b bs, ha, hb, o => by
    simp only [Vals.pcmp, Vals.cmp]
    exact pThen_then (pcmp_val a b (nfs_cons.1 ha).1 (nfs_cons.1 hb).1)
      (pcmp_vals as bs (nfs_cons.1 ha).2 (nfs_cons.1 hb).2)
termination_by structural a => a
theorem pcmp_tagsVals : (a b : Tags) → NFt a → NFt b → (o : Ordering) →
    Tags.pcmpVals a b = some o → Tags.cmpVals a b = o
  | .nil, .nil, _, _, o => by simp [Tags.pcmpVals, Tags.cmpVals]
  | .nil, .cons _ _ _, _, _, o => by simp [Tags.pcmpVals, Tags.cmpVals]
  | .cons _ _ _, .nil, _, _, o => by simp [Tags.pcmpVals, Tags.cmpVals]
  | .cons k a as, .cons l b bs, ha, hb, o => by
    simp only [Tags.pcmpVals, Tags.cmpVals]
    exact pThen_then (pcmp_val a b (nft_cons.1 ha).1 (nft_cons.1 hb).1)
      (pcmp_tagsVals as bs (nft_cons.1 ha).2 (nft_cons.1 hb).2)
termination_by structural a => a
theorem pcmp_otags : (a b : OTags) → NFo a → NFo b → (o : Ordering) → OTags.pcmp a b = some o → OTags.cmp a b = o
  | .none, .none, _, _, o => by simp [OTags.pcmp, OTags.cmp]
  | .none, .some _, _, _, o => by simp [OTags.pcmp, OTags.cmp]
  | .some _, .none, _, _, o => by simp [OTags.pcmp, OTags.cmp]
  | .some a, .some b, ha, hb, o => by
    simp only [OTags.pcmp, OTags.cmp]
    exact Tags.pcmp_cmp_of a b (pcmp_tagsVals a b ha hb) o
termination_by structural a => a
theorem pcmp_cols : (a b : Cols) → NFc a → NFc b → (o : Ordering) → Cols.pcmp a b = some o → Cols.cmp a b = o
  | .nil, .nil, _, _, o => by simp [Cols.pcmp, Cols.cmp]
  | .nil, .cons _ _ _, _, _, o => by simp [Cols.pcmp, Cols.cmp]
  | .cons _ _ _, .nil, _, _, o => by simp [Cols.pcmp, Cols.cmp]
  | .cons n m c, .cons n' m' c', ha, hb, o => by
    simp only [Cols.pcmp, Cols.cmp]
    exact pThen_then
      (fun r => pThen_then (fun r h => by cases h; rfl)
        (pcmp_otags m m' (nfc_cons.1 ha).1 (nfc_cons.1 hb).1) (o := r))
      (pcmp_cols c c' (nfc_cons.1 ha).2 (nfc_cons.1 hb).2)
termination_by structural a => a
theorem pcmp_rows : (a b : Rows) → NFr a → NFr b → (o : Ordering) → Rows.pcmp a b = some o → Rows.cmp a b = o
  | .nil, .nil, _, _, o => by simp [Rows.pcmp, Rows.cmp]
  | .nil, .cons _ _, _, _, o => by simp [Rows.pcmp, Rows.cmp]
  | .cons _ _, .nil, _, _, o => by simp [Rows.pcmp, Rows.cmp]
  | .cons a as, .cons b bs, ha, hb, o => by
    simp only [Rows.pcmp, Rows.cmp]
    exact pThen_then (Tags.pcmp_cmp_of a b (pcmp_tagsVals a b (nfr_cons.1 ha).1 (nfr_cons.1 hb).1))
      (pcmp_rows as bs (nfr_cons.1 ha).2 (nfr_cons.1 hb).2)
termination_by structural a => a
end

theorem pcmp_tags : (a b : Tags) → NFt a → NFt b → (o : Ordering) → Tags.pcmp a b = some o → Tags.cmp a b = o
  | a, b, ha, hb, o => Tags.pcmp_cmp_of a b (pcmp_tagsVals a b ha hb) o

end Hs

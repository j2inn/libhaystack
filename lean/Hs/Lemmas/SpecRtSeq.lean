/-
  C04 (write direction): the separated sequences inside a value.  List items through `listItems`; tags through `tags`
  — `,`-separated inside `{}`, space-separated in grid meta and column meta (terminated by the newline, or by the `,`
  before the next column) — with dicts and the optional meta of a grid or a column.  `dictOf` of the reference reader is
  the library model's.
-/
import Hs.Lemmas.SpecRtVal
namespace Hs.Spec
open Hs Hs.Zinc Hs.Scan

theorem encVals_start : ∀ (v : Val) (vs : Vals), Rd v → Start (encVals (.cons v vs))
  | v, .nil, h => by rw [encVals_one]; exact h.start
  | v, .cons w ws, h => by rw [encVals_cons2]; exact h.start.append _

theorem listItems_nil (f : Nat) (rest : List UInt8) (acc : List Val) :
    listItems (f + 1) (93 :: rest) acc = some (.list (Vals.ofList acc), rest) := by
  rw [listItems.eq_def]; simp

theorem listItems_last (f : Nat) (i : List UInt8) (acc : List Val) (v : Val) (rest : List UInt8)
    (hstart : Start i) (hv : value f i = some (v, 93 :: rest)) :
    listItems (f + 1) i acc = some (.list (Vals.ofList (acc ++ [v])), rest) := by
  obtain ⟨b, r, rfl, hb⟩ := hstart
  have h93 : b ≠ 93 := ne_of_class hb (by decide)
  rw [listItems.eq_def]
  simp [h93, hv, skipWs_cons]

theorem listItems_more (f : Nat) (i : List UInt8) (acc : List Val) (v : Val) (r2 : List UInt8)
    (hstart : Start i) (hv : value f i = some (v, 44 :: r2)) :
    listItems (f + 1) i acc = listItems f (skipWs r2) (acc ++ [v]) := by
  obtain ⟨b, r, rfl, hb⟩ := hstart
  have h93 : b ≠ 93 := ne_of_class hb (by decide)
  rw [listItems.eq_def]
  simp [h93, hv, skipWs_cons]

theorem specImgs_toList_cons (v : Val) (vs : Vals) : (specImgs (.cons v vs)).toList = specImg v :: (specImgs vs).toList := by
  simp [specImgs, Vals.toList]

theorem listItems_rt : ∀ (v : Val) (vs : Vals), RdVs (.cons v vs) →
    ∀ (fuel : Nat) (rest : List UInt8) (acc : List Val), (encVals (.cons v vs)).length + 3 ≤ fuel →
    listItems fuel (encVals (.cons v vs) ++ 93 :: rest) acc =
      some (.list (Vals.ofList (acc ++ (specImgs (.cons v vs)).toList)), rest)
  | v, .nil, h, fuel, rest, acc, hf => by
    obtain ⟨f, rfl⟩ : ∃ f, fuel = f + 1 := ⟨fuel - 1, by omega⟩
    rw [encVals_one] at hf ⊢
    have hv := h.1.reads f (93 :: rest) (.of_end rest (by simp)) (by omega)
    rw [listItems_last f _ acc _ rest (h.1.start.append _) hv]
    simp [specImgs, Vals.toList]
  | v, .cons w ws, h, fuel, rest, acc, hf => by
    obtain ⟨f, rfl⟩ : ∃ f, fuel = f + 1 := ⟨fuel - 1, by omega⟩
    rw [encVals_cons2] at hf ⊢
    simp only [List.length_append, List.length_cons] at hf
    have hv := h.1.reads f (44 :: (encVals (.cons w ws) ++ 93 :: rest)) (.of_end _ (by simp)) (by omega)
    simp only [List.append_assoc, List.cons_append]
    rw [listItems_more f _ acc _ _ (h.1.start.append _) hv, (encVals_start w ws h.2.1).skipWs,
      listItems_rt w ws h.2 f rest _ (by omega), specImgs_toList_cons v]
    simp

theorem rd_list (xs : Vals) (h : RdVs xs) : Rd (.list xs) := by
  have he := enc_list xs true
  refine ⟨⟨91, _, he, by decide⟩, ?_⟩
  intro fuel rest _ hf
  rw [he] at hf ⊢
  simp only [List.length_cons, List.length_append, List.length_nil] at hf
  obtain ⟨f, rfl⟩ : ∃ f, fuel = f + 1 := ⟨fuel - 1, by omega⟩
  simp only [List.cons_append, List.append_assoc, List.nil_append]
  rw [value.eq_def]
  simp only [beq_self_eq_true, if_true]
  cases xs with
  | nil =>
    obtain ⟨g, rfl⟩ : ∃ g, f = g + 1 := ⟨f - 1, by omega⟩
    simp only [encVals, List.nil_append]
    rw [skipWs_cons (by decide) (by decide), listItems_nil]
    simp [specImg, specImgs, Vals.ofList]
  | cons v vs =>
    rw [(encVals_start v vs h.1).skipWs, listItems_rt v vs h f rest [] (by omega)]
    simp [specImg, Vals.ofList_toList]

theorem nameLe_iff : ∀ a b : List Char, nameLe a b = true ↔ a ≤ b :=
  Key.le_iff (fun _ => by rw [nameLe]) (fun _ _ => by rw [nameLe]) (fun _ _ _ _ => by rw [nameLe])

theorem insertTag_eq : insertTag = Key.insert :=
  Key.insert_of_eqns nameLe_iff (fun _ _ => rfl) (fun _ _ _ _ _ => rfl)

theorem dictOf_eq (kvs : List (List Char × Val)) : Hs.Spec.dictOf kvs = Hs.Zinc.dictOf kvs := by
  rw [Hs.Spec.dictOf, insertTag_eq, dictOf_eq_collect]; rfl

theorem specImgT_keys : ∀ t : Tags, (specImgT t).keys = t.keys
  | .nil => rfl
  | .cons k v t => by simp [specImgT, Tags.keys, specImgT_keys t]

theorem dictOf_specImgT (t : Tags) (h : keysSorted t.keys = true) :
    Hs.Spec.dictOf (specImgT t).toList = specImgT t := by
  rw [dictOf_eq]
  exact dictOf_toList _ (by rw [specImgT_keys]; exact h)

theorem specImgT_toList : ∀ t : Tags, (specImgT t).toList = t.toList.map (fun p => (p.1, specImg p.2))
  | .nil => rfl
  | .cons k v t => by simp [specImgT, Tags.toList, specImgT_toList t]

theorem specImg_marker {v : Val} (h : isMarker v = true) : specImg v = .marker := by
  cases v <;> simp [isMarker] at h
  simp [specImg]

/-- piece of `tags`: what it does after one tag (name and value) has been read, `r3` being the text after it -/
def tagsCont (f : Nat) (braced : Bool) (acc' : List (List Char × Val)) (r3 : In) :
    Option (List (List Char × Val) × In) :=
  match skipWs r3 with
  | 44 :: r5 => if braced then tags f (skipWs r5) braced acc' else some (acc', r3)
  | _ => if (skipWs r3).length < r3.length then tags f (skipWs r3) braced acc' else some (acc', r3)

theorem tags_step_marker (f : Nat) (i : In) (braced : Bool) (acc : List (List Char × Val)) (k : List Char) (r1 : In)
    (hid : ident i = some (k, r1)) (h58 : ∀ r, r1 ≠ 58 :: r) :
    tags (f + 1) i braced acc = tagsCont f braced (acc ++ [(k, .marker)]) r1 := by
  rw [tags.eq_def]
  -- `simp` takes the arm of `match r1 with | 58 :: r2 => … | _ => …` that `h58` leaves
  simp only [hid]
  rfl

theorem tags_step_val (f : Nat) (i : In) (braced : Bool) (acc : List (List Char × Val)) (k : List Char) (r2 : In)
    (hid : ident i = some (k, 58 :: r2)) (v : Val) (r3 : In) (hv : value f (skipWs r2) = some (v, r3)) :
    tags (f + 1) i braced acc = tagsCont f braced (acc ++ [(k, v)]) r3 := by
  rw [tags.eq_def]
  simp only [hid, hv]
  rfl

theorem tags_end (f : Nat) (i : In) (braced : Bool) (acc : List (List Char × Val)) (h : ident i = none) :
    tags (f + 1) i braced acc = some (acc, i) := by
  rw [tags.eq_def]
  simp only [h]

theorem tagsCont_term (f : Nat) (braced : Bool) (acc' : List (List Char × Val)) (c : UInt8) (r : In)
    (h1 : c ≠ 32) (h2 : c ≠ 9) (h3 : c ≠ 44) :
    tagsCont f braced acc' (c :: r) = some (acc', c :: r) := by
  simp [tagsCont, skipWs_cons h1 h2, h3]

/-- separator / terminator / `braced` flag combinations of writer output -/
def TagCtx (sep term : UInt8) (braced : Bool) : Prop :=
  (sep = 44 ∧ braced = true ∧ term = 125) ∨ (sep = 32 ∧ braced = false ∧ (term = 10 ∨ term = 44))

theorem TagCtx.syn {sep term : UInt8} {braced : Bool} (h : TagCtx sep term braced) : TagSyn sep term := by
  rcases h with ⟨rfl, _, rfl⟩ | ⟨rfl, _, h | h⟩
  · exact ⟨Or.inl rfl, Or.inr (Or.inl rfl)⟩
  · exact ⟨Or.inr rfl, Or.inr (Or.inr h)⟩
  · exact ⟨Or.inr rfl, Or.inl h⟩

theorem _root_.Hs.Zinc.TermC.ctx {term : UInt8} (st : TermC term) : TagCtx 32 term false :=
  Or.inr ⟨rfl, rfl, st.elim Or.inr Or.inl⟩

theorem ctx_dict : TagCtx 44 125 true := Or.inl ⟨rfl, rfl, rfl⟩
theorem ctx_meta : TagCtx 32 10 false := Or.inr ⟨rfl, rfl, Or.inl rfl⟩

def tagsNext (f : Nat) (braced : Bool) (sep term : UInt8) (rest : List UInt8) (acc' : List (List Char × Val)) :
    Tags → Option (List (List Char × Val) × In)
  | .nil => some (acc', term :: rest)
  | .cons k v t => tags f (encTags (.cons k v t) sep ++ term :: rest) braced acc'

theorem tagsCont_tail {sep term : UInt8} {braced : Bool} (ctx : TagCtx sep term braced) (f : Nat)
    (acc' : List (List Char × Val)) (rest : List UInt8) (t : Tags) (hk : keysIdent t = true) :
    tagsCont f braced acc' (tailOf sep term rest t) = tagsNext f braced sep term rest acc' t := by
  cases t with
  | nil =>
    simp only [tailOf, tagsNext]
    rcases ctx with ⟨_, rfl, rfl⟩ | ⟨_, rfl, rfl | rfl⟩
    · exact tagsCont_term f _ acc' 125 rest (by decide) (by decide) (by decide)
    · exact tagsCont_term f _ acc' 10 rest (by decide) (by decide) (by decide)
    · simp [tagsCont, skipWs_cons]  -- `,` outside braces ends the tags (column meta)
  | cons k v t' =>
    simp only [keysIdent, Bool.and_eq_true] at hk
    obtain ⟨b, r, e, hb⟩ := isIdent_head hk.1
    have hsplit : encTags (.cons k v t') sep ++ term :: rest = b :: (r ++ (valPart v ++ tailOf sep term rest t')) := by
      rw [encTags_split, e]; simp
    simp only [tailOf, tagsNext]
    rw [hsplit]
    rcases ctx with ⟨rfl, rfl, _⟩ | ⟨rfl, rfl, _⟩
    · simp [tagsCont, skipWs_cons, skipWs_lower hb]
    · have h44 : b ≠ 44 := ne_of_class hb (by decide)
      simp [tagsCont, skipWs_space, skipWs_lower hb, h44]

theorem tags_one {sep term : UInt8} {braced : Bool} (ctx : TagCtx sep term braced)
    (k : List Char) (v : Val) (t : Tags) (hk : keysIdent (.cons k v t) = true) (hv : Rd v)
    (f : Nat) (rest : List UInt8) (acc : List (List Char × Val))
    (hf : (encTags (.cons k v t) sep).length + 2 ≤ f) :
    tags (f + 1) (encTags (.cons k v t) sep ++ term :: rest) braced acc =
      tagsNext f braced sep term rest (acc ++ [(k, specImg v)]) t := by
  simp only [keysIdent, Bool.and_eq_true] at hk
  rw [encTags_length] at hf
  rw [encTags_split]
  have hid := ident_rt k hk.1 _ (ctx.syn.stop_lit_tail rest v t)
  by_cases hm : isMarker v = true
  · have hvp : valPart v = [] := by simp [valPart, hm]
    rw [hvp] at hid ⊢
    simp only [List.nil_append] at hid ⊢
    have h58 : ∀ r, tailOf sep term rest t ≠ 58 :: r := fun r e => by
      simpa using (Delim_tailOf ctx.syn rest t hk.2).stop (P := (· == 58)) (by decide) 58 r e
    rw [tags_step_marker f _ braced acc k _ hid h58, tagsCont_tail ctx f _ rest t hk.2, specImg_marker hm]
  · have hvp : valPart v = 58 :: enc v true := by simp [valPart, hm]
    rw [hvp] at hid hf ⊢
    simp only [List.cons_append, List.length_cons] at hid hf ⊢
    have hval := hv.reads f (tailOf sep term rest t) (Delim_tailOf ctx.syn rest t hk.2) (by omega)
    rw [← hv.start.skipWs] at hval
    rw [tags_step_val f _ braced acc k _ hid _ _ hval, tagsCont_tail ctx f _ rest t hk.2]

theorem tags_rt {sep term : UInt8} {braced : Bool} (ctx : TagCtx sep term braced) :
    ∀ (k : List Char) (v : Val) (t : Tags), keysIdent (.cons k v t) = true → RdT (.cons k v t) →
    ∀ (fuel : Nat) (rest : List UInt8) (acc : List (List Char × Val)),
      (encTags (.cons k v t) sep).length + 3 ≤ fuel →
      tags fuel (encTags (.cons k v t) sep ++ term :: rest) braced acc =
        some (acc ++ (specImgT (.cons k v t)).toList, term :: rest)
  | k, v, .nil, hk, hr, fuel, rest, acc, hf => by
    obtain ⟨f, rfl⟩ : ∃ f, fuel = f + 1 := ⟨fuel - 1, by omega⟩
    rw [tags_one ctx k v .nil hk hr.1 f rest acc (by omega)]
    simp [tagsNext, specImgT, Tags.toList]
  | k, v, .cons k2 v2 t2, hk, hr, fuel, rest, acc, hf => by
    obtain ⟨f, rfl⟩ : ∃ f, fuel = f + 1 := ⟨fuel - 1, by omega⟩
    have hk2 := keysIdent_tail hk
    have hlen := encTags_length k v (.cons k2 v2 t2) sep
    simp only [sepLen] at hlen
    rw [tags_one ctx k v _ hk hr.1 f rest acc (by omega)]
    simp only [tagsNext]
    rw [tags_rt ctx k2 v2 t2 hk2 hr.2 f rest _ (by omega)]
    simp [specImgT_toList, Tags.toList]

theorem skipWs_encTags (k : List Char) (v : Val) (t : Tags) (sep term : UInt8)
    (hk : keysIdent (.cons k v t) = true) (rest : List UInt8) :
    skipWs (encTags (.cons k v t) sep ++ term :: rest) = encTags (.cons k v t) sep ++ term :: rest := by
  rw [encTags_split]; exact skipWs_ident (and_true_left hk) _

theorem rd_dict (d : Tags) (hk : keysIdent d = true) (hs : keysSorted d.keys = true) (h : RdT d) : Rd (.dict d) := by
  have he := enc_dict d true
  refine ⟨⟨123, _, he, by decide⟩, ?_⟩
  intro fuel rest _ hf
  rw [he] at hf ⊢
  simp only [List.length_cons, List.length_append, List.length_nil] at hf
  obtain ⟨f, rfl⟩ : ∃ f, fuel = f + 1 := ⟨fuel - 1, by omega⟩
  simp only [List.cons_append, List.append_assoc, List.nil_append]
  rw [value.eq_def]
  simp only [show ((123 : UInt8) == 91) = false by decide, beq_self_eq_true, Bool.false_eq_true, if_false, if_true]
  cases d with
  | nil =>
    obtain ⟨g, rfl⟩ : ∃ g, f = g + 1 := ⟨f - 1, by omega⟩
    simp only [encTags, List.nil_append]
    rw [skipWs_cons (by decide) (by decide), tags_end g _ true [] (ident_none (by intro b r e; cases e; decide))]
    simp [skipWs_cons, specImg, specImgT, Hs.Spec.dictOf, Tags.ofList]
  | cons k v t =>
    rw [skipWs_encTags k v t 44 125 hk, tags_rt ctx_dict k v t hk h f rest [] (by omega)]
    simp only [List.nil_append]
    rw [skipWs_cons (by decide) (by decide), dictOf_specImgT _ hs]
    simp [specImg]

theorem meta_rt {term : UInt8} (st : TermC term) (md : OTags) (hs : metaShape md = true) (hr : RdO md)
    (fuel : Nat) (rest : List UInt8) (hf : (metaPart md).length + 3 ≤ fuel) :
    ∃ kvs, tags fuel (skipWs (metaPart md ++ term :: rest)) false [] = some (kvs, term :: rest) ∧
      (if kvs.isEmpty then OTags.none else OTags.some (Hs.Spec.dictOf kvs)) = specImgO md := by
  have hterm : term ≠ 32 ∧ term ≠ 9 ∧ isLowerB term = false := by
    rcases st with rfl | rfl <;> decide
  cases md with
  | none =>
    obtain ⟨f, rfl⟩ : ∃ f, fuel = f + 1 := ⟨fuel - 1, by omega⟩
    refine ⟨[], ?_, by simp [specImgO]⟩
    simp only [metaPart, List.nil_append]
    rw [skipWs_cons hterm.1 hterm.2.1, tags_end f _ false [] (ident_none (by intro b r e; cases e; exact hterm.2.2))]
  | some t =>
    cases t with
    | nil => simp [metaShape, Tags.isEmpty] at hs
    | cons k v t' =>
      obtain ⟨_, hk, hsrt⟩ := metaShape_some hs
      have hmp : metaPart (.some (.cons k v t')) = 32 :: encTags (.cons k v t') 32 := by simp [metaPart, Tags.isEmpty]
      rw [hmp] at hf ⊢
      simp only [List.length_cons] at hf
      have hnw : skipWs (32 :: encTags (.cons k v t') 32 ++ term :: rest) = encTags (.cons k v t') 32 ++ term :: rest := by
        rw [List.cons_append, skipWs_space, skipWs_encTags k v t' 32 term hk]
      refine ⟨(specImgT (.cons k v t')).toList, ?_, ?_⟩
      · rw [hnw, tags_rt st.ctx k v t' hk hr fuel rest [] (by omega)]
        simp
      · rw [dictOf_specImgT _ hsrt]
        simp [specImgT, Tags.toList, specImgO]

end Hs.Spec

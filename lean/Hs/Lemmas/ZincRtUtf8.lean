/-
  UTF-8 groundwork for every proof about texts (Zinc and filter): `lossy (encChars s) = s`, the bytes of a
  non-ASCII character are all ≥ 0x80, and on ASCII texts one byte is one character (`byteOf`, `chr`, `AllB`).
-/
import Hs.Model.ZincLex
namespace Hs
open Hs

theorem u8_ofNat_toNat {n : Nat} (h : n < 256) : (UInt8.ofNat n).toNat = n := by
  simp [UInt8.toNat_ofNat']; omega


theorem char_bounds (c : Char) : c.toNat < 0xD800 ∨ (0xDFFF < c.toNat ∧ c.toNat < 0x110000) := by
  have := c.valid
  simp [UInt32.isValidChar, Nat.isValidChar] at this
  have e : c.val.toNat = c.toNat := rfl
  omega

/-! ### the lossy decoder, one well-formed sequence at a time -/

theorem lossy1 (b0 : UInt8) (rest : List UInt8) (fuel : Nat) (h0 : b0.toNat < 128) :
    utf8Lossy (fuel+1) (b0 :: rest) = Char.ofNat b0.toNat :: utf8Lossy fuel rest := by
  simp only [utf8Lossy, UInt8.lt_iff_toNat_lt, UInt8.reduceToNat]
  rw [if_pos (by omega)]

theorem lossy2 (b0 b1 : UInt8) (rest : List UInt8) (fuel : Nat)
    (h0 : 194 ≤ b0.toNat ∧ b0.toNat ≤ 223) (h1 : 128 ≤ b1.toNat ∧ b1.toNat ≤ 191) :
    utf8Lossy (fuel+1) (b0 :: b1 :: rest) =
      Char.ofNat ((b0.toNat - 192) * 64 + (b1.toNat - 128)) :: utf8Lossy fuel rest := by
  simp only [utf8Lossy, isCont, UInt8.lt_iff_toNat_lt, UInt8.le_iff_toNat_le, UInt8.reduceToNat, Bool.and_eq_true, decide_eq_true_eq]
  rw [if_neg (by omega), if_pos (by omega), if_pos (by omega)]

theorem lossy3 (b0 b1 b2 : UInt8) (rest : List UInt8) (fuel : Nat)
    (h0 : 224 ≤ b0.toNat ∧ b0.toNat ≤ 239) (h1 : 128 ≤ b1.toNat ∧ b1.toNat ≤ 191)
    (h2 : 128 ≤ b2.toNat ∧ b2.toNat ≤ 191)
    (hE0 : b0.toNat = 224 → 160 ≤ b1.toNat) (hED : b0.toNat = 237 → b1.toNat ≤ 159) :
    utf8Lossy (fuel+1) (b0 :: b1 :: b2 :: rest) =
      Char.ofNat ((b0.toNat - 224) * 4096 + (b1.toNat - 128) * 64 + (b2.toNat - 128)) :: utf8Lossy fuel rest := by
  simp only [utf8Lossy, isCont, UInt8.lt_iff_toNat_lt, UInt8.le_iff_toNat_le, beq_iff_eq, ← UInt8.toNat_inj, UInt8.reduceToNat,
    Bool.and_eq_true, decide_eq_true_eq]
  rw [if_neg (by omega), if_neg (by omega), if_pos (by omega)]
  by_cases a : b0.toNat = 224 <;> by_cases b : b0.toNat = 237 <;>
    simp only [a, b, if_true, if_false, UInt8.reduceToNat, Nat.reduceEqDiff]
  all_goals first | omega | (rw [if_pos (by omega), if_pos (by omega)])

theorem lossy4 (b0 b1 b2 b3 : UInt8) (rest : List UInt8) (fuel : Nat)
    (h0 : 240 ≤ b0.toNat ∧ b0.toNat ≤ 244) (h1 : 128 ≤ b1.toNat ∧ b1.toNat ≤ 191)
    (h2 : 128 ≤ b2.toNat ∧ b2.toNat ≤ 191) (h3 : 128 ≤ b3.toNat ∧ b3.toNat ≤ 191)
    (hF0 : b0.toNat = 240 → 144 ≤ b1.toNat) (hF4 : b0.toNat = 244 → b1.toNat ≤ 143) :
    utf8Lossy (fuel+1) (b0 :: b1 :: b2 :: b3 :: rest) =
      Char.ofNat ((b0.toNat - 240) * 262144 + (b1.toNat - 128) * 4096 + (b2.toNat - 128) * 64
        + (b3.toNat - 128)) :: utf8Lossy fuel rest := by
  simp only [utf8Lossy, isCont, UInt8.lt_iff_toNat_lt, UInt8.le_iff_toNat_le, beq_iff_eq, ← UInt8.toNat_inj, UInt8.reduceToNat,
    Bool.and_eq_true, decide_eq_true_eq]
  rw [if_neg (by omega), if_neg (by omega), if_neg (by omega), if_pos (by omega)]
  by_cases a : b0.toNat = 240 <;> by_cases b : b0.toNat = 244 <;>
    simp only [a, b, if_true, if_false, UInt8.reduceToNat, Nat.reduceEqDiff]
  all_goals first | omega | (rw [if_pos (by omega), if_pos (by omega), if_pos (by omega)])

/-! ### shape of `encChar` -/

/-- `d3 … d0` are the base-64 digits of the scalar value -/
theorem encChar_cases (c : Char) :
    (c.toNat ≤ 0x7f ∧ ∃ b0 : UInt8, encChar c = [b0] ∧ b0.toNat = c.toNat) ∨
    (0x7f < c.toNat ∧ c.toNat ≤ 0x7ff ∧ ∃ (d1 d0 : Nat) (b0 b1 : UInt8), encChar c = [b0, b1] ∧
       c.toNat = d1 * 64 + d0 ∧ d0 < 64 ∧ b0.toNat = d1 + 192 ∧ b1.toNat = d0 + 128) ∨
    (0x7ff < c.toNat ∧ c.toNat ≤ 0xffff ∧ ∃ (d2 d1 d0 : Nat) (b0 b1 b2 : UInt8), encChar c = [b0, b1, b2] ∧
       c.toNat = d2 * 4096 + d1 * 64 + d0 ∧ d1 < 64 ∧ d0 < 64 ∧
       b0.toNat = d2 + 224 ∧ b1.toNat = d1 + 128 ∧ b2.toNat = d0 + 128) ∨
    (0xffff < c.toNat ∧ ∃ (d3 d2 d1 d0 : Nat) (b0 b1 b2 b3 : UInt8), encChar c = [b0, b1, b2, b3] ∧
       c.toNat = d3 * 262144 + d2 * 4096 + d1 * 64 + d0 ∧ d2 < 64 ∧ d1 < 64 ∧ d0 < 64 ∧
       b0.toNat = d3 + 240 ∧ b1.toNat = d2 + 128 ∧ b2.toNat = d1 + 128 ∧ b3.toNat = d0 + 128) := by
  have hv : c.val.toNat = c.toNat := rfl
  have hb := char_bounds c
  unfold encChar String.utf8EncodeChar
  simp only [hv]
  generalize c.toNat = v at *
  by_cases h1 : v ≤ 0x7f
  · left; rw [if_pos h1]; exact ⟨h1, _, rfl, u8_ofNat_toNat (by omega)⟩
  · rw [if_neg h1]
    by_cases h2 : v ≤ 0x7ff
    · right; left; rw [if_pos h2]
      refine ⟨by omega, h2, v / 64, v % 64, _, _, rfl, by omega, by omega, ?_, u8_ofNat_toNat (by omega)⟩
      rw [u8_ofNat_toNat (by omega)]; omega
    · rw [if_neg h2]
      by_cases h3 : v ≤ 0xffff
      · right; right; left; rw [if_pos h3]
        refine ⟨by omega, h3, v / 4096, v / 64 % 64, v % 64, _, _, _, rfl, by omega, by omega, by omega, ?_,
          u8_ofNat_toNat (by omega), u8_ofNat_toNat (by omega)⟩
        rw [u8_ofNat_toNat (by omega)]; omega
      · right; right; right; rw [if_neg h3]
        refine ⟨by omega, v / 262144, v / 4096 % 64, v / 64 % 64, v % 64, _, _, _, _, rfl, by omega, by omega,
          by omega, by omega, ?_, u8_ofNat_toNat (by omega), u8_ofNat_toNat (by omega), u8_ofNat_toNat (by omega)⟩
        rw [u8_ofNat_toNat (by omega)]; omega

theorem utf8Lossy_encChar (c : Char) (rest : List UInt8) (fuel : Nat) :
    utf8Lossy (fuel + 1) (encChar c ++ rest) = c :: utf8Lossy fuel rest := by
  have hb := char_bounds c
  have hc : Char.ofNat c.toNat = c := Char.ofNat_toNat c
  rcases encChar_cases c with ⟨h, b0, e, e0⟩ | ⟨h, h', d1, d0, b0, b1, e, ev, l0, e0, e1⟩ |
      ⟨h, h', d2, d1, d0, b0, b1, b2, e, ev, l1, l0, e0, e1, e2⟩ |
      ⟨h, d3, d2, d1, d0, b0, b1, b2, b3, e, ev, l2, l1, l0, e0, e1, e2, e3⟩
  · rw [e, List.singleton_append, lossy1 _ _ _ (by omega), e0, hc]
  · rw [e, List.cons_append, List.singleton_append, lossy2 _ _ _ _ (by omega) (by omega), e0, e1,
      Nat.add_sub_cancel, Nat.add_sub_cancel, ← ev, hc]
  · rw [e, List.cons_append, List.cons_append, List.singleton_append,
      lossy3 _ _ _ _ _ (by omega) (by omega) (by omega) (by omega) (by omega), e0, e1, e2,
      Nat.add_sub_cancel, Nat.add_sub_cancel, Nat.add_sub_cancel, ← ev, hc]
  · rw [e, List.cons_append, List.cons_append, List.cons_append, List.singleton_append,
      lossy4 _ _ _ _ _ _ (by omega) (by omega) (by omega) (by omega) (by omega) (by omega), e0, e1, e2, e3,
      Nat.add_sub_cancel, Nat.add_sub_cancel, Nat.add_sub_cancel, Nat.add_sub_cancel, ← ev, hc]

theorem encChar_length_pos (c : Char) : 0 < (encChar c).length := by
  unfold encChar; rw [String.length_utf8EncodeChar]; exact Char.utf8Size_pos c

theorem encChars_append (a b : List Char) : encChars (a ++ b) = encChars a ++ encChars b := by
  simp [encChars]
theorem encChars_cons (c : Char) (s : List Char) : encChars (c :: s) = encChar c ++ encChars s := by
  simp [encChars]
@[simp] theorem encChars_nil : encChars [] = [] := rfl

theorem utf8Lossy_encChars (s : List Char) (rest : List UInt8) (fuel : Nat) (hf : s.length ≤ fuel) :
    utf8Lossy fuel (encChars s ++ rest) = s ++ utf8Lossy (fuel - s.length) rest := by
  induction s generalizing fuel with
  | nil => simp
  | cons c cs ih =>
    cases fuel with
    | zero => simp at hf
    | succ f =>
      rw [encChars_cons, List.append_assoc, utf8Lossy_encChar, ih f (by simpa using hf)]
      simp

theorem encChars_length_ge (s : List Char) : s.length ≤ (encChars s).length := by
  induction s with
  | nil => simp
  | cons c cs ih =>
    have := encChar_length_pos c
    rw [encChars_cons]; simp; omega

theorem utf8Lossy_nil (fuel : Nat) : utf8Lossy fuel [] = [] := by
  cases fuel <;> simp [utf8Lossy]

theorem lossy_encChars (s : List Char) : lossy (encChars s) = s := by
  unfold lossy
  have h := utf8Lossy_encChars s [] ((encChars s).length + 1) (by have := encChars_length_ge s; omega)
  simp only [List.append_nil] at h
  rw [h, utf8Lossy_nil]; simp

theorem encChar_ascii (c : Char) (h : c.toNat < 128) : encChar c = [UInt8.ofNat c.toNat] := by
  have hv : c.val.toNat = c.toNat := rfl
  unfold encChar String.utf8EncodeChar
  simp only [hv]
  rw [if_pos (by omega)]

theorem char_toNat_ofNat (n : Nat) (h : n < 0xD800) : (Char.ofNat n).toNat = n := by
  have hv : n.isValidChar := Or.inl h
  unfold Char.ofNat
  rw [dif_pos hv]
  simp [Char.ofNatAux, Char.toNat]

theorem encChar_ofNat_ascii (n : Nat) (h : n < 128) : encChar (Char.ofNat n) = [UInt8.ofNat n] := by
  have : (Char.ofNat n).toNat = n := char_toNat_ofNat n (by omega)
  rw [encChar_ascii _ (by omega), this]

theorem encChar_nonascii (c : Char) (h : 128 ≤ c.toNat) : ∀ b ∈ encChar c, 128 ≤ b.toNat := by
  intro b hb
  rcases encChar_cases c with ⟨h, b0, e, e0⟩ | ⟨_, _, _, _, b0, b1, e, _, _, e0, e1⟩ |
      ⟨_, _, _, _, _, b0, b1, b2, e, _, _, _, e0, e1, e2⟩ |
      ⟨_, _, _, _, _, b0, b1, b2, b3, e, _, _, _, _, e0, e1, e2, e3⟩
  · omega
  · rw [e] at hb; simp at hb; rcases hb with rfl | rfl <;> omega
  · rw [e] at hb; simp at hb; rcases hb with rfl | rfl | rfl <;> omega
  · rw [e] at hb; simp at hb; rcases hb with rfl | rfl | rfl | rfl <;> omega

theorem encChar_bytes_ne (c : Char) (b0 : UInt8) (hb0 : b0.toNat < 128) (hc : c.toNat ≠ b0.toNat) :
    ∀ b ∈ encChar c, b ≠ b0 := by
  intro b hb e
  subst e
  by_cases h : c.toNat < 128
  · rw [encChar_ascii c h] at hb
    simp at hb
    rw [hb, u8_ofNat_toNat (by omega)] at hc
    exact hc rfl
  · have := encChar_nonascii c (by omega) b hb
    omega

end Hs

namespace Hs.Zinc
open Hs

/-! ### ASCII texts: one byte per character -/

def byteOf (c : Char) : UInt8 := UInt8.ofNat c.toNat

theorem chr_byteOf (c : Char) (h : c.toNat < 128) : chr (byteOf c) = c := by
  unfold chr byteOf
  rw [u8_ofNat_toNat (by omega), Char.ofNat_toNat]

theorem chr_toNat (b : UInt8) (h : b.toNat < 128) : (chr b).toNat = b.toNat := by
  unfold chr
  exact char_toNat_ofNat b.toNat (by omega)

theorem byteOf_chr (b : UInt8) (h : b.toNat < 128) : byteOf (chr b) = b := by
  unfold byteOf
  rw [chr_toNat b h]
  exact UInt8.ofNat_toNat

def AllB (P : UInt8 → Bool) (cs : List Char) : Bool := cs.all (fun c => c.toNat < 128 && P (byteOf c))

theorem AllB_cons {P : UInt8 → Bool} {c : Char} {cs : List Char} :
    AllB P (c :: cs) = true ↔ (c.toNat < 128 ∧ P (byteOf c) = true) ∧ AllB P cs = true := by
  simp [AllB]

theorem AllB_ascii {P : UInt8 → Bool} {cs : List Char} (h : AllB P cs = true) : ∀ c ∈ cs, c.toNat < 128 := by
  intro c hc
  simp only [AllB, List.all_eq_true, Bool.and_eq_true, decide_eq_true_eq] at h
  exact (h c hc).1

theorem encChars_ascii {P : UInt8 → Bool} : ∀ {cs : List Char}, AllB P cs = true →
    encChars cs = cs.map byteOf ∧ ∀ b ∈ cs.map byteOf, P b = true := by
  intro cs
  induction cs with
  | nil => intro _; simp
  | cons c cs ih =>
    intro h
    obtain ⟨⟨h1, h2⟩, h3⟩ := AllB_cons.mp h
    obtain ⟨e, hp⟩ := ih h3
    rw [encChars_cons, encChar_ascii c h1, e]
    refine ⟨rfl, ?_⟩
    intro b hb
    simp only [List.map_cons, List.mem_cons] at hb
    rcases hb with rfl | hb
    · exact h2
    · exact hp b hb

theorem encChars_all_ascii {cs : List Char} (h : cs.all (fun c => c.toNat < 128) = true) :
    encChars cs = cs.map byteOf := by
  have : AllB (fun _ => true) cs = true := by
    simp only [AllB, List.all_eq_true, Bool.and_true] at h ⊢; exact h
  exact (encChars_ascii this).1

theorem encChar_chr (b : UInt8) (h : b < 128) : encChar (chr b) = [b] := by
  have hb : b.toNat < 128 := h
  unfold chr
  rw [encChar_ofNat_ascii _ hb]
  simp

theorem encChars_map_chr (w : List UInt8) (hw : ∀ b ∈ w, b < 128) : encChars (w.map chr) = w := by
  induction w with
  | nil => rfl
  | cons a w ih =>
    simp only [encChars, List.map_cons, List.flatMap_cons]
    rw [encChar_chr a (hw a (by simp))]
    have := ih (fun b hb => hw b (by simp [hb]))
    simp only [encChars] at this
    rw [this]; rfl

theorem lossy_ascii (w : List UInt8) (hw : ∀ b ∈ w, b < 128) : lossy w = w.map chr :=
  (congrArg lossy (encChars_map_chr w hw)).symm.trans (lossy_encChars _)

theorem AllB_map_chr {P : UInt8 → Bool} (w : List UInt8) (hw : ∀ b ∈ w, b < 128 ∧ P b = true) :
    AllB P (w.map chr) = true := by
  simp only [AllB, List.all_map, List.all_eq_true, Function.comp_apply, Bool.and_eq_true, decide_eq_true_eq]
  intro b hb
  have hlt : b.toNat < 128 := (hw b hb).1
  exact ⟨by rw [chr_toNat b hlt]; exact hlt, by rw [byteOf_chr b hlt]; exact (hw b hb).2⟩

theorem asciiChars_map_byteOf : ∀ {cs : List Char}, (∀ c ∈ cs, c.toNat < 128) → asciiChars (cs.map byteOf) = cs := by
  intro cs
  induction cs with
  | nil => intro _; rfl
  | cons c cs ih =>
    intro h
    simp only [asciiChars, List.map_cons, List.map_map] at ih ⊢
    rw [chr_byteOf c (h c (by simp))]
    congr 1
    exact ih (fun x hx => h x (by simp [hx]))

theorem asciiChars_ascii : ∀ bs : List UInt8, (∀ b ∈ bs, b.toNat < 128) →
    (asciiChars bs).all (fun c => c.toNat < 128) = true ∧ (asciiChars bs).map byteOf = bs
  | [], _ => ⟨rfl, rfl⟩
  | b :: bs, h => by
    obtain ⟨a1, a2⟩ := asciiChars_ascii bs (fun x hx => h x (by simp [hx]))
    have hb := h b (by simp)
    simp only [asciiChars, List.map_cons, List.all_cons, Bool.and_eq_true, decide_eq_true_eq] at a1 a2 ⊢
    exact ⟨⟨by rw [chr_toNat b hb]; exact hb, a1⟩, by rw [byteOf_chr b hb, a2]⟩

end Hs.Zinc

/-
  Hs.Lemmas.ValRec — two values of the same kind are built by the same constructor: the 18 pairs on the diagonal,
  which is where every law about two values has something to prove; what `Val.cmp` and `Val.pcmp` are on and off the
  diagonal.
-/
import Hs.Model.Cmp
namespace Hs

inductive Val.SameKind : Val → Val → Prop
  | null : SameKind .null .null
  | remove : SameKind .remove .remove
  | marker : SameKind .marker .marker
  | bool x y : SameKind (.bool x) (.bool y)
  | na : SameKind .na .na
  | num x y : SameKind (.num x) (.num y)
  | str x y : SameKind (.str x) (.str y)
  | uri x y : SameKind (.uri x) (.uri y)
  | ref x d y e : SameKind (.ref x d) (.ref y e)
  | sym x y : SameKind (.sym x) (.sym y)
  | date x y : SameKind (.date x) (.date y)
  | time x y : SameKind (.time x) (.time y)
  | dateTime x y : SameKind (.dateTime x) (.dateTime y)
  | coord x1 x2 y1 y2 : SameKind (.coord x1 x2) (.coord y1 y2)
  | xstr x1 x2 y1 y2 : SameKind (.xstr x1 x2) (.xstr y1 y2)
  | list xs ys : SameKind (.list xs) (.list ys)
  | dict x y : SameKind (.dict x) (.dict y)
  | grid m c r v m' c' r' v' : SameKind (.grid m c r v) (.grid m' c' r' v')

/- `Val.kindIdx` numbers the variants in the order `enum Value` declares them, and `inductive Val` lists its
constructors in that same order: the kind index is the constructor index Lean assigns. -/
theorem Val.kindIdx_eq_ctorIdx (a : Val) : a.kindIdx = a.ctorIdx := by cases a <;> rfl

/- 18 + 18 cases, not 18 × 18.  With the kind index read as the constructor index, Lean's own eliminators apply:
`Val.num.elim b h` says that a value whose constructor index is 5 is a `num`.  This rests on the order of the
constructors: were `Val.kindIdx` to number them otherwise, `Val.kindIdx_eq_ctorIdx` would fail first. -/
theorem Val.sameKind {a b : Val} (h : a.kindIdx = b.kindIdx) : Val.SameKind a b := by
  rw [Val.kindIdx_eq_ctorIdx, Val.kindIdx_eq_ctorIdx] at h
  cases a
  · exact Val.null.elim b h.symm .null
  · exact Val.remove.elim b h.symm .remove
  · exact Val.marker.elim b h.symm .marker
  · exact Val.bool.elim b h.symm (.bool _)
  · exact Val.na.elim b h.symm .na
  · exact Val.num.elim b h.symm (.num _)
  · exact Val.str.elim b h.symm (.str _)
  · exact Val.uri.elim b h.symm (.uri _)
  · exact Val.ref.elim b h.symm (.ref _ _)
  · exact Val.sym.elim b h.symm (.sym _)
  · exact Val.date.elim b h.symm (.date _)
  · exact Val.time.elim b h.symm (.time _)
  · exact Val.dateTime.elim b h.symm (.dateTime _)
  · exact Val.coord.elim b h.symm (.coord _ _)
  · exact Val.xstr.elim b h.symm (.xstr _ _)
  · exact Val.list.elim b h.symm (.list _)
  · exact Val.dict.elim b h.symm (.dict _)
  · exact Val.grid.elim b h.symm (.grid _ _ _ _)

/-! ### the orders on two values of one kind, and of two kinds -/

theorem Val.cmp_of_kind_eq {a b : Val} (h : a.kindIdx = b.kindIdx) : Val.cmp a b = Val.cmpSame a b := by
  rw [Val.cmp, h, Nat.compare_eq_eq.2 rfl]; rfl

theorem Val.pcmp_of_kind_eq {a b : Val} (h : a.kindIdx = b.kindIdx) : Val.pcmp a b = Val.pcmpSame a b := by
  rw [Val.pcmp, h, Nat.compare_eq_eq.2 rfl]

theorem Val.pcmp_of_kind_ne {a b : Val} (h : a.kindIdx ≠ b.kindIdx) : Val.pcmp a b = some (Val.cmp a b) := by
  rw [Val.pcmp, Val.cmp]
  cases hc : compare a.kindIdx b.kindIdx
  · rfl
  · exact absurd (Nat.compare_eq_eq.1 hc) h
  · rfl

end Hs

/-
  Hs.Lemmas.ZincTotalLex — C03 and C11: every scanner loop and every scalar reader of the Zinc lexer, on ANY input.
  One statement per model function (`Res.Sat`, named as `ZincTotalSat` says), proved by one walk through its code: no
  `panic` / `depth`, no `diverge` when `mu s < fuel`, how far the scanner has moved, and of the value returned what the
  decoder's image invariant of C11 needs.
  The byte-collecting loops are `classLoop`s and are not walked: what they return is known (`ClassLoop`).
-/
import Hs.Lemmas.ZincImageLeaf
import Hs.Lemmas.ClassLoop
namespace Hs
open Scan

/-! ### scanner loops -/
namespace Scan

theorem consumeSpaces_spec (fuel : Nat) (s : Scan) : SS (consumeSpaces fuel s) fuel s :=
  Scan.consumeSpaces_eq fuel s ▸ skipLoop_spec _ fuel s

theorem consumeWhiteSpaces_spec (fuel : Nat) (s : Scan) : SS (consumeWhiteSpaces fuel s) fuel s :=
  Scan.consumeWhiteSpaces_eq fuel s ▸ skipLoop_spec _ fuel s

theorem consumeSpaces_strict (n : Nat) (s : Scan) (hs : s.isSpace = true) (he : s.eof = false) :
    (consumeSpaces (n + 1) s).Sat (n + 1) s.mu (fun s' => s'.mu < s.mu) :=
  Scan.consumeSpaces_eq (n + 1) s ▸ skipLoop_strict n s hs he

theorem consumeWhiteSpaces_strict (n : Nat) (s : Scan) (hs : s.isWhiteSpace = true) (he : s.eof = false) :
    (consumeWhiteSpaces (n + 1) s).Sat (n + 1) s.mu (fun s' => s'.mu < s.mu) :=
  Scan.consumeWhiteSpaces_eq (n + 1) s ▸ skipLoop_strict n s hs he

theorem expectAndConsumeSeq_spec (cs : List UInt8) : ∀ s, SS0 (expectAndConsumeSeq cs s) s := by
  induction cs with
  | nil => intro s; exact Nat.le_refl _
  | cons c rest ih =>
    intro s
    rw [expectAndConsumeSeq]
    refine Res.Sat.ite_intro (fun _ => trivial) (fun _ => ?_)
    split
    · next hr => exact (ih _).le_trans (Nat.le_of_lt (read_mu_some hr))
    · next hr => exact Res.Sat.ite_intro (fun _ => (read_mu_none hr).1) (fun _ => trivial)

theorem advanceBy_spec (n : Nat) : ∀ s, SS0 (advanceBy n s) s := by
  induction n with
  | zero => intro s; exact Nat.le_refl _
  | succ n ih =>
    intro s
    rw [advanceBy]
    split
    · next hr => exact (ih _).le_trans (Nat.le_of_lt (read_mu_some hr))
    · exact trivial

end Scan

namespace Zinc

/-! ### ids and literals -/

/-- `parse_literal` succeeds only with a non-empty run, so the loop took the byte under the cursor first -/
theorem parseLiteral_adv (fuel : Nat) (s) : LSq (parseLiteral fuel s) fuel s.mu s.advance.mu (LitText s) := by
  unfold parseLiteral
  rw [literalLoop_eq]
  refine classLoop_took.elim (fun ⟨acc, s1⟩ h => ?_) trivial id
  refine Res.Sat.ite_intro (fun _ => trivial) (fun hne => ?_)
  obtain ⟨L, hall, hr⟩ := h.2 (Bool.of_not_eq_true hne)
  exact ⟨L, LitText.of_run hr hall⟩

theorem parseId_adv (fuel : Nat) (s) : LSq (parseId fuel s) fuel s.mu s.advance.mu (fun i => isIdent i = true) := by
  unfold parseId
  exact Res.Sat.guard_intro (fun hl => (parseLiteral_adv fuel s).mono id (fun _ h => ⟨h.1, h.2.ident hl⟩))

/-! ### Str -/

theorem parseUnicodeEscape_spec (s) : (parseUnicodeEscape s).Sat 1 0 (fun o => o.2.mu ≤ s.mu) := by
  unfold parseUnicodeEscape
  refine Res.Sat.ite_intro (fun _ => trivial) (fun _ => ?_)
  refine readQ_cases (Nat.le_refl s.mu) (fun s1 L1 => ?_) trivial
  refine Res.Sat.guard_intro (fun _ => ?_)
  refine readQ_cases (Nat.le_of_lt L1) (fun s2 L2 => ?_) trivial
  refine Res.Sat.guard_intro (fun _ => ?_)
  refine readQ_cases (Nat.le_of_lt L2) (fun s3 L3 => ?_) trivial
  refine Res.Sat.guard_intro (fun _ => ?_)
  refine readQ_cases (Nat.le_of_lt L3) (fun s4 L4 => ?_) trivial
  exact Res.Sat.guard_intro (fun _ => Nat.le_of_lt L4)

theorem parseStrEscape_spec (s) : (parseStrEscape s).Sat 1 0 (fun o => o.2.mu < s.mu) := by
  unfold parseStrEscape
  refine readQ_cases (Nat.le_refl s.mu) (fun s1 L1 => ?_) trivial
  dsimp only
  -- the ten one-byte escapes
  iterate 10 refine Res.Sat.ite_intro (fun _ => L1) (fun _ => ?_)
  exact Res.Sat.ite_intro (fun _ => (parseUnicodeEscape_spec s1).mono id (fun _ h => Nat.lt_of_le_of_lt h L1))
    (fun _ => trivial)

theorem strLoop_spec : ∀ fuel s acc, LS (strLoop fuel s acc) fuel s := by
  intro fuel
  induction fuel with
  | zero => intro s acc; exact Nat.zero_le _
  | succ n ih =>
    intro s acc
    rw [strLoop]
    refine Res.Sat.ite_intro (fun _ => Nat.le_refl _) (fun _ => ?_)
    refine Res.Sat.ite_intro (fun _ => trivial) (fun he => ?_)
    refine Res.Sat.ite_intro (fun _ => ?_) (fun _ => (ih _ _).tail (advance_mu_lt (Bool.of_not_eq_true he)))
    exact (parseStrEscape_spec s).elim0
      (fun ⟨_, s'⟩ h => (ih _ _).tail (Nat.lt_of_le_of_lt (advance_mu s') h)) trivial

theorem parseStr_adv (fuel : Nat) (s) : LSb (parseStr fuel s) fuel s.mu s.advance.mu := by
  unfold parseStr
  refine Res.Sat.ite_intro (fun _ => trivial) (fun _ => ?_)
  exact (strLoop_spec fuel s.advance []).elim
    (fun ⟨_, s'⟩ h => Res.Sat.ite_intro (fun _ => trivial) (fun _ => Nat.le_trans (advance_mu s') h)) trivial
    (fun hd => Nat.le_trans hd (advance_mu s))

theorem parseStr_spec (fuel : Nat) (s) : LS (parseStr fuel s) fuel s := (parseStr_adv fuel s).le_of_adv

/-! ### Uri -/

theorem uriLoop_spec : ∀ fuel s acc, LS (uriLoop fuel s acc) fuel s := by
  intro fuel
  induction fuel with
  | zero => intro s acc; exact Nat.zero_le _
  | succ n ih =>
    intro s acc
    rw [uriLoop]
    refine Res.Sat.ite_intro (fun _ => Nat.le_refl _) (fun _ => ?_)
    refine Res.Sat.ite_intro (fun _ => trivial) (fun he => ?_)
    refine Res.Sat.ite_intro (fun _ => ?_) (fun _ => (ih _ _).tail (advance_mu_lt (Bool.of_not_eq_true he)))
    refine peek_cases (Nat.le_refl s.mu) (fun _ _ => trivial) (fun nx s1 L1 => ?_)
    -- every kind of escape reads a byte before it goes round the loop
    have again : ∀ {s2 : Scan} acc', s2.mu < s.mu → LS (uriLoop n s2.advance acc') (n + 1) s :=
      fun _ h => (ih _ _).tail (Nat.lt_of_le_of_lt (advance_mu _) h)
    refine Res.Sat.ite_intro (fun _ => readQ_cases L1 (fun _ L2 => again _ L2) trivial) (fun _ => ?_)
    refine Res.Sat.ite_intro (fun _ => readQ_cases L1 (fun _ L2 => again _ L2) trivial) (fun _ => ?_)
    refine readQ_cases L1 (fun s2 L2 => ?_) trivial
    dsimp only
    exact (parseUnicodeEscape_spec s2).elim0 (fun ⟨_, _⟩ h => again _ (Nat.lt_of_le_of_lt h L2)) trivial

theorem parseUri_adv (fuel : Nat) (s) : LSb (parseUri fuel s) fuel s.mu s.advance.mu := by
  unfold parseUri
  refine Res.Sat.ite_intro (fun _ => trivial) (fun _ => ?_)
  exact (uriLoop_spec fuel s.advance []).elim
    (fun ⟨_, s'⟩ h => Res.Sat.ite_intro (fun _ => trivial) (fun _ => Nat.le_trans (advance_mu s') h)) trivial
    (fun hd => Nat.le_trans hd (advance_mu s))

/-! ### Ref, Symbol -/

theorem refLoop_spec (fuel s acc) : LS (refLoop fuel s acc) fuel s :=
  refLoop_eq fuel s acc ▸ classLoop_spec

theorem parseRef_adv (fuel : Nat) (s) : LSq (parseRef fuel s) fuel s.mu s.advance.mu
    (fun v => ∃ id dis, v = .ref id dis ∧ isRefId id = true) := by
  unfold parseRef
  have L0 := advance_mu s
  refine Res.Sat.ite_intro (fun _ => trivial) (fun _ => ?_)
  rw [refLoop_eq]
  refine classLoop_took.elim (fun ⟨acc, s1⟩ h => ?_) trivial (fun hd => Nat.le_trans hd L0)
  obtain ⟨L1, hacc⟩ := h
  dsimp only at L1 hacc ⊢
  refine Res.Sat.ite_intro (fun _ => trivial) (fun hne => ?_)
  -- every value returned from here on is `.ref (lossy acc) _`
  have fin : ∀ d, ∃ id dis, Val.ref (lossy acc) d = .ref id dis ∧ isRefId id = true :=
    fun d => ⟨_, _, rfl, isRefId_of_bytes (Bool.of_not_eq_true hne) (hacc (Bool.of_not_eq_true hne)).2.1⟩
  refine Res.Sat.ite_intro (fun _ => ?_) (fun _ => ⟨L1, fin _⟩)
  refine peek_cases L1 (fun _ L2 => ⟨L2, fin _⟩) (fun nx s2 L2 => ?_)
  refine Res.Sat.ite_intro (fun _ => ?_) (fun _ => ⟨L2, fin _⟩)
  refine readQ_cases L2 (fun s3 L3 => ?_) trivial
  dsimp only
  exact (parseStr_spec fuel s3).step (Nat.le_of_lt L3) (fun ⟨_, _⟩ L4 => ⟨L4, fin _⟩) trivial
    (fun hd => Nat.le_trans hd L0)

theorem parseSymbol_adv (fuel : Nat) (s) : LSq (parseSymbol fuel s) fuel s.mu s.advance.mu
    (fun v => ∃ b, v = .sym b ∧ isSymBody b = true) := by
  unfold parseSymbol
  refine Res.Sat.ite_intro (fun _ => trivial) (fun _ => ?_)
  refine Res.Sat.guard_intro (fun hl => ?_)
  rw [refLoop_eq]
  refine classLoop_took.elim (fun ⟨acc, s1⟩ h => ?_) trivial (fun hd => Nat.le_trans hd (advance_mu s))
  refine Res.Sat.ite_intro (fun _ => trivial) (fun hne => ?_)
  obtain ⟨-, hall, r, e⟩ := h.2 (Bool.of_not_eq_true hne)
  dsimp only at e hall ⊢
  subst e
  exact ⟨h.1, _, rfl, isSymBody_of_bytes hl hall⟩

/-! ### Numbers -/

theorem decimalLoop_spec (fuel s acc) : LS (decimalLoop fuel s acc) fuel s :=
  decimalLoop_eq fuel s acc ▸ classLoop_spec

/-- a decimal `f64::from_str` accepts is not empty, so the loop took the byte under the cursor -/
theorem parseDecimal_adv (fuel : Nat) (s) :
    LSq (parseDecimal fuel s) fuel s.mu s.advance.mu (fun acc => decBytesOk acc = true) := by
  unfold parseDecimal
  rw [decimalLoop_eq]
  refine classLoop_sat.elim (fun ⟨acc, s1⟩ ⟨e1, e2⟩ => ?_) trivial id
  rw [List.nil_append, flatMap_keep] at e1
  dsimp only at e1 e2 ⊢
  subst e1 e2
  refine Res.Sat.ite_intro (fun hv => ?_) (fun _ => trivial)
  have hne : s.run isDecB ≠ [] := fun h0 => by rw [h0] at hv; exact absurd hv (by decide)
  refine ⟨(Scan.run_ne_nil hne).2, ?_⟩
  simp only [decBytesOk, Bool.and_eq_true, List.all_eq_true]
  refine ⟨fun b hm => ?_, hv⟩
  obtain ⟨hm, h95⟩ := List.mem_filter.mp hm
  -- `_` is in the loop's class and dropped; what is kept is a digit, `.` or `-`
  simpa [isNumB, isDecB, (bne_iff_ne.mp h95)] using Scan.run_all b hm

theorem parseDecimal_spec (fuel : Nat) (s) : LS (parseDecimal fuel s) fuel s := (parseDecimal_adv fuel s).le.le_of_adv

theorem unitLoop_spec (fuel s acc) : LS (unitLoop fuel s acc) fuel s :=
  unitLoop_eq fuel s acc ▸ classLoop_spec

theorem parseExponent_spec (fuel : Nat) (s) : LS (parseExponent fuel s) fuel s := by
  unfold parseExponent
  have L1 := advance_mu s
  refine Res.Sat.guard_intro (fun _ => ?_)
  refine Res.Sat.ite_intro (fun _ => ?_) (fun _ => ?_)
  · refine readQ_cases L1 (fun s2 L2 => ?_) trivial
    dsimp only
    exact (parseDecimal_spec fuel s2).step (Nat.le_of_lt L2) (fun ⟨_, _⟩ L3 => L3) trivial id
  · exact (parseDecimal_spec fuel s.advance).step L1 (fun ⟨_, _⟩ L3 => L3) trivial id

/-- the exponent and the unit only consume; every value returned is a `mkNum`.  The model binds the outcome of the
optional exponent and of the optional unit with a `let` each: each `let` gets its own statement (`hE`, `hU`, the bound
`mu s.advance` kept) and is then forgotten, so that taking it apart does not copy its term into the rest of the walk. -/
theorem parseNumber_adv (fuel : Nat) (s) :
    LSq (parseNumber fuel s) fuel s.mu s.advance.mu (fun v => tokInv (.val v)) := by
  unfold parseNumber
  have hb := advance_mu s
  refine (parseDecimal_adv fuel s).le.elim (fun ⟨dec, s1⟩ L1 => ?_) trivial id
  dsimp -zeta only at L1 ⊢
  extract_lets afterExp
  have hE : LSb afterExp fuel s.mu s.advance.mu := by
    refine Res.Sat.ite_intro (fun _ => ?_) (fun _ => L1)
    refine peek_cases L1 (fun _ _ => trivial) (fun nx s2 L2 => ?_)
    refine Res.Sat.ite_intro (fun _ => ?_) (fun _ => L2)
    exact (parseExponent_spec fuel s2).step L2 (fun ⟨_, _⟩ L3 => L3) trivial (fun hd => Nat.le_trans hd hb)
  clear_value afterExp
  refine hE.elim (fun ⟨exp, s3⟩ L3 => ?_) trivial id
  dsimp -zeta only at L3 ⊢
  extract_lets afterUnit
  have hU : LSb afterUnit fuel s.mu s.advance.mu := by
    refine Res.Sat.ite_intro (fun _ => ?_) (fun _ => L3)
    refine (unitLoop_spec fuel s3 []).step L3 (fun ⟨ub, s4⟩ L4 => ?_) trivial (fun hd => Nat.le_trans hd hb)
    dsimp only at L4 ⊢
    split
    · exact L4
    · exact trivial
  clear_value afterUnit
  refine hU.elim (fun ⟨unit, s4⟩ L4 => ?_) trivial id
  dsimp only at L4 ⊢
  split
  · exact Res.Sat.ite_intro (fun _ => ⟨L4, by dsimp only; exact tokInv_mkNum _ _ _⟩) (fun _ => trivial)
  · exact ⟨L4, by dsimp only; exact tokInv_mkNum _ _ _⟩

theorem parseNegInf_adv (s) : LSq (parseNegInf s) 1 0 s.advance.mu (fun v => tokInv (.val v)) := by
  unfold parseNegInf
  refine Res.Sat.ite_intro (fun _ => trivial) (fun _ => ?_)
  exact (expectAndConsumeSeq_spec _ s.advance).elim0 (fun _ h => ⟨h, tokInv_negInf⟩) trivial

/-! ### Date, Time, DateTime -/

theorem takeDigits_spec (n : Nat) : ∀ s acc, LSq (takeDigits n s acc) 1 0 s.mu (Digits n acc) := by
  induction n with
  | zero => intro s acc; exact ⟨Nat.le_refl _, [], by simp, rfl, nofun⟩
  | succ n ih =>
    intro s acc
    rw [takeDigits]
    exact Res.Sat.ite_intro (fun hc => (ih _ _).mono id
      (fun _ h => ⟨Nat.le_trans h.1 (advance_mu s), h.2.cons hc⟩)) (fun _ => trivial)

theorem takeDigits_adv (n : Nat) (s acc) : LSq (takeDigits (n + 1) s acc) 1 0 s.advance.mu (Digits (n + 1) acc) := by
  rw [takeDigits]
  exact Res.Sat.ite_intro (fun hc => (takeDigits_spec n _ _).mono id (fun _ h => ⟨h.1, h.2.cons hc⟩)) (fun _ => trivial)

theorem takeDigits_next (n : Nat) {s : Scan} {b : Nat} (L : s.mu ≤ b) :
    LSq (takeDigits n s.advance []) 1 0 b (Digits n []) :=
  (takeDigits_spec n s.advance []).mono id (fun _ h => ⟨Nat.le_trans h.1 (Nat.le_trans (advance_mu s) L), h.2⟩)

theorem parseDateRaw_adv (s) : LSq (parseDateRaw s) 1 0 s.advance.mu DateRaw := by
  unfold parseDateRaw
  refine (takeDigits_adv 3 s []).elim0 (fun ⟨y, s1⟩ ⟨L1, hy⟩ => ?_) trivial
  dsimp only at L1 hy ⊢
  refine Res.Sat.ite_intro (fun _ => trivial) (fun _ => ?_)
  refine (takeDigits_next 2 L1).elim0 (fun ⟨m, s2⟩ ⟨L2, hm⟩ => ?_) trivial
  dsimp only at L2 hm ⊢
  refine Res.Sat.ite_intro (fun _ => trivial) (fun _ => ?_)
  refine (takeDigits_next 2 L2).elim0 (fun ⟨d, s3⟩ ⟨L3, hd⟩ => ?_) trivial
  exact ⟨L3, DateRaw.of_digits hy hm hd⟩

theorem parseDate_adv (s) : LSq (parseDate s) 1 0 s.advance.mu (fun d => dateOk d = true) := by
  unfold parseDate
  refine (parseDateRaw_adv s).elim0 (fun ⟨raw, s'⟩ h => ?_) trivial
  dsimp only at h ⊢
  split
  · next hmk => exact ⟨h.1, h.2.dateOk hmk⟩
  · exact trivial

theorem fracLoop_spec (fuel s acc) : LS (fracLoop fuel s acc) fuel s :=
  fracLoop_eq fuel s acc ▸ classLoop_spec

theorem parseTimeRaw_adv (fuel : Nat) (s) : LSb (parseTimeRaw fuel s) fuel s.mu s.advance.mu := by
  unfold parseTimeRaw
  refine (takeDigits_adv 1 s []).le.elim0 (fun ⟨h, s1⟩ L1 => ?_) trivial
  dsimp only at L1 ⊢
  refine Res.Sat.ite_intro (fun _ => trivial) (fun _ => ?_)
  refine (takeDigits_next 2 L1).le.elim0 (fun ⟨m, s2⟩ L2 => ?_) trivial
  dsimp only at L2 ⊢
  refine Res.Sat.ite_intro (fun _ => trivial) (fun _ => ?_)
  refine (takeDigits_next 2 L2).le.elim0 (fun ⟨sec, s3⟩ L3 => ?_) trivial
  dsimp only at L3 ⊢
  refine Res.Sat.ite_intro (fun _ => ?_) (fun _ => L3)
  refine readQ_cases L3 (fun s4 L4 => ?_) trivial
  dsimp only
  exact (fracLoop_spec fuel s4 []).step (Nat.le_of_lt L4) (fun ⟨_, _⟩ L5 => L5) trivial
    (fun hd => Nat.le_trans hd (advance_mu s))

theorem parseTimeRaw_spec (fuel : Nat) (s) : LS (parseTimeRaw fuel s) fuel s := (parseTimeRaw_adv fuel s).le_of_adv

theorem parseTime_adv (fuel : Nat) (s) : LSb (parseTime fuel s) fuel s.mu s.advance.mu := by
  unfold parseTime
  refine (parseTimeRaw_adv fuel s).elim (fun ⟨⟨hms, fr⟩, s'⟩ L => ?_) trivial id
  dsimp only at L ⊢
  split
  · exact L
  · exact trivial

theorem tzNameLoop_spec (fuel s acc) : LS (tzNameLoop fuel s acc) fuel s :=
  tzNameLoop_eq fuel s acc ▸ classLoop_spec

theorem parseTzName_spec (fuel : Nat) (s) : LS (parseTzName fuel s) fuel s := by
  unfold parseTzName
  refine Res.Sat.guard_intro (fun _ => ?_)
  exact (tzNameLoop_spec fuel s.advance _).step (advance_mu s)
    (fun ⟨_, _⟩ L => Res.Sat.ite_intro (fun _ => trivial) (fun _ => L)) trivial id

theorem parseTimeZone_spec (fuel : Nat) (s) : LS (parseTimeZone fuel s) fuel s := by
  unfold parseTimeZone
  refine Res.Sat.ite_intro (fun hc => ?_) (fun hc => ?_)
  · -- `Z`: two `safe_peek`s, the second only after a blank, decide between `Z Name` and a bare `Z`.  The two `split`s
    -- name what the model's two `let` patterns bind; whichever way the look-ahead went, `s2` is not behind `s`
    split
    next p1 s1 hp1 =>
    have L1 : s1.mu ≤ s.mu := peek_mu hp1
    split
    next both s2 heq2 =>
    have L2 : s2.mu ≤ s.mu := by
      revert heq2
      split
      · exact peek_cases L1 (fun _ L e => by cases e; exact L) (fun _ _ L e => by cases e; exact L)
      · intro e; cases e; exact L1
    refine Res.Sat.ite_intro (fun _ => ?_) (fun _ => ?_)
    · refine (advanceBy_spec 2 s2).step0 L2 (fun s3 L3 => ?_) trivial
      dsimp only
      exact (parseTzName_spec fuel s3).step L3 (fun ⟨_, _⟩ L4 => L4) trivial id
    · exact Res.Sat.ite_intro (fun _ => readQ_cases L2 (fun _ L3 => Nat.le_of_lt L3) trivial) (fun _ => L2)
  · -- `+hh:mm Name` / `-hh:mm Name`
    refine Res.Sat.guard_intro (fun _ => ?_)
    refine (takeDigits_next 2 (Nat.le_refl s.mu)).le.elim0 (fun ⟨hh, s1⟩ L1 => ?_) trivial
    dsimp only at L1 ⊢
    refine Res.Sat.ite_intro (fun _ => trivial) (fun _ => ?_)
    refine (takeDigits_next 2 L1).le.elim0 (fun ⟨mm, s2⟩ L2 => ?_) trivial
    dsimp only at L2 ⊢
    refine Res.Sat.ite_intro (fun _ => trivial) (fun _ => ?_)
    exact (parseTzName_spec fuel s2.advance).step (Nat.le_trans (advance_mu s2) L2) (fun ⟨_, _⟩ L3 => L3) trivial id

theorem parseDateTime_adv (fuel : Nat) (s) :
    LSq (parseDateTime fuel s) fuel s.mu s.advance.mu (fun v => tokInv (.val v)) := by
  unfold parseDateTime
  have hb := advance_mu s
  refine (parseDateRaw_adv s).le.elim0 (fun ⟨draw, s1⟩ L1 => ?_) trivial
  dsimp only at L1 ⊢
  split
  · exact trivial
  refine Res.Sat.ite_intro (fun _ => trivial) (fun _ => ?_)
  refine (parseTimeRaw_spec fuel s1.advance).step (Nat.le_trans (advance_mu s1) L1)
    (fun ⟨⟨hms, fr⟩, s2⟩ L2 => ?_) trivial (fun hd => Nat.le_trans hd hb)
  dsimp only at L2 ⊢
  split
  · exact trivial
  exact (parseTimeZone_spec fuel s2).step L2
    (fun ⟨_, _⟩ L3 => Res.Sat.ite_intro (fun _ => trivial) (fun _ => ⟨L3, rfl, rfl⟩)) trivial
    (fun hd => Nat.le_trans hd hb)

/-! ### the look-ahead of `parse_number_date_time` -/

theorem isPartialDate_keep (s) : (isPartialDate s).Sat 1 0 (fun o => Kept s o.2) := by
  unfold isPartialDate
  refine peek_keep_cases (fun _ _ => trivial) (fun a s1 k1 => ?_)
  refine Res.Sat.ite_intro (fun _ => k1) (fun _ => ?_)
  refine peek_keep_cases (fun _ _ => trivial) (fun b s2 k2 => ?_)
  have k2 := k1.trans k2
  refine Res.Sat.ite_intro (fun _ => k2) (fun _ => ?_)
  refine peek_keep_cases (fun _ _ => trivial) (fun c s3 k3 => ?_)
  have k3 := k2.trans k3
  refine Res.Sat.ite_intro (fun _ => k3) (fun _ => ?_)
  refine peek_keep_cases (fun _ _ => trivial) (fun d s4 k4 => ?_)
  have k4 := k3.trans k4
  refine Res.Sat.ite_intro (fun _ => k4) (fun _ => ?_)
  exact peek_keep_cases (fun _ _ => trivial) (fun e s5 k5 => k4.trans k5)

theorem ndtPeeks_spec (n : Nat) : ∀ c k s k' s', ndtPeeks n c k s = (k', s') →
    s'.remaining = s.remaining ∧ s'.mu ≤ s.mu := by
  induction n with
  | zero => intro c k s k' s' h; simp only [ndtPeeks, Prod.mk.injEq] at h; obtain ⟨-, rfl⟩ := h; simp
  | succ n ih =>
    intro c k s k' s' h
    rw [ndtPeeks] at h
    split at h
    · simp only [Prod.mk.injEq] at h; obtain ⟨-, rfl⟩ := h; simp
    · split at h
      · next v s1 hp =>
        have := ih _ _ _ _ _ h
        have h1 := (peek_some hp).1
        have h2 := peek_mu hp
        exact ⟨by omega, by omega⟩
      · next s1 hp =>
        have := ih _ _ _ _ _ h
        have h1 := peek_none hp
        have h2 := peek_mu hp
        exact ⟨by omega, by omega⟩

theorem mu_reset (s : Scan) : ({ s with eof := false } : Scan).mu = s.remaining + 1 := by
  simp [mu, remaining]

/-- `Lexer::read` calls `parse_number_date_time` before the end of the input.  Whatever the look-ahead finds, the
reader it chooses starts on a state that has consumed nothing, and consumes the current byte.  (After the look-ahead
hit the end of the input the reader is started with `eof := false`: `mu` is formulated so that this reset only
restores the value `mu` had on entry.) -/
theorem parseNumberDateTime_sat (fuel : Nat) (s) (he : s.eof = false) :
    (parseNumberDateTime fuel s).Sat fuel s.mu (fun o => o.2.mu < s.mu ∧ tokInv (.val o.1)) := by
  unfold parseNumberDateTime
  refine Res.Sat.ite_intro (fun _ => ?_) (fun _ => ?_)
  · -- `-`: one look-ahead, then `-INF` or a number
    refine peek_keep_cases (fun _ _ => trivial) (fun nx s1 k => ?_)
    have he1 : s1.eof = false := k.2.1.trans he
    exact Res.Sat.ite_intro (fun _ => (parseNegInf_adv s1).of0.after he1 (Nat.le_of_eq k.mu) (Nat.le_refl _))
      (fun _ => (parseNumber_adv fuel s1).after he1 (Nat.le_of_eq k.mu) (Nat.le_of_eq k.mu))
  · split
    next count s1 hp =>
    have h1 := ndtPeeks_spec _ _ _ _ _ _ hp
    have L1 : s1.mu ≤ s.mu := h1.2
    have date : ∀ {s3 : Scan}, s3.advance.mu < s.mu →
        (match parseDate s3 with
          | .ok (d, s4) => .ok (.date d, s4)
          | _ => .err : Res (Val × Scan)).Sat fuel s.mu (fun o => o.2.mu < s.mu ∧ tokInv (.val o.1)) :=
      fun L3 => (parseDate_adv _).elim0 (fun ⟨_, _⟩ h => ⟨Nat.lt_of_le_of_lt h.1 L3, rfl, h.2⟩) trivial
    refine Res.Sat.ite_intro (fun _ => ?_) (fun hc1 => ?_)
    · -- the look-ahead hit the end of the input: the reset revives the current byte
      have h0 := mu_not_eof he
      have h2 := mu_reset s1
      have h3 := h1.1
      exact (parseNumber_adv fuel { s1 with eof := false }).after rfl (by omega) (by omega)
    have he1 : s1.eof = false := Bool.of_not_eq_true hc1
    refine Res.Sat.ite_intro (fun _ => ?_) (fun _ => ?_)
    · exact ((parseTime_adv fuel s1).lt_of_adv he1).elim (fun ⟨_, _⟩ h => ⟨Nat.lt_of_lt_of_le h L1, rfl, rfl⟩)
        trivial (fun hd => Nat.le_trans hd L1)
    refine Res.Sat.ite_intro (fun _ => ?_) (fun _ => (parseNumber_adv fuel s1).after he1 L1 L1)
    refine (isPartialDate_keep s1).elim0 (fun ⟨isDate, s2⟩ k2 => ?_) trivial
    have k2 : Kept s1 s2 := k2
    have he2 : s2.eof = false := k2.2.1.trans he1
    have L2 : s2.mu ≤ s.mu := Nat.le_trans (Nat.le_of_eq k2.mu) L1
    cases isDate with
    | false => exact (parseNumber_adv fuel s2).after he2 L2 L2
    | true =>
      dsimp only
      refine peek_keep_cases (fun s3 hm => ?_) (fun p s3 k3 => ?_)
      · -- this look-ahead hit the end of the input: `s3` has one unit less than `s2`
        have := mu_not_eof he2
        exact date (Nat.lt_of_le_of_lt (advance_mu s3) (by omega))
      · have he3 : s3.eof = false := k3.2.1.trans he2
        have L3 : s3.mu ≤ s.mu := Nat.le_trans (Nat.le_of_eq k3.mu) L2
        exact Res.Sat.ite_intro (fun _ => date (Nat.lt_of_lt_of_le (advance_mu_lt he3) L3))
          (fun _ => (parseDateTime_adv fuel s3).after he3 L3 L3)

/-! ### XStr, Coord -/

theorem parseXStrBody_spec (fuel : Nat) (name s) :
    LSq (parseXStrBody fuel name s) fuel s.mu s.mu (fun v => ∃ x, v = .xstr name x) := by
  unfold parseXStrBody
  refine Res.Sat.ite_intro (fun _ => trivial) (fun _ => ?_)
  refine (consumeSpaces_spec fuel s.advance).step (advance_mu s) (fun s1 L1 => ?_) trivial id
  dsimp only
  refine (parseStr_spec fuel s1).step L1 (fun ⟨v, s2⟩ L2 => ?_) trivial id
  dsimp only at L2 ⊢
  exact (consumeSpaces_spec fuel s2).step L2
    (fun s3 L3 => Res.Sat.ite_intro (fun _ => trivial) (fun _ => ⟨Nat.le_trans (advance_mu s3) L3, _, rfl⟩))
    trivial id

theorem parseCoordBody_spec (fuel : Nat) (s) :
    LSq (parseCoordBody fuel s) fuel s.mu s.mu (fun v => tokInv (.val v)) := by
  unfold parseCoordBody
  refine Res.Sat.ite_intro (fun _ => trivial) (fun _ => ?_)
  refine (consumeSpaces_spec fuel s.advance).step (advance_mu s) (fun s1 L1 => ?_) trivial id
  dsimp only
  refine (parseDecimal_adv fuel s1).elim (fun ⟨lat, s2⟩ ⟨A2, hlat⟩ => ?_) trivial (fun hd => Nat.le_trans hd L1)
  have L2 := Nat.le_trans A2 (Nat.le_trans (advance_mu s1) L1)
  dsimp only at L2 hlat ⊢
  refine (consumeSpaces_spec fuel s2).step L2 (fun s3 L3 => ?_) trivial id
  dsimp only
  refine Res.Sat.ite_intro (fun _ => trivial) (fun _ => ?_)
  refine (consumeSpaces_spec fuel s3.advance).step (Nat.le_trans (advance_mu s3) L3) (fun s4 L4 => ?_) trivial id
  dsimp only
  refine (parseDecimal_adv fuel s4).elim (fun ⟨lng, s5⟩ ⟨A5, hlng⟩ => ?_) trivial (fun hd => Nat.le_trans hd L4)
  have L5 := Nat.le_trans A5 (Nat.le_trans (advance_mu s4) L4)
  dsimp only at L5 hlng ⊢
  exact (consumeSpaces_spec fuel s5).step L5
    (fun s6 L6 => Res.Sat.ite_intro (fun _ => trivial)
      (fun _ => ⟨Nat.le_trans (advance_mu s6) L6, tokInv_coord hlat hlng⟩)) trivial id

end Zinc
end Hs

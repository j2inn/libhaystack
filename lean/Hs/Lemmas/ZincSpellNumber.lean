/-
  C04 read direction: the token statements for every spelling of a number (`lexRead_numSp` at the spelling's
  decimal and exponent) and of a coordinate.
-/
import Hs.Lemmas.ZincRtCoord
import Hs.Lemmas.ZincSpellTok
namespace Hs.Zinc
open Hs Hs.Scan Hs.Spell

/-! ### `TokW`, `FirstW` for numbers -/

theorem tokW_numSp (n : Num) (h1 : Flt.isNaNBits n.v.bits = false) (h2 : Flt.isInfBits n.v.bits = false)
    (hu : numOkS n = true) (lex bs0 : List UInt8) (hd0 : Decimal lex bs0) {xo : Option (List UInt8 × List UInt8)}
    {X : List UInt8} (hX : ExpPart xo X) (ht : mkNum lex xo n.unit = .num (lexNumI n)) :
    TokW (bs0 ++ X ++ unitText n.unit) (.num (lexNumI n)) := by
  have huo : unitOk n.unit = true := by simpa [numOkS, h1, h2] using hu
  refine TokW.of_clean fun s rest fuel hat hs hd hf => ?_
  rw [unitText_eq] at hat hf
  simp only [List.length_append] at hf
  rw [← ht]
  exact lexRead_numSp lex bs0 hd0.shape hX n.unit huo s rest fuel (by simpa using hat) hs (hd.stop (by decide))
    (by omega)

theorem tokW_num (n : Num) (bs : List UInt8) (h : NumSp n bs) (hu : numOkS n = true) :
    TokW bs (.num (lexNumI n)) := by
  cases h with
  | nan h1 =>
    have := tokW_kw ['N', 'a', 'N'] (by decide) _ (by rfl)
    have hE : encChars ['N', 'a', 'N'] = [78, 97, 78] := by decide
    rw [hE] at this
    simpa [lexNumI, h1] using this
  | posInf h1 h2 h3 =>
    have := tokW_kw ['I', 'N', 'F'] (by decide) _ (by rfl)
    have hE : encChars ['I', 'N', 'F'] = [73, 78, 70] := by decide
    rw [hE] at this
    simpa [lexNumI, h1, h2, h3] using this
  | negInf h1 h2 h3 =>
    intro s rest fuel hat hs hd hf
    obtain ⟨s', e, h', hs'⟩ := lexRead_neginf s rest fuel (by simpa using hat) hs (by omega)
    refine ⟨s', ?_, Post.of_clean h' hs'⟩
    rw [e]
    simp [lexNumI, h1, h2, h3]
  | dec h1 h2 lex bs0 hd0 ht =>
    simpa using tokW_numSp n h1 h2 hu lex bs0 hd0 .none (by simp [mkNum, lexNumI, h1, h2, ht, chars_eq])
  | exp h1 h2 lex bs0 hd0 e he sg hsg ex exS hx ht =>
    simpa using tokW_numSp n h1 h2 hu lex bs0 hd0 (.some e he sg hsg ex exS hx)
      (by simp [mkNum, lexNumI, h1, h2, ht, chars_eq])

theorem firstW_of_num {b : UInt8} (r : List UInt8) (hb : (isDigitB b || b == 45) = true) : FirstW (b :: r) :=
  FirstW.of_head (P := fun b => isDigitB b || b == 45) (by decide) hb r

theorem firstW_decimal {lex bs : List UInt8} (h : Decimal lex bs) (rest : List UInt8) : FirstW (bs ++ rest) := by
  obtain ⟨b, r, rfl, hb⟩ := h.shape.first'
  exact firstW_of_num _ hb

theorem firstW_num (n : Num) (bs : List UInt8) (h : NumSp n bs) : FirstW bs := by
  cases h with
  | nan h1 => exact firstW_cons 78 _ (by decide)
  | posInf h1 h2 h3 => exact firstW_cons 73 _ (by decide)
  | negInf h1 h2 h3 => exact firstW_cons 45 _ (by decide)
  | dec h1 h2 lex bs0 hd0 ht => exact firstW_decimal hd0 _
  | exp h1 h2 lex bs0 hd0 e he sg hsg ex exS hx ht =>
    rw [List.append_assoc]
    exact firstW_decimal hd0 _

/-! ### coordinates -/

theorem tokW_coord (la las lo los w1 w2 w3 w4 : List UInt8) (ha : Decimal la las) (hb : Decimal lo los)
    (h1 : Blanks w1) (h2 : Blanks w2) (h3 : Blanks w3) (h4 : Blanks w4) :
    TokW (67 :: 40 :: (w1 ++ las ++ w2 ++ 44 :: (w3 ++ los ++ w4 ++ [41])))
      (.coord { bits := lexBits, txt := chars la } { bits := lexBits, txt := chars lo }) :=
  TokW.of_clean fun s rest fuel hat hs _ hf => by
    simp only [List.length_cons, List.length_append, List.length_nil] at hf
    exact lexRead_coord_sp la las lo los w1 w2 w3 w4 ha.shape.toDecText hb.shape.toDecText
      h1 h2 h3 h4 s rest fuel (by simpa using hat) hs (by omega)

end Hs.Zinc

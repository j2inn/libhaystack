/-
  Hs.Lemmas.Units — general lemmas for C15 (nothing here looks at the contents of the unit table):
  * an injective `Nat` key for strings and a fuelled merge sort the kernel can run, of which only this is
    proved: its result is a permutation of its input; two certificates on the sorted keys (`TableOK`) then give
    "the `UNITS` entries are exactly the ids of the units, and no key occurs twice", and `HashMap` lookup under them;
  * framing lemmas for this property's own model of how `parse_number` splits its input (`scanDecimal`, `lexExponent`,
    `parseUnit` of `Hs.Model.Units`, on byte lists).  The Zinc reader's `Hs.Zinc.parseNumber` models the same function on
    the scanner; no theorem relates the two.
-/
import Hs.Model.Units
import Hs.Lemmas.ZincRtUtf8
namespace Hs.Units
open Hs Hs.Gen.Units

/-! ### an injective key -/

def keyBase : Nat := 0x110000

/-- little-endian base-`0x110000` digits above a leading 1 -/
def keyOf : List Char → Nat
  | [] => 1
  | c :: cs => c.toNat + keyBase * keyOf cs

theorem keyOf_pos : ∀ s, 0 < keyOf s
  | [] => by simp [keyOf]
  | c :: cs => by
    have := keyOf_pos cs
    simp only [keyOf, keyBase]
    have : 0 < 0x110000 * keyOf cs := Nat.mul_pos (by decide) this
    omega

theorem char_lt_base (c : Char) : c.toNat < keyBase := by
  have h := c.valid
  simp only [keyBase, Char.toNat]
  rcases h with h | h
  · have : c.val.toNat < 0xd800 := h
    omega
  · have : c.val.toNat < 0x110000 := h.2
    omega

theorem keyOf_inj : ∀ a b : List Char, keyOf a = keyOf b → a = b
  | [], [] => fun _ => rfl
  | [], c :: cs => by
    intro h
    have hp := keyOf_pos cs
    simp only [keyOf, keyBase] at h
    have : 0x110000 ≤ 0x110000 * keyOf cs := Nat.le_mul_of_pos_right _ hp
    omega
  | c :: cs, [] => by
    intro h
    have hp := keyOf_pos cs
    simp only [keyOf, keyBase] at h
    have : 0x110000 ≤ 0x110000 * keyOf cs := Nat.le_mul_of_pos_right _ hp
    omega
  | c :: cs, d :: ds => by
    intro h
    have hc := char_lt_base c
    have hd := char_lt_base d
    simp only [keyOf] at h
    -- a character is below the base: `% keyBase` gives back the head, `/ keyBase` the key of the tail
    have h1 : (c.toNat + keyBase * keyOf cs) % keyBase = (d.toNat + keyBase * keyOf ds) % keyBase := by rw [h]
    have h2 : (c.toNat + keyBase * keyOf cs) / keyBase = (d.toNat + keyBase * keyOf ds) / keyBase := by rw [h]
    have hb : 0 < keyBase := by decide
    rw [Nat.add_mul_mod_self_left, Nat.add_mul_mod_self_left, Nat.mod_eq_of_lt hc, Nat.mod_eq_of_lt hd] at h1
    rw [Nat.add_mul_div_left _ _ hb, Nat.add_mul_div_left _ _ hb, Nat.div_eq_of_lt hc, Nat.div_eq_of_lt hd,
      Nat.zero_add, Nat.zero_add] at h2
    have := keyOf_inj cs ds h2
    have hcd : c = d := Char.toNat_inj.1 h1
    rw [this, hcd]

/-! ### a merge sort the kernel can run -/

abbrev KI := Nat × Nat

def mergeF : Nat → List KI → List KI → List KI
  | 0, xs, ys => xs ++ ys
  | f + 1, xs, ys =>
    match xs, ys with
    | [], ys => ys
    | xs, [] => xs
    | x :: xs', y :: ys' =>
      if x.1 ≤ y.1 then x :: mergeF f xs' (y :: ys') else y :: mergeF f (x :: xs') ys'

def mergePairs (fuel : Nat) : List (List KI) → List (List KI)
  | a :: b :: rest => mergeF fuel a b :: mergePairs fuel rest
  | [a] => [a]
  | [] => []

def mergeAll (fuel : Nat) : Nat → List (List KI) → List KI
  | 0, ls => ls.flatten
  | r + 1, ls =>
    match ls with
    | [] => []
    | [a] => a
    | a :: b :: rest => mergeAll fuel r (mergePairs fuel (a :: b :: rest))

/-- `l.length` is the fuel twice over: one merge takes fewer steps than the two runs have elements, and the
number of rounds is logarithmic.  Nothing rests on that: only `msort_perm` is proved, and whether the result is
sorted is checked on the result (`strictAsc`); out of fuel, the runs are appended as they are. -/
def msort (l : List KI) : List KI := mergeAll l.length l.length (l.map fun x => [x])

def strictAsc : List KI → Bool
  | a :: b :: rest => decide (a.1 < b.1) && strictAsc (b :: rest)
  | _ => true

theorem mergeF_perm : ∀ (f : Nat) (xs ys : List KI), (mergeF f xs ys).Perm (xs ++ ys)
  | 0, xs, ys => by simp [mergeF]
  | f + 1, [], ys => by simp [mergeF]
  | f + 1, x :: xs, [] => by simp [mergeF]
  | f + 1, x :: xs, y :: ys => by
    simp only [mergeF]
    split
    · exact (mergeF_perm f xs (y :: ys)).cons x
    · have h := (mergeF_perm f (x :: xs) ys).cons y
      refine h.trans ?_
      exact (List.perm_middle (a := y) (l₁ := x :: xs) (l₂ := ys)).symm

theorem mergePairs_perm (f : Nat) : ∀ ls : List (List KI), (mergePairs f ls).flatten.Perm ls.flatten
  | [] => by simp [mergePairs]
  | [a] => by simp [mergePairs]
  | a :: b :: rest => by
    simp only [mergePairs, List.flatten_cons]
    rw [← List.append_assoc]
    exact (mergeF_perm f a b).append (mergePairs_perm f rest)

theorem mergeAll_perm (f : Nat) : ∀ (r : Nat) (ls : List (List KI)), (mergeAll f r ls).Perm ls.flatten
  | 0, ls => by simp [mergeAll]
  | r + 1, [] => by simp [mergeAll]
  | r + 1, [a] => by simp [mergeAll]
  | r + 1, a :: b :: rest => by
    simp only [mergeAll]
    exact (mergeAll_perm f r _).trans (mergePairs_perm f _)

theorem flatten_singletons : ∀ l : List KI, (l.map fun x => [x]).flatten = l
  | [] => rfl
  | x :: xs => by simp [flatten_singletons xs]

theorem msort_perm (l : List KI) : (msort l).Perm l := by
  have := mergeAll_perm l.length l.length (l.map fun x => [x])
  rwa [flatten_singletons] at this

theorem strictAsc_head_lt : ∀ (l : List KI) (a : KI), strictAsc (a :: l) = true → ∀ b ∈ l, a.1 < b.1
  | [], _, _ => by simp
  | c :: l, a, h => by
    simp only [strictAsc, Bool.and_eq_true, decide_eq_true_eq] at h
    intro b hb
    rcases List.mem_cons.1 hb with rfl | hb
    · exact h.1
    · exact Nat.lt_trans h.1 (strictAsc_head_lt l c h.2 b hb)

theorem strictAsc_tail : ∀ (l : List KI) (a : KI), strictAsc (a :: l) = true → strictAsc l = true
  | [], _, _ => rfl
  | c :: l, a, h => by
    simp only [strictAsc, Bool.and_eq_true] at h
    exact h.2

theorem strictAsc_nodup : ∀ l : List KI, strictAsc l = true → (l.map (·.1)).Nodup
  | [], _ => by simp
  | a :: l, h => by
    simp only [List.map_cons, List.nodup_cons, List.mem_map]
    refine ⟨?_, strictAsc_nodup l (strictAsc_tail l a h)⟩
    rintro ⟨b, hb, hab⟩
    have := strictAsc_head_lt l a h b hb
    omega

/-! ### the ids of the units, flattened -/

def flatIds : List (List Char × Nat) := units.zipIdx.flatMap fun x => x.1.ids.map fun s => (s, x.2)

theorem mem_flatIds {s : List Char} {j : Nat} : (s, j) ∈ flatIds ↔ ∃ u, units[j]? = some u ∧ s ∈ u.ids := by
  simp only [flatIds, List.mem_flatMap, List.mem_map, Prod.mk.injEq, Prod.exists, List.mem_zipIdx_iff_getElem?]
  constructor
  · rintro ⟨u, i, hu, s', hs', rfl, rfl⟩; exact ⟨u, hu, hs'⟩
  · rintro ⟨u, hu, hs⟩; exact ⟨u, j, hu, s, hs, rfl, rfl⟩

def keyed (l : List (List Char × Nat)) : List KI := l.map fun e => (keyOf e.1, e.2)

theorem mem_keyed {e : List Char × Nat} {l : List (List Char × Nat)} : (keyOf e.1, e.2) ∈ keyed l ↔ e ∈ l := by
  simp only [keyed, List.mem_map]
  constructor
  · rintro ⟨⟨k, i⟩, he', h⟩
    obtain ⟨k', i'⟩ := e
    simp only [Prod.mk.injEq] at h
    rw [← keyOf_inj _ _ h.1, ← h.2]; exact he'
  · intro h; exact ⟨e, h, rfl⟩

theorem nodup_keys_of_keyed {l : List (List Char × Nat)} (h : ((keyed l).map (·.1)).Nodup) : (l.map (·.1)).Nodup := by
  have : (keyed l).map (·.1) = (l.map (·.1)).map keyOf := by simp [keyed, List.map_map, Function.comp_def]
  rw [this] at h
  exact List.Pairwise.of_map keyOf (fun _ _ hne heq => hne (congrArg keyOf heq)) h

/-- The two certificates the kernel checks on the generated table (`es` = the `UNITS` entries, `fs` = the ids of
the units flattened). -/
structure TableOK (es fs : List (List Char × Nat)) : Prop where
  same : msort (keyed es) = msort (keyed fs)
  asc : strictAsc (msort (keyed es)) = true

section
variable {es fs : List (List Char × Nat)}

theorem TableOK.perm (h : TableOK es fs) : (keyed es).Perm (keyed fs) := by
  have h1 := msort_perm (keyed es)
  have h2 := msort_perm (keyed fs)
  rw [← h.same] at h2
  exact h1.symm.trans h2

theorem TableOK.mem_iff (h : TableOK es fs) (e : List Char × Nat) : e ∈ es ↔ e ∈ fs := by
  rw [← mem_keyed, ← mem_keyed (l := fs)]
  exact h.perm.mem_iff

theorem TableOK.entries_nodup (h : TableOK es fs) : (es.map (·.1)).Nodup := by
  apply nodup_keys_of_keyed
  have := strictAsc_nodup _ h.asc
  exact ((msort_perm (keyed es)).map (·.1)).nodup_iff.1 this

end

/-! ### `HashMap` lookup -/

theorem findIdx_none {s : List Char} : ∀ {l : List (List Char × Nat)}, s ∉ l.map (·.1) → findIdx s l = none
  | [], _ => rfl
  | (k, i) :: rest, h => by
    simp only [List.map_cons, List.mem_cons, not_or] at h
    simp only [findIdx, findIdx_none h.2]
    rw [if_neg (fun hk => h.1 hk.symm)]

theorem findIdx_some_mem {s : List Char} {i : Nat} :
    ∀ {l : List (List Char × Nat)}, findIdx s l = some i → (s, i) ∈ l
  | [], h => by simp [findIdx] at h
  | (k, j) :: rest, h => by
    simp only [findIdx] at h
    cases hr : findIdx s rest with
    | some j' =>
      rw [hr] at h
      simp only [Option.some.injEq] at h
      subst h
      exact List.mem_cons_of_mem _ (findIdx_some_mem hr)
    | none =>
      rw [hr] at h
      simp only at h
      split at h
      · next hk => cases h; subst hk; exact List.mem_cons_self ..
      · cases h

theorem findIdx_of_mem_nodup {s : List Char} {i : Nat} :
    ∀ {l : List (List Char × Nat)}, (l.map (·.1)).Nodup → (s, i) ∈ l → findIdx s l = some i
  | [], _, h => by simp at h
  | (k, j) :: rest, hn, h => by
    simp only [List.map_cons, List.nodup_cons] at hn
    rcases List.mem_cons.1 h with h | h
    · simp only [Prod.mk.injEq] at h
      obtain ⟨rfl, rfl⟩ := h
      simp only [findIdx, findIdx_none hn.1]
      simp
    · have := findIdx_of_mem_nodup hn.2 h
      simp [findIdx, this]

/-- `Hs.Units.utf8` is `Hs.encChars`, which lossy decoding inverts -/
theorem utf8_inj {a b : List Char} (h : utf8 a = utf8 b) : a = b := by
  have := congrArg lossy (show encChars a = encChars b from h)
  rwa [lossy_encChars, lossy_encChars] at this

theorem findIdxBytes_utf8 (s : List Char) : ∀ l : List (List Char × Nat), findIdxBytes (utf8 s) l = findIdx s l
  | [] => rfl
  | (k, i) :: rest => by
    simp only [findIdxBytes, findIdx, findIdxBytes_utf8 s rest]
    by_cases hk : k = s
    · subst hk; simp
    · have : utf8 k ≠ utf8 s := fun h => hk (utf8_inj h)
      simp [hk, this]

theorem getUnitOfBytes_utf8 (s : List Char) : getUnitOfBytes (utf8 s) = getUnit s := by
  unfold getUnitOfBytes getUnit getUnitIdx
  rw [findIdxBytes_utf8]

/-! ### where `parse_number` ends the decimal, the exponent and the unit (the model of `Hs.Model.Units`) -/

theorem parseUnit_reads : ∀ (s rest : List UInt8), (∀ b ∈ s, isUnitChar b = true) → Delim rest →
    parseUnit (s ++ rest) = (s, rest)
  | [], rest, _, hd => by
    rcases hd with rfl | ⟨b, r, rfl, hb⟩
    · rfl
    · simp [parseUnit, hb]
  | b :: s, rest, hs, hd => by
    have hb : isUnitChar b = true := hs b (List.mem_cons_self ..)
    have ih := parseUnit_reads s rest (fun x hx => hs x (List.mem_cons_of_mem _ hx)) hd
    simp [parseUnit, hb, ih]

theorem scanDecimal_reads : ∀ (d r : List UInt8), DecimalText d →
    (r = [] ∨ ∃ b r', r = b :: r' ∧ isDecChar b = false) → scanDecimal (d ++ r) = (d, r)
  | [], r, _, hr => by
    rcases hr with rfl | ⟨b, r', rfl, hb⟩
    · rfl
    · simp [scanDecimal, hb]
  | b :: d, r, hd, hr => by
    have hb := hd b (List.mem_cons_self ..)
    have ih := scanDecimal_reads d r (fun x hx => hd x (List.mem_cons_of_mem _ hx)) hr
    simp [scanDecimal, hb.1, hb.2, ih]

theorem lexExponent_none (s rest : List UInt8) (hp : expPrefix s = false) (hne : s ≠ []) :
    lexExponent (s ++ rest) = .ok (none, s ++ rest) := by
  match s, hne with
  | [b], _ =>
    have hb : expLetters.contains b = false := hp
    simp only [List.cons_append, List.nil_append, lexExponent, hb, Bool.false_eq_true, if_false]
  | b :: c :: s', _ =>
    simp only [List.cons_append, lexExponent]
    cases hb : expLetters.contains b with
    | false => simp only [Bool.false_eq_true, if_false]
    | true =>
      have hc : (expNext.contains c || isDigit c) = false := by
        have hp' : (expLetters.contains b && (expNext.contains c || isDigit c)) = false := hp
        rw [hb, Bool.true_and] at hp'
        exact hp'
      simp only [hc, if_true, Bool.false_eq_true, if_false]

theorem lexNumberText_reads (d s rest : List UInt8) (hd : DecimalText d)
    (hs : ∀ b ∈ s, isUnitChar b = true) (hne : s ≠ [])
    (hfirst : ∀ b, s.head? = some b → isDecChar b = false) (hexp : expPrefix s = false) (hrest : Delim rest) :
    lexNumberText (d ++ s ++ rest) = .ok ⟨d, none, some s, rest⟩ := by
  obtain ⟨b, s', rfl⟩ := List.exists_cons_of_ne_nil hne
  have hb : isUnitChar b = true := hs b (List.mem_cons_self ..)
  have h1 : scanDecimal (d ++ (b :: s' ++ rest)) = (d, b :: s' ++ rest) :=
    scanDecimal_reads d _ hd (.inr ⟨b, s' ++ rest, rfl, hfirst b rfl⟩)
  have h2 := lexExponent_none (b :: s') rest hexp hne
  have h3 := parseUnit_reads (b :: s') rest hs hrest
  simp only [lexNumberText, List.append_assoc, h1, h2]
  simp only [List.cons_append] at h3 ⊢
  simp [hb, h3]

end Hs.Units

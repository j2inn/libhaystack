/-
  The byte classes of the Zinc scalar readers (the loops that collect them are `classLoop` of `ClassLoop`), how the
  classes lie to each other, and the names over them.  A fact "no byte of class `P` is the byte `k`" is one
  evaluation, `ne_of_class h (by decide)`; two classes are apart by their ranges (`range_disjoint`, `unit_not_digit`);
  the sweep over the 256 bytes (`all_u8`) is for a whole table of such facts at once (`num_dispatch`).

  Suffixes met from here on.  `_rt`: a reader on the writer's text; `_sp`, and a final `S` (`strLoop_bodyS`,
  `parseRef_disS`): on any spelling the grammar allows, of which the writer's text is one.  A final `W` on a notion
  (`DelimW`, `FirstW`, `TokW`, `RowOkW`): in any sentence of the grammar, against the writer's output; on a lexer
  lemma (`lexRead_specialW`, `lexRead_nlW`): after leading blanks.  `D`: generic, in the delimiter (`TokD`,
  `RdD`) or in what is asked of the tags (`MetaOkD`, `ColsOkD`); `G` (`colsShapeG`, `GoodVG`): column names may
  repeat; `F` (`afterExpF`): a stage of a reader as a function of its own; `ndt_`: `parse_number_date_time`.  A primed
  lemma states its unprimed neighbour in another form (`At.peek_some'`, `At.peek0'` of `ZincRtScan`: with the state
  as a witness; `DecShape.first'`: as a Boolean).
-/
import Hs.Lemmas.ZincRtUtf8
import Hs.Spec.ZincSpell

namespace Hs.Zinc
open Hs Hs.Scan Hs.Spell

/-! ### general facts about bytes and Booleans -/

theorem all_u8 (P : UInt8 → Bool) (h : (List.range 256).all (fun n => P (UInt8.ofNat n)) = true) :
    ∀ b : UInt8, P b = true := by
  intro b
  rw [List.all_eq_true] at h
  have := h b.toNat (by simp; exact UInt8.toNat_lt b)
  simpa using this

theorem ne_of_class {P : UInt8 → Bool} {c k : UInt8} (hc : P c = true) (hk : P k = false) : c ≠ k := by
  intro e; rw [e, hk] at hc; cases hc

theorem range_disjoint {lo hi lo' hi' b : UInt8} (h : (lo ≤ b && b ≤ hi) = true) (hd : hi < lo' ∨ hi' < lo) :
    (lo' ≤ b && b ≤ hi') = false := by
  simp only [Bool.and_eq_true, decide_eq_true_eq, UInt8.le_iff_toNat_le] at h
  simp only [UInt8.lt_iff_toNat_lt] at hd
  simp only [Bool.and_eq_false_iff, decide_eq_false_iff_not, UInt8.le_iff_toNat_le]
  omega

theorem and_true_imp {a b a' b' : Bool} (h : (a && b) = true) (ha : a = true → a' = true) (hb : b = true → b' = true) :
    (a' && b') = true := by
  rw [Bool.and_eq_true] at h ⊢
  exact ⟨ha h.1, hb h.2⟩

theorem and_true_left {a b : Bool} (h : (a && b) = true) : a = true := ((Bool.and_eq_true a b).mp h).1

theorem and_true_right {a b : Bool} (h : (a && b) = true) : b = true := ((Bool.and_eq_true a b).mp h).2

theorem flatMap_keep {α : Type} (p : α → Bool) (bs : List α) :
    bs.flatMap (fun b => if p b then [b] else []) = bs.filter p := by
  induction bs with
  | nil => rfl
  | cons b bs ih => rw [List.flatMap_cons, ih, List.filter_cons]; cases p b <;> rfl

/-! ### the byte classes of the scalar readers -/

def isAlnumB (b : UInt8) : Bool := isDigitB b || isLowerB b || isUpperB b

def isRefB (b : UInt8) : Bool := isAlnumB b || isRefPunct b

def isLitB (b : UInt8) : Bool := isAlnumB b || b == 95

def isNumB (b : UInt8) : Bool := isDigitB b || b == 46 || b == 45

/-- the class of `parse_decimal`'s loop -/
def isDecB (b : UInt8) : Bool := isDigitB b || b == 95 || b == 46 || b == 45

/-- `is_unit_char` on a byte -/
def isUnitB (b : UInt8) : Bool :=
  isLowerB b || isUpperB b || b == 36 || b == 47 || b == 37 || b == 95 || b > 128

/-- bytes that would carry a number token on (`:` after two digits would make the token a time) -/
def isNumMoreB (b : UInt8) : Bool := isDecB b || isUnitB b || b == 58

def isTimeMoreB (b : UInt8) : Bool := isDigitB b || b == 46

/-- zone name characters after the first -/
def isTzB (b : UInt8) : Bool := isAlnumB b || b == 95 || b == 47 || b == 43 || b == 45

/-- `,` `]` `}` LF CR -/
def isEndB (b : UInt8) : Bool := b == 44 || b == 93 || b == 125 || b == 10 || b == 13

theorem isEndB_cases {b : UInt8} (h : isEndB b = true) : b = 44 ∨ b = 93 ∨ b = 125 ∨ b = 10 ∨ b = 13 := by
  simp only [isEndB, Bool.or_eq_true, beq_iff_eq] at h
  rcases h with (((h | h) | h) | h) | h <;> simp [h]

/-! ### how the classes lie to each other -/

theorem digit_ne_45 {b : UInt8} (h : isDigitB b = true) : b ≠ 45 := ne_of_class h (by decide)

theorem digit_ne_minus {b : UInt8} (h : isDigitB b = true) : (b == 45) = false :=
  beq_eq_false_iff_ne.mpr (digit_ne_45 h)

theorem isNumB_dec {b : UInt8} (h : isNumB b = true) : isDecB b = true ∧ b ≠ 95 := by
  refine ⟨?_, ne_of_class h (by decide)⟩
  simp only [isNumB, isDecB, Bool.or_eq_true] at h ⊢
  rcases h with (h | h) | h
  · exact Or.inl (Or.inl (Or.inl h))
  · exact Or.inl (Or.inr h)
  · exact Or.inr h

theorem unit_not_digit {b : UInt8} (h : isUnitB b = true) : isDigitB b = false := by
  simp only [isUnitB, isLowerB, isUpperB, Bool.or_eq_true, Bool.and_eq_true, decide_eq_true_eq, beq_iff_eq,
    UInt8.le_iff_toNat_le, UInt8.lt_iff_toNat_lt, ← UInt8.toNat_inj, UInt8.reduceToNat, gt_iff_lt] at h
  simp only [isDigitB, Bool.and_eq_false_iff, decide_eq_false_iff_not, UInt8.le_iff_toNat_le, UInt8.reduceToNat]
  omega

theorem not_upper_of_lower {x : UInt8} (hx : isLowerB x = true) : isUpperB x = false :=
  range_disjoint hx (Or.inr (by decide))

theorem num_dispatch : ∀ b : UInt8, (!(isDigitB b || b == 45) || (b != 32 && b != 9 && b != 34 && b != 96
    && b != 64 && b != 94 && !isSpecial b)) = true :=
  all_u8 (fun b => (!(isDigitB b || b == 45) || (b != 32 && b != 9 && b != 34 && b != 96
    && b != 64 && b != 94 && !isSpecial b))) (by decide +kernel)

/-! ### names over the classes -/

def isIdent (cs : List Char) : Bool :=
  match cs with
  | [] => false
  | c :: r => c.toNat < 128 && isLowerB (byteOf c) && AllB isLitB r

theorem isIdent_lit {cs : List Char} (h : isIdent cs = true) : AllB isLitB cs = true ∧ cs ≠ [] := by
  cases cs with
  | nil => simp [isIdent] at h
  | cons c r =>
    simp only [isIdent, Bool.and_eq_true, decide_eq_true_eq] at h
    refine ⟨AllB_cons.mpr ⟨⟨h.1.1, ?_⟩, h.2⟩, by simp⟩
    simp [isLitB, isAlnumB, h.1.2]

theorem isIdent_head {k : List Char} (h : isIdent k = true) :
    ∃ b r, encChars k = b :: r ∧ isLowerB b = true := by
  cases k with
  | nil => simp [isIdent] at h
  | cons c r =>
    simp only [isIdent, Bool.and_eq_true, decide_eq_true_eq] at h
    exact ⟨byteOf c, encChars r, by rw [encChars_cons, encChar_ascii c h.1.1]; rfl, h.1.2⟩

def isSymBody (cs : List Char) : Bool :=
  match cs with
  | [] => false
  | c :: r => c.toNat < 128 && isLowerB (byteOf c) && AllB isRefB r

theorem isSymBody_parts {cs : List Char} (h : isSymBody cs = true) :
    ∃ c r, cs = c :: r ∧ c.toNat < 128 ∧ isLowerB (byteOf c) = true ∧ AllB isRefB (c :: r) = true := by
  cases cs with
  | nil => simp [isSymBody] at h
  | cons c r =>
    simp only [isSymBody, Bool.and_eq_true, decide_eq_true_eq] at h
    exact ⟨c, r, rfl, h.1.1, h.1.2, AllB_cons.mpr ⟨⟨h.1.1, by simp [isRefB, isAlnumB, h.1.2]⟩, h.2⟩⟩

def isUpperName (cs : List Char) : Bool :=
  match cs with
  | [] => false
  | c :: r => c.toNat < 128 && isUpperB (byteOf c) && AllB isLitB r

theorem isUpperName_lit {cs : List Char} (h : isUpperName cs = true) : AllB isLitB cs = true ∧ cs ≠ [] := by
  cases cs with
  | nil => simp [isUpperName] at h
  | cons c r =>
    simp only [isUpperName, Bool.and_eq_true, decide_eq_true_eq] at h
    refine ⟨AllB_cons.mpr ⟨⟨h.1.1, ?_⟩, h.2⟩, by simp⟩
    simp [isLitB, isAlnumB, h.1.2]

theorem isUpperName_head {k : List Char} (h : isUpperName k = true) :
    ∃ b r, encChars k = b :: r ∧ isUpperB b = true := by
  cases k with
  | nil => simp [isUpperName] at h
  | cons c r =>
    simp only [isUpperName, Bool.and_eq_true, decide_eq_true_eq] at h
    exact ⟨byteOf c, encChars r, by rw [encChars_cons, encChar_ascii c h.1.1]; rfl, h.1.2⟩

def isRefId (id : List Char) : Bool := !id.isEmpty && AllB isRefB id

theorem isRefId_parts {id : List Char} (h : isRefId id = true) : id ≠ [] ∧ AllB isRefB id = true := by
  simpa only [isRefId, Bool.and_eq_true, Bool.not_eq_eq_eq_not, Bool.not_true, List.isEmpty_eq_false_iff] using h

/-- a capitalised ASCII name other than the reserved `C` (Coord) -/
def isXStrType (ty : List Char) : Bool := isUpperName ty && ty != ['C']

theorem isXStrType_parts {ty : List Char} (h : isXStrType ty = true) : isUpperName ty = true ∧ ty ≠ ['C'] := by
  simpa only [isXStrType, Bool.and_eq_true, bne_iff_ne, ne_eq] using h

theorem all_ascii_mem {cs : List Char} (h : cs.all (fun c => c.toNat < 128) = true) : ∀ c ∈ cs, c.toNat < 128 := by
  simpa using h

/-! ### the grammar's spellings of the same -/

theorem digitB_eq (b : UInt8) : Spell.digitB b = isDigitB b := rfl

theorem chars_eq (bs : List UInt8) : Spell.chars bs = asciiChars bs := rfl

end Hs.Zinc

/-
  Hs.Lemmas.ZincTotalParse — C03: fuel sufficiency of the Zinc parser.  For every function of the
  parser's `mutual` block: no `panic`/`depth`, the measure does not grow, and `diverge` is only possible
  when `fuel ≤ 8 * measure + c` (a per-function constant `c ≤ 43`, below the 64 of `fuelFor`).  `Specs` is that
  part of the specifications `ParserSpecs` of `ZincParseSpec`, where the thirteen functions are taken together by
  induction on the fuel.
-/
import Hs.Lemmas.ZincParseSpec
namespace Hs
open Scan
namespace Zinc

structure Specs (fuel : Nat) : Prop where
  parseValue : ∀ d p, (parseValue fuel d p).Sat fuel (8 * p.M + 40)
    (fun o => o.2.sc.mu ≤ p.sc.mu ∧ (p.tokNone = true → o.2 = p))
  parseList : ∀ d p, (parseList fuel d p).Sat fuel (8 * p.M + 36) (fun o => o.2.sc.mu ≤ p.sc.mu)
  listLoop : ∀ d p e acc, (listLoop fuel d p e acc).Sat fuel (8 * p.sc.mu + 41) (fun o => o.2.sc.mu ≤ p.sc.mu)
  parseDict : ∀ d p, (parseDict fuel d p).Sat fuel (8 * p.M + 30) (fun o => o.2.sc.mu ≤ p.sc.mu)
  dictParts : ∀ d p e acc, (dictParts fuel d p e acc).Sat fuel (8 * p.M + 30) (fun o => o.2.sc.mu ≤ p.sc.mu)
  colMeta : ∀ d p acc, (colMeta fuel d p acc).Sat fuel (8 * p.M + 30) (fun o => o.2.sc.mu ≤ p.sc.mu)
  gridColumns : ∀ d p acc, (gridColumns fuel d p acc).Sat fuel (8 * p.sc.mu + 30)
    (fun o => o.2.sc.mu ≤ p.sc.mu)
  consumeEnd : ∀ r, (consumeEnd fuel r).Sat fuel (8 * r.p.M + 10)
    (fun o => o.p.M ≤ r.p.M ∧ (r.p.isChar 10 = true → o.p.isEof = true ∨ o.p.M < r.p.M))
  rowLoop : ∀ d p cols k acc, (rowLoop fuel d p cols k acc).Sat fuel (8 * p.M + 41)
    (fun o => o.2.M ≤ p.M ∧ o.2.isChar 10 = true)
  rowNext : ∀ d r cols, (rowNext fuel d r cols).Sat fuel (8 * r.p.M + 42)
    (fun o => o.2.K + (if o.1.isSome then 1 else 0) ≤ r.K)
  rowsLoop : ∀ d r cols acc, (rowsLoop fuel d r cols acc).Sat fuel (8 * r.K + 43) (fun o => o.2.K ≤ r.K)
  gridHeader : ∀ d p, (gridHeader fuel d p).Sat fuel (8 * p.M + 30) (fun o => o.2.p.M + 2 ≤ p.M)
  parseGrid : ∀ d p, (parseGrid fuel d p).Sat fuel (8 * p.M + 38) (fun o => o.2.sc.mu ≤ p.sc.mu)

theorem specsAll (fuel : Nat) : Specs fuel :=
  have s := parserSpecs fuel
  { parseValue := fun d p => (s.parseValue d p).mono id (fun _ h => h.1)
    parseList := fun d p => (s.parseList d p).mono id (fun _ h => h.1)
    listLoop := fun d p e acc => (s.listLoop d p e acc).mono id (fun _ h => h.1)
    parseDict := fun d p => (s.parseDict d p).mono id (fun _ h => h.1)
    dictParts := fun d p e acc => (s.dictParts d p e acc).mono id (fun _ h => h.1)
    colMeta := fun d p acc => (s.colMeta d p acc).mono id (fun _ h => h.1)
    gridColumns := fun d p acc => (s.gridColumns d p acc).mono id (fun _ h => h.1)
    consumeEnd := fun r => (s.consumeEnd r).mono id (fun _ h => h.1)
    rowLoop := fun d p cols k acc => (s.rowLoop d p cols k acc).mono id (fun _ h => h.1)
    rowNext := fun d r cols => (s.rowNext d r cols).mono id (fun _ h => h.1)
    rowsLoop := fun d r cols acc => (s.rowsLoop d r cols acc).mono id (fun _ h => h.1)
    gridHeader := fun d p => (s.gridHeader d p).mono id (fun _ h => h.1)
    parseGrid := fun d p => (s.parseGrid d p).mono id (fun _ h => h.1) }

theorem rowsLoop_step {n} (ih : Specs n) : ∀ d r cols acc,
    (rowsLoop (n + 1) d r cols acc).Sat (n + 1) (8 * r.K + 43) (fun o => o.2.K ≤ r.K) := by
  intro d r cols acc; rw [rowsLoop]
  refine (ih.rowNext d r cols).elim (fun ⟨o, r1⟩ h1 => ?_) trivial (fun hd => fuel_le hd (j := 0) (RowState.M_le_K r))
  cases o with
  | none => exact h1
  | some row =>
    have h1 : r1.K + 1 ≤ r.K := h1
    exact (ih.rowsLoop d r1 cols _).mono (fun hd => fuel_le hd h1) (fun _ h => Nat.le_trans h (Nat.le_of_succ_le h1))

theorem consumeEnd_spec (fuel r) : (consumeEnd fuel r).Sat fuel (8 * r.p.M + 10)
    (fun o => o.p.M ≤ r.p.M ∧ (r.p.isChar 10 = true → o.p.isEof = true ∨ o.p.M < r.p.M)) :=
  (specsAll fuel).consumeEnd r
theorem rowLoop_spec (fuel d p cols k acc) : (rowLoop fuel d p cols k acc).Sat fuel (8 * p.M + 41)
    (fun o => o.2.M ≤ p.M ∧ o.2.isChar 10 = true) := (specsAll fuel).rowLoop d p cols k acc
theorem rowsLoop_spec (fuel d r cols acc) : (rowsLoop fuel d r cols acc).Sat fuel (8 * r.K + 43)
    (fun o => o.2.K ≤ r.K) := (specsAll fuel).rowsLoop d r cols acc
theorem parseGrid_spec (fuel d p) : (parseGrid fuel d p).Sat fuel (8 * p.M + 38)
    (fun o => o.2.sc.mu ≤ p.sc.mu) := (specsAll fuel).parseGrid d p

/-- `decode::from_str` is total: `fuelFor n = 8 n + 64` is enough for every input of `n` bytes; and what it returns
is of the reader's shape, nested at most 64 deep -/
theorem fromBytes_spec (bs : List UInt8) : (fromBytes bs).Sat 1 0 (fun v => decV v = true ∧ nestV v ≤ 64) := by
  unfold fromBytes
  dsimp only
  have hm := mu_make bs
  have hf : fuelFor bs.length = 8 * bs.length + 64 := rfl
  refine (lexRead_sat (fuelFor bs.length) (Scan.make bs)).elim (fun p h1 => ?_) trivial (fun hd => (by omega : 1 ≤ 0))
  dsimp only
  have h1' : p.sc.mu ≤ (Scan.make bs).mu := h1.1.1
  have hp := PS.M_le p
  exact ((parserSpecs (fuelFor bs.length)).parseValue 0 p).elim
    (fun ⟨_, _⟩ h => ⟨(h.2 h1.2).1.1, Nat.le_trans (Nat.le_of_eq (Nat.zero_add _).symm) (h.2 h1.2).1.2⟩) trivial
    (fun hd => (by omega : 1 ≤ 0))

end Zinc
end Hs

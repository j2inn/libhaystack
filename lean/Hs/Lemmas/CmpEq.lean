/-
  Hs.Lemmas.CmpEq — on NaN-free values the model of `==` says exactly what the model of `cmp`
  calls `Equal` (`eqv_iff_val` and its siblings); on names, optional names and name lists that is `CmpChars`.
-/
import Hs.Lemmas.CmpOrd
import Hs.Lemmas.CmpChars
namespace Hs

theorem Num.eqv_iff (a b : Num) (ha : a.v.isNaN = false) (hb : b.v.isNaN = false) :
    a.eqv b = true ↔ a.cmp b = .eq := by
  rw [Num.cmp_of a b ha hb, Ordering.then_eq_eq, cmpOptChars_eq_iff, Int.compare_eq_eq]
  simp [Num.eqv, Flt.feq_of _ _ ha hb]

theorem coordEq_iff (a1 a2 b1 b2 : Flt) (h1 : a1.isNaN = false) (h2 : a2.isNaN = false)
    (h3 : b1.isNaN = false) (h4 : b2.isNaN = false) :
    coordEq a1 a2 b1 b2 = true ↔ coordCmp a1 a2 b1 b2 = .eq := by
  rw [coordCmp_of _ _ _ _ h1 h2 h3 h4, Ordering.then_eq_eq, Int.compare_eq_eq, Int.compare_eq_eq]
  simp [coordEq, Flt.feq_of _ _ h1 h3, Flt.feq_of _ _ h2 h4]

theorem kind_cmp_eq (a b : Val) : Val.cmp a b = .eq → a.kindIdx = b.kindIdx := by
  rw [Val.cmp, Ordering.then_eq_eq, Nat.compare_eq_eq]; exact fun h => h.1

theorem eqv_kind (a b : Val) : Val.eqv a b = true → a.kindIdx = b.kindIdx := by
  fun_cases Val.eqv a b <;> intro h
  -- every arm of `Val.eqv` but the catch-all pairs a constructor with itself; the catch-all answers `false`
  any_goals rfl
  cases h

theorem Tags.cmp_eq_iff (a b : Tags) :
    Tags.cmp a b = .eq ↔ a.keys = b.keys ∧ Tags.cmpVals a b = .eq := by
  rw [Tags.cmp, Ordering.then_eq_eq, cmpKeys_eq_iff]

theorem Tags.keys_cons (k v t) : (Tags.cons k v t).keys = k :: t.keys := rfl

/- `CmpOrd` looks at a container through `uncons`, because `OrdAt` has a rule for `cmpOpt`; from here on two containers
are taken apart side by side, the three mismatched shapes are closed by computation and only the cons/cons arm has
something to say.  For dicts the member of the recursion is `eqv_iff_tags'`, about what `Tags.cmp … = .eq` unfolds to
(`Tags.cmp_eq_iff`: equal keys, then the values); `eqv_iff_tags` after the block is the statement about `Tags.cmp`. -/
mutual
theorem eqv_iff_val : (a b : Val) → NF a → NF b → (Val.eqv a b = true ↔ Val.cmp a b = .eq)
  | a, b, ha, hb => by
    by_cases hk : a.kindIdx = b.kindIdx
    · rw [Val.cmp_of_kind_eq hk]
      cases Val.sameKind hk
      all_goals simp only [Val.eqv, Val.cmpSame]
      case bool x y => cases x <;> cases y <;> decide
      case num x y => exact Num.eqv_iff x y (nf_num.1 ha) (nf_num.1 hb)
      case str x y => simp [cmpChars_eq_iff]
      case uri x y => simp [cmpChars_eq_iff]
      case ref x _ y _ => simp [cmpChars_eq_iff]
      case sym x y => simp [cmpChars_eq_iff]
      case date x y => simp
      case time x y => simp
      case dateTime x y => simp
      case coord x1 x2 y1 y2 =>
        exact coordEq_iff _ _ _ _ (nf_coord.1 ha).1 (nf_coord.1 ha).2 (nf_coord.1 hb).1 (nf_coord.1 hb).2
      case xstr x1 x2 y1 y2 => simp [Ordering.then_eq_eq, cmpChars_eq_iff]
      case list xs ys => exact eqv_iff_vals xs ys ha hb
      case dict x y => exact (eqv_iff_tags' x y ha hb).trans (Tags.cmp_eq_iff x y).symm
      case grid m1 c1 r1 v1 m2 c2 r2 v2 =>
        obtain ⟨hm1, hc1, hr1⟩ := nf_grid.1 ha
        obtain ⟨hm2, hc2, hr2⟩ := nf_grid.1 hb
        simp only [Ordering.then_eq_eq, Bool.and_eq_true, cmpChars_eq_iff, beq_iff_eq,
          eqv_iff_otags m1 m2 hm1 hm2, eqv_iff_cols c1 c2 hc1 hc2, eqv_iff_rows r1 r2 hr1 hr2, and_assoc]
    · constructor
      · intro h; exact absurd (eqv_kind a b h) hk
      · intro h; exact absurd (kind_cmp_eq a b h) hk
termination_by structural a => a
theorem eqv_iff_vals : (a b : Vals) → NFs a → NFs b → (Vals.eqv a b = true ↔ Vals.cmp a b = .eq)
  | .nil, .nil, _, _ => by simp [Vals.eqv, Vals.cmp]
  | .nil, .cons _ _, _, _ => by simp [Vals.eqv, Vals.cmp]
  | .cons _ _, .nil, _, _ => by simp [Vals.eqv, Vals.cmp]
  | .cons a as, .cons b bs, ha, hb => by
    simp only [Vals.eqv, Vals.cmp, Bool.and_eq_true, Ordering.then_eq_eq,
      eqv_iff_val a b (nfs_cons.1 ha).1 (nfs_cons.1 hb).1, eqv_iff_vals as bs (nfs_cons.1 ha).2 (nfs_cons.1 hb).2]
termination_by structural a => a
theorem eqv_iff_tags' : (a b : Tags) → NFt a → NFt b →
    (Tags.eqv a b = true ↔ a.keys = b.keys ∧ Tags.cmpVals a b = .eq)
  | .nil, .nil, _, _ => by simp [Tags.eqv, Tags.cmpVals, Tags.keys]
  | .nil, .cons _ _ _, _, _ => by simp [Tags.eqv, Tags.cmpVals, Tags.keys]
  | .cons _ _ _, .nil, _, _ => by simp [Tags.eqv, Tags.cmpVals, Tags.keys]
  | .cons k a as, .cons l b bs, ha, hb => by
    simp only [Tags.eqv, Tags.cmpVals, Tags.keys, Bool.and_eq_true, Ordering.then_eq_eq, beq_iff_eq,
      List.cons.injEq, eqv_iff_val a b (nft_cons.1 ha).1 (nft_cons.1 hb).1,
      eqv_iff_tags' as bs (nft_cons.1 ha).2 (nft_cons.1 hb).2]
    constructor
    · rintro ⟨⟨h1, h2⟩, h3, h4⟩; exact ⟨⟨h1, h3⟩, h2, h4⟩
    · rintro ⟨⟨h1, h3⟩, h2, h4⟩; exact ⟨⟨h1, h2⟩, h3, h4⟩
termination_by structural a => a
theorem eqv_iff_otags : (a b : OTags) → NFo a → NFo b → (OTags.eqv a b = true ↔ OTags.cmp a b = .eq)
  | .none, .none, _, _ => by simp [OTags.eqv, OTags.cmp]
  | .none, .some _, _, _ => by simp [OTags.eqv, OTags.cmp]
  | .some _, .none, _, _ => by simp [OTags.eqv, OTags.cmp]
  | .some a, .some b, ha, hb => by
    simp only [OTags.eqv, OTags.cmp]
    exact (eqv_iff_tags' a b ha hb).trans (Tags.cmp_eq_iff a b).symm
termination_by structural a => a
theorem eqv_iff_cols : (a b : Cols) → NFc a → NFc b → (Cols.eqv a b = true ↔ Cols.cmp a b = .eq)
  | .nil, .nil, _, _ => by simp [Cols.eqv, Cols.cmp]
  | .nil, .cons _ _ _, _, _ => by simp [Cols.eqv, Cols.cmp]
  | .cons _ _ _, .nil, _, _ => by simp [Cols.eqv, Cols.cmp]
  | .cons n m c, .cons n' m' c', ha, hb => by
    simp only [Cols.eqv, Cols.cmp, Bool.and_eq_true, Ordering.then_eq_eq, beq_iff_eq, cmpChars_eq_iff,
      eqv_iff_otags m m' (nfc_cons.1 ha).1 (nfc_cons.1 hb).1,
      eqv_iff_cols c c' (nfc_cons.1 ha).2 (nfc_cons.1 hb).2, and_assoc]
termination_by structural a => a
theorem eqv_iff_rows : (a b : Rows) → NFr a → NFr b → (Rows.eqv a b = true ↔ Rows.cmp a b = .eq)
  | .nil, .nil, _, _ => by simp [Rows.eqv, Rows.cmp]
  | .nil, .cons _ _, _, _ => by simp [Rows.eqv, Rows.cmp]
  | .cons _ _, .nil, _, _ => by simp [Rows.eqv, Rows.cmp]
  | .cons a as, .cons b bs, ha, hb => by
    simp only [Rows.eqv, Rows.cmp, Bool.and_eq_true, Ordering.then_eq_eq, Tags.cmp_eq_iff,
      eqv_iff_tags' a b (nfr_cons.1 ha).1 (nfr_cons.1 hb).1, eqv_iff_rows as bs (nfr_cons.1 ha).2 (nfr_cons.1 hb).2]
termination_by structural a => a
end

theorem eqv_iff_tags : (a b : Tags) → NFt a → NFt b → (Tags.eqv a b = true ↔ Tags.cmp a b = .eq)
  | a, b, ha, hb => (eqv_iff_tags' a b ha hb).trans (Tags.cmp_eq_iff a b).symm

end Hs

/-
  C11 (lazy rows): the length of the first token of a value's text (`firstTokLen`), and the lazy row iterator
  (`RowIterator::next` = `rowNext`) driven one call at a time over the row lines the writer prints for a top-level
  grid, complete or cut after the first token of some line.  For every call the lemmas record where the scanner stands
  when the row is handed out: exactly after the first token of the NEXT line (`rowTrace`), with an empty peek stash —
  the iterator's `consume_end` has read that one token to decide whether the grid goes on.
  One call on a row line is C01's `rowNext_line`; `hands_rows` is generic in the text `Y` after the rows (`TailOk`).

  Fuel: the bounds `4 * length + c` are those of the round-trip lemmas used here (`RdVal` asks `+ 8`, `rowLoop_rt`
  `+ 12`).  `rowNext` hands its own fuel less one to `consumeEnd` and `rowLoop`, which is why the statements speak of
  `g + 2` below `Hands (g + 3)`.
-/
import Hs.Lemmas.ZincRtTop
namespace Hs.Zinc
open Hs Hs.Scan

def firstTokLen : Val → Nat
  | .list _ => 1
  | .dict _ => 1
  | .grid _ _ _ _ => 1
  | v => (enc v true).length

theorem firstTokLen_scalar {v : Val} (h : Scalar v = true) : firstTokLen v = (enc v true).length := by
  cases v <;> first | rfl | cases h

theorem tokRt_of_scalar {v : Val} (hg : GoodV v) (h : Scalar v = true) : TokRt v := by
  cases v <;> first | (simp only [GoodV] at hg; exact hg.1) | cases h

theorem enc_open {v : Val} (hg : GoodV v) (h : Scalar v = false) :
    firstTokLen v = 1 ∧ ∃ c body, enc v true = c :: body ∧ isSpecial c = true ∧ c ≠ 13 ∧ c ≠ 62 := by
  cases v with
  | list xs => exact ⟨rfl, _, _, enc_list xs true, by decide, by decide, by decide⟩
  | dict d => exact ⟨rfl, _, _, enc_dict d true, by decide, by decide, by decide⟩
  | grid md cols rows ver =>
    simp only [GoodV] at hg
    cases cols with
    | nil => simp [colsShape] at hg
    | cons n cm c =>
      have e := enc_grid_nested md n cm c rows ver []
      rw [List.append_nil] at e
      exact ⟨rfl, _, _, e, by decide, by decide, by decide⟩
  | _ => cases h

theorem firstTokLen_le (v : Val) (hg : GoodV v) : 1 ≤ firstTokLen v ∧ firstTokLen v ≤ (enc v true).length := by
  cases h : Scalar v with
  | true =>
    obtain ⟨b, r, e, _⟩ := firstOk_good v hg
    rw [firstTokLen_scalar h, e]
    simp
  | false =>
    obtain ⟨h1, c, body, e, _⟩ := enc_open hg h
    rw [h1, e]
    simp

theorem firstTok_open {s : Scan} {c : UInt8} {X : List UInt8} (hat : At s (c :: X))
    (hs : s.stash = []) (hc : isSpecial c = true) (h13 : c ≠ 13) (h62 : c ≠ 62) (f : Nat) (hf : 1 ≤ f) :
    ∃ p, lexRead f s = .ok p ∧ At p.sc X ∧ p.sc.stash = [] ∧ PS.isChar p 62 = false := by
  obtain ⟨g, rfl⟩ : ∃ g, f = g + 1 := ⟨f - 1, by omega⟩
  refine ⟨_, lexRead_special hat hc h13 g, hat.advance, ?_, ?_⟩
  · exact advance_clean hs
  · rw [isChar_ch]; simpa using h62

/-- the peek stash is empty afterwards unless a space follows a scalar (the Ref reader peeks one byte past a space).
The `+ 3` is the fuel bound of `TokRt`, to which a scalar is handed as it is. -/
theorem firstTok_at (v : Val) (hg : GoodV v) (s : Scan) (X : List UInt8) (f : Nat)
    (hat : At s ((enc v true).take (firstTokLen v) ++ X)) (hs : s.stash = []) (hd : Scalar v = true → Delim X)
    (hf : firstTokLen v + 3 ≤ f) :
    ∃ p, lexRead f s = .ok p ∧ At p.sc X ∧ ((Scalar v = true → X.head? ≠ some 32) → p.sc.stash = []) ∧
      PS.isChar p 62 = false := by
  cases h : Scalar v with
  | true =>
    rw [firstTokLen_scalar h] at hat hf
    rw [List.take_length] at hat
    obtain ⟨s', e, hp⟩ := (tokRt_of_scalar hg h).2 s X f hat hs (hd h) hf
    exact ⟨_, e, hp.1, fun hx => hp.2.2 (hx rfl), rfl⟩
  | false =>
    obtain ⟨h1, c, body, e, hc, h13, h62⟩ := enc_open hg h
    rw [h1, e] at hat
    obtain ⟨p, e, hp, hst, hq⟩ := firstTok_open (by simpa using hat) hs hc h13 h62 f (by omega)
    exact ⟨p, e, hp, fun _ => hst, hq⟩

/-- length of the first token of the line the writer prints for row `r`: the first cell's first token, or the
`,` that follows a missing first cell -/
def rowFirstLen (r : Tags) : List (List Char) → Nat
  | [] => 0
  | n :: _ => match r.get? n with
    | some v => firstTokLen v
    | none => 1

theorem rowFirstLen_of_head {r : Tags} {names : List (List Char)} {n : List Char} (hn : names.head? = some n) :
    rowFirstLen r names = match r.get? n with | some v => firstTokLen v | none => 1 := by
  cases names with
  | nil => cases hn
  | cons n' ns => cases hn; rfl

def rowFirstBytes (r : Tags) (names : List (List Char)) (single : Bool) : List UInt8 :=
  (rowBytes r names single ++ [10]).take (rowFirstLen r names)

/-- what has to follow the first token so that the lexer ends it there: after a scalar first cell, `,` or newline
(after `,`, `[`, `{`, `<` anything may follow) -/
def FirstEnds (r : Tags) (names : List (List Char)) (X : List UInt8) : Prop :=
  ∀ n v, names.head? = some n → r.get? n = some v → Scalar v = true → ∃ d rest, X = d :: rest ∧ (d = 44 ∨ d = 10)

theorem delim_of_sep {X : List UInt8} (h : ∃ d rest, X = d :: rest ∧ (d = 44 ∨ d = 10)) :
    Delim X ∧ X.head? ≠ some 32 := by
  obtain ⟨d, rest, rfl, hd⟩ := h
  refine ⟨.of_end rest ?_, ?_⟩
  · rcases hd with rfl | rfl <;> simp
  · rcases hd with rfl | rfl <;> simp

theorem rowFirst_gen (r : Tags) (names : List (List Char)) (single : Bool) (X : List UInt8)
    (hne : names ≠ []) (hsingle : names.length = 1 → single = true)
    (hgood : ∀ n v, r.get? n = some v → GoodV v)
    (hpres : single = true → ∀ n ∈ names, r.get? n ≠ none) (hX : FirstEnds r names X)
    (s : Scan) (f : Nat) (hat : At s (rowFirstBytes r names single ++ X)) (hs : s.stash = [])
    (hf : rowFirstLen r names + 3 ≤ f) :
    ∃ p, lexRead f s = .ok p ∧ At p.sc X ∧ p.sc.stash = [] ∧ PS.isChar p 62 = false ∧
      FirstOk (rowFirstBytes r names single ++ X) := by
  cases rowHead r names single hne hsingle hpres with
  | cell n v mid hn hget hL hmid =>
    have hg := hgood n v hget
    obtain ⟨h1, h2⟩ := firstTokLen_le v hg
    have hfl : rowFirstLen r names = firstTokLen v := by rw [rowFirstLen_of_head hn, hget]
    have hfb : rowFirstBytes r names single = (enc v true).take (firstTokLen v) := by
      rw [rowFirstBytes, hfl, hL, List.append_assoc, List.take_append_of_le_length h2]
    rw [hfb] at hat ⊢
    rw [hfl] at hf
    have hsc : Scalar v = true → Delim X ∧ X.head? ≠ some 32 := fun hsv => delim_of_sep (hX n v hn hget hsv)
    obtain ⟨p, e, hp, hst, h62⟩ := firstTok_at v hg s X f hat hs (fun hsv => (hsc hsv).1) hf
    refine ⟨p, e, hp, hst (fun hsv => (hsc hsv).2), h62, ?_⟩
    obtain ⟨b, rr, eb, hb⟩ := firstOk_good v hg
    obtain ⟨k, hk⟩ : ∃ k, firstTokLen v = k + 1 := ⟨firstTokLen v - 1, by omega⟩
    rw [eb, hk]
    exact ⟨b, List.take k rr ++ X, by simp, hb⟩
  | missing n m hn hget hL =>
    have hfl : rowFirstLen r names = 1 := by rw [rowFirstLen_of_head hn, hget]
    have hfb : rowFirstBytes r names single = [44] := by rw [rowFirstBytes, hfl, hL]; rfl
    rw [hfb] at hat ⊢
    obtain ⟨p, e, h1, h2, h3⟩ := firstTok_open (by simpa using hat) hs (by decide) (by decide) (by decide) f (by omega)
    exact ⟨p, e, h1, h2, h3, 44, X, rfl, by decide, by decide, by decide, by decide⟩

theorem rowFirst_split (r : Tags) (names : List (List Char)) (single : Bool) (tl : List UInt8)
    (hne : names ≠ []) (hsingle : names.length = 1 → single = true)
    (hgood : ∀ n v, r.get? n = some v → GoodV v)
    (hpres : single = true → ∀ n ∈ names, r.get? n ≠ none) :
    1 ≤ rowFirstLen r names ∧ rowFirstLen r names ≤ (rowBytes r names single).length ∧
      FirstEnds r names ((rowBytes r names single ++ 10 :: tl).drop (rowFirstLen r names)) := by
  cases rowHead r names single hne hsingle hpres with
  | cell n v mid hn hget hL hmid =>
    obtain ⟨h1, h2⟩ := firstTokLen_le v (hgood n v hget)
    have hfl : rowFirstLen r names = firstTokLen v := by rw [rowFirstLen_of_head hn, hget]
    refine ⟨hfl ▸ h1, by rw [hL, List.length_append]; omega, ?_⟩
    intro n' v' hn' hv hsc
    rw [hn] at hn'; cases hn'
    rw [hget] at hv; cases hv
    rw [hfl, firstTokLen_scalar hsc, hL, List.append_assoc, List.drop_left]
    exact hmid tl
  | missing n m hn hget hL =>
    have hfl : rowFirstLen r names = 1 := by rw [rowFirstLen_of_head hn, hget]
    refine ⟨by omega, by rw [hL, hfl]; simp, ?_⟩
    intro n' v' hn' hv
    rw [hn] at hn'; cases hn'
    rw [hget] at hv; cases hv

theorem rowFirst_at (r : Tags) (names : List (List Char)) (single : Bool) (tl : List UInt8)
    (hne : names ≠ []) (hsingle : names.length = 1 → single = true)
    (hgood : ∀ n v, r.get? n = some v → GoodV v)
    (hpres : single = true → ∀ n ∈ names, r.get? n ≠ none)
    (s : Scan) (f : Nat) (hat : At s (rowBytes r names single ++ 10 :: tl)) (hs : s.stash = [])
    (hf : (rowBytes r names single).length + 3 ≤ f) :
    ∃ p, lexRead f s = .ok p ∧ At p.sc ((rowBytes r names single ++ 10 :: tl).drop (rowFirstLen r names)) ∧
      p.sc.stash = [] ∧ PS.isChar p 62 = false ∧ FirstOk (rowBytes r names single ++ 10 :: tl) := by
  obtain ⟨_, h2, hX⟩ := rowFirst_split r names single tl hne hsingle hgood hpres
  have e : rowFirstBytes r names single ++ (rowBytes r names single ++ 10 :: tl).drop (rowFirstLen r names)
      = rowBytes r names single ++ 10 :: tl := by
    rw [rowFirstBytes, List.take_append_of_le_length h2, ← List.take_append_of_le_length h2 (l₂ := 10 :: tl),
      List.take_append_drop]
  rw [← e] at hat
  obtain ⟨p, ep, hp, hst, h62, hfo⟩ := rowFirst_gen r names single _ hne hsingle hgood hpres hX s f hat hs (by omega)
  exact ⟨p, ep, hp, hst, h62, e ▸ hfo⟩

/-! ### the iterator driven call by call -/

def Hands (F depth : Nat) (names : List (List Char)) (End : RowState → Prop) :
    RowState → List (Tags × List UInt8) → Prop
  | st, [] => End st
  | st, (row, text) :: more =>
    ∃ st', rowNext F depth st names = .ok (some row, st') ∧ At st'.p.sc text ∧ st'.p.sc.stash = [] ∧
      Hands F depth names End st' more

def AtEnd (F depth : Nat) (names : List (List Char)) (st : RowState) : Prop :=
  ∃ st', rowNext F depth st names = .ok (Option.none, st')

/-- the lines of `rows`, then the text `Y`: what the iterator hands out, each row with the text the scanner is
positioned at, which is what remains after the first token of the following line; after the last row it is `Z`,
what remains of `Y` after its first token.  For a complete top-level grid `Y` is the blank line `[10]` (its newline
is the token) and `Z = []`; for a grid still arriving `Y` is the first token of the next line followed by whatever
has arrived after it, `Z`. -/
def rowTrace (names : List (List Char)) (single : Bool) (Y Z : List UInt8) : Rows → List (Tags × List UInt8)
  | .nil => []
  | .cons r rs =>
    (lexImgT r,
      match rs with
      | .nil => Z
      | .cons r2 rs2 =>
        (rowBytes r2 names single ++ 10 :: (encRows rs2 names single ++ Y)).drop (rowFirstLen r2 names))
      :: rowTrace names single Y Z rs

/-- what the iterator does at the text `Y` that follows the row lines: after the newline of the last row
(`consume_end`), and when there is no row line at all (the header's last `lexRead` stands at `Y`) -/
structure TailOk (g : Nat) (End : RowState → Prop) (Y Z : List UInt8) : Prop where
  afterRow : ∀ p2 : PS, p2.tok = .ch 10 → At p2.sc Y → p2.sc.stash = [] →
    ∃ st, consumeEnd (g + 2) { p := p2, nestedStart := false, nestedEnd := false } = .ok st ∧
      At st.p.sc Z ∧ st.p.sc.stash = [] ∧ End st
  noRow : ∀ sc : Scan, At sc Y → sc.stash = [] →
    ∃ q, lexRead (g + 2) sc = .ok q ∧ End { p := q, nestedStart := false, nestedEnd := false }

/-- there is a last row, so of `hY` only `afterRow` is used -/
theorem hands_rows (names : List (List Char)) (single : Bool)
    (hne : names ≠ []) (hsingle : names.length = 1 → single = true) (depth g : Nat)
    (Y Z : List UInt8) (End : RowState → Prop) (hY : TailOk g End Y Z) :
    ∀ (r : Tags) (rs : Rows), RowsOk names single (.cons r rs) → GoodR (.cons r rs) →
    depth + nestR (.cons r rs) ≤ 64 → 4 * (encRows (.cons r rs) names single).length + 17 ≤ g →
    ∀ (f1 : Nat) (sc : Scan), At sc (encRows (.cons r rs) names single ++ Y) → sc.stash = [] →
    4 * (encRows (.cons r rs) names single).length + 18 ≤ f1 →
    ∃ p, lexRead f1 sc = .ok p ∧
      Hands (g + 3) depth names End { p := p, nestedStart := false, nestedEnd := false }
        (rowTrace names single Y Z (.cons r rs))
  | r, rs, hok, hgood, hdep, hg, f1, sc, hat, hs, hf1 => by
    obtain ⟨hrow, hrest⟩ := hok
    simp only [GoodR] at hgood
    simp only [nestR] at hdep
    have hlen := encRows_length_cons r rs names single
    rw [encRows_cons] at hat
    simp only [List.append_assoc, List.cons_append] at hat
    obtain ⟨p, p2, e1, heof, h10, h62, ht2, h2, hs2, hnext⟩ := rowNext_line (hrow.line hne hsingle) false depth f1
      (g + 1) sc (encRows rs names single ++ Y) (fun e => by cases e) (by omega) (by simpa using hat) hs (by simp only [List.length_nil]; omega)
      (by simp only [List.length_nil]; omega)
    refine ⟨p, e1, ?_⟩
    -- `hnext`: the call is the row followed by `consumeEnd` at its newline token `p2`.  Before a further line that
    -- `consumeEnd` is the `lexRead` of the line's first token (`rowFirst_at`, `consumeEnd_next`), which is also the
    -- `lexRead` the induction hypothesis starts from (`hqq`); after the last row it is `hY.afterRow`
    cases rs with
    | cons r2 rs2 =>
      have hrow2 := hrest.1
      have hnest2 : nestT r2 ≤ nestR (.cons r2 rs2) := by simp only [nestR]; omega
      have hgood2 := hgood.2
      simp only [GoodR] at hgood2
      have hlen2 := encRows_length_cons r2 rs2 names single
      obtain ⟨q, eq, hq⟩ := hands_rows names single hne hsingle depth g Y Z End hY r2 rs2 hrest hgood.2
        (by omega) (by omega) (g + 1) p2.sc h2 hs2 (by omega)
      rw [encRows_cons] at h2
      simp only [List.append_assoc, List.cons_append] at h2
      obtain ⟨q', eq', hatq, hsq, hq62, hfo⟩ := rowFirst_at r2 names single (encRows rs2 names single ++ Y) hne hsingle
        (fun n v hv => (rdCell r2 hgood2.1 n v hv).2) (fun h n hn => (hrow2.cells n hn).2 h) p2.sc (g + 1) h2 hs2 (by omega)
      have hqq : q' = q := by rw [eq] at eq'; cases eq'; rfl
      subst hqq
      refine ⟨{ p := q', nestedStart := false, nestedEnd := false }, ?_, hatq, hsq, hq⟩
      rw [hnext, consumeEnd_next (g + 1) p2 q' false _ ht2 h2 hfo eq hq62]
    | nil =>
      simp only [encRows, List.nil_append] at h2
      obtain ⟨st, ec, hz, hsz, hend⟩ := hY.afterRow p2 ht2 h2 hs2
      exact ⟨st, by rw [hnext, ec], hz, hsz, hend⟩

/-- the complete grid: the blank line, then the end of the input; the iterator is finished -/
theorem tailOk_top (D g : Nat) (names : List (List Char)) : TailOk g (AtEnd (g + 3) D names) [10] [] where
  afterRow p2 ht2 h2 hs2 :=
    ⟨_, consumeEnd_top (g + 1) p2 ht2 h2, h2.advance, advN_stash_nil 1 _ hs2, _,
      rowNext_done (g + 2) D _ names (by simp [PS.isEof, h2.advance.eof_nil])⟩
  noRow sc h5 _ :=
    ⟨{ sc := sc.advance, tok := .ch 10 }, lexRead_special h5 (by decide) (by decide) _, _,
      rowNext_done (g + 2) D _ names (by simp [PS.isEof, h5.advance.eof_nil])⟩

/-- the grid still arriving: the first token of the line of `rn`, then anything (`X`) -/
theorem tailOk_first (rn : Tags) (names : List (List Char)) (single : Bool) (X : List UInt8)
    (hne : names ≠ []) (hsingle : names.length = 1 → single = true)
    (hgood : ∀ n v, rn.get? n = some v → GoodV v)
    (hpres : single = true → ∀ n ∈ names, rn.get? n ≠ none) (hX : FirstEnds rn names X)
    (g : Nat) (hg : rowFirstLen rn names + 2 ≤ g) :
    TailOk g (fun _ => True) (rowFirstBytes rn names single ++ X) X where
  afterRow p2 ht2 h2 hs2 := by
    obtain ⟨q, eq, hatq, hsq, hq62, hfo⟩ := rowFirst_gen rn names single X hne hsingle hgood hpres hX p2.sc (g + 1)
      h2 hs2 (by omega)
    exact ⟨_, consumeEnd_next (g + 1) p2 q false _ ht2 h2 hfo eq hq62, hatq, hsq, trivial⟩
  noRow sc h5 hs5 := by
    obtain ⟨q, eq, _⟩ := rowFirst_gen rn names single X hne hsingle hgood hpres hX sc (g + 2) h5 hs5 (by omega)
    exact ⟨q, eq, trivial⟩

end Hs.Zinc

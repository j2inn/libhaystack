/-
  C04: the writer's text is one of the spellings of the grammar — `Spells v (enc v true)` and
  `SpellsTop v (encode v)` for every well-formed value whose numbers print as `-?d+(.d+)?` (first: the writer's
  numeral of such a number is a spelled decimal).
-/
import Hs.Lemmas.ZincStrict
import Hs.Lemmas.ZincEncForm
namespace Hs.Zinc
open Hs Hs.Scan Hs.Spell

theorem digits_self (d : UInt8) (r : List UInt8) (h : ∀ x ∈ d :: r, isDigitB x = true) : Digits (d :: r) (d :: r) := by
  refine ⟨h, ?_, d, r, rfl, h d (by simp)⟩
  rw [List.filter_eq_self]
  intro x hx
  have := h x hx
  simp only [bne_iff_ne, ne_eq]
  intro e; subst e; revert this; decide

theorem decimal_of_parts (neg : Bool) (body : List UInt8) (hp : Hs.Spec.DecParts body) :
    Decimal ((if neg then [45] else []) ++ body) ((if neg then [45] else []) ++ body) := by
  obtain ⟨b, ip, fp, rfl, hip, hfp⟩ := hp
  rcases hfp with rfl | ⟨c, fr, rfl, hfr⟩
  · have := Decimal.int neg (b :: ip) (b :: ip) (digits_self b ip hip)
    simpa using this
  · have := Decimal.frac neg (b :: ip) (b :: ip) (c :: fr) (c :: fr) (digits_self b ip hip) (digits_self c fr hfr)
    simpa using this

theorem decimal_of_strictDec (tb : List UInt8) (h : Hs.Spec.strictDec tb = true) : Decimal tb tb := by
  unfold Hs.Spec.strictDec at h
  split at h
  · have := decimal_of_parts true _ (Hs.Spec.strictBody_parts h)
    simpa using this
  · have := decimal_of_parts false _ (Hs.Spec.strictBody_parts h)
    simpa using this

theorem decimal_of_strict (txt : List Char) (htxt : asciiChars (txt.map byteOf) = txt)
    (h : Hs.Spec.strictText txt = true) :
    Decimal (txt.map byteOf) (txt.map byteOf) ∧ txt = chars (txt.map byteOf) :=
  ⟨decimal_of_strictDec _ h, by rw [chars_eq, htxt]⟩

theorem numSp_enc (n : Num) (hn : numOk n = true) (hs : Hs.Spec.strictNum n = true) : NumSp n (encNum n) := by
  rcases numOk_cases hn with hnf | hfin
  · exact numSp_nonfinite n hnf
  · obtain ⟨h1, h2, he, htxt, _, _⟩ := finiteNumOk_elim hfin
    simp only [Hs.Spec.strictNum, h1, h2, Bool.false_or] at hs
    obtain ⟨hd, ht⟩ := decimal_of_strict n.v.txt htxt hs
    rw [he, ← unitText_eq]; exact NumSp.dec n h1 h2 _ _ hd ht

theorem rowLine_sp (cells : List (List Char × List UInt8)) (single : Bool) :
    ∀ (ns : List (List Char)), ns ≠ [] → (∀ n ∈ ns, cellOf cells n single = cellText cells n) →
      RowLine cells ns (rowLine cells ns single)
  | [], h, _ => absurd rfl h
  | [n], _, he => by
    simp only [rowLine]
    rw [he n (by simp)]
    exact RowLine.one cells n
  | n :: n2 :: ns, _, he => by
    simp only [rowLine]
    rw [he n (by simp)]
    have ih := rowLine_sp cells single (n2 :: ns) (by simp) (fun x hx => he x (by simp [hx]))
    have := RowLine.cons cells n n2 ns [] _ Blanks.nil ih
    simpa using this

theorem spTag_enc (k : List Char) (v : Val) (h : Spells v (enc v true)) : SpTag k v (encChars k ++ valPart v) := by
  by_cases hm : isMarker v = true
  · obtain ⟨rfl, _⟩ := lexImg_marker hm
    simpa [valPart, isMarker] using SpTag.marker k
  · have hm' : isMarker v = false := by simpa using hm
    have := SpTag.val k v [] _ Blanks.nil h
    simpa [valPart, hm'] using this

theorem grid_wf_parts {md : OTags} {cols : Cols} {rows : Rows} {ver : List Char}
    (hwf : wfV (.grid md cols rows ver) = true) (hs : Hs.Spec.strictV (.grid md cols rows ver) = true) :
    (wfO md = true ∧ Hs.Spec.strictO md = true ∧ metaShape md = true) ∧
    (cols ≠ .nil ∧ wfC cols = true ∧ Hs.Spec.strictC cols = true ∧ colsShapeAux cols = true) ∧
    (cols.names ≠ [] ∧ wfR rows = true ∧ Hs.Spec.strictR rows = true ∧
      rowsShape cols.names (cols.length == 1) rows = true) := by
  obtain ⟨_, hms, hcs, hrs, hwo, hwc, hwr⟩ := wfV_grid_parts hwf
  obtain ⟨⟨n, cm, c, rfl⟩, hca⟩ := colsShape_parts hcs
  simp only [Hs.Spec.strictV, Bool.and_eq_true] at hs
  exact ⟨⟨hwo, hs.1.1, hms⟩, ⟨by simp, hwc, hs.1.2, hca⟩, ⟨by simp [Cols.names], hwr, hs.2, hrs⟩⟩

theorem spGrid_of_parts {md : OTags} {cols : Cols} {rows : Rows} {ver : List Char} (hm : SpMeta md (metaPart md))
    (hc : SpCols cols (encCols cols)) (hr : SpRows cols.names rows (encRows rows cols.names (cols.length == 1))) :
    SpGrid md cols rows ver (verBytes ++ metaPart md ++ [10] ++ encCols cols ++ [10]
      ++ encRows rows cols.names (cols.length == 1)) := by
  simpa [verBytes] using SpGrid.mk md cols rows ver _ [] [10] _ [] [10] _ hm Blanks.nil Nl.lf hc Blanks.nil Nl.lf hr

mutual
theorem spells_enc : ∀ v : Val, wfV v = true → Hs.Spec.strictV v = true → Spells v (enc v true)
  | .null, h, _ | .remove, h, _ | .marker, h, _ | .na, h, _ | .bool _, h, _ | .str _, h, _ | .uri _, h, _
  | .ref _ _, h, _ | .sym _, h, _ | .date _, h, _ | .time _, h, _ | .dateTime _, h, _ | .xstr _ _, h, _ =>
    spells_leaf _ rfl h nofun nofun
  | .num n, hwf, hs => Spells.num n _ (numSp_enc n hwf hs)
  | .coord a b, hwf, hs => by
    obtain ⟨ha, ta, _⟩ := decTextOk_elim (and_true_left hwf)
    obtain ⟨hb, tb, _⟩ := decTextOk_elim (and_true_right hwf)
    obtain ⟨da, ea⟩ := decimal_of_strict a.txt ta (and_true_left hs)
    obtain ⟨db, eb⟩ := decimal_of_strict b.txt tb (and_true_right hs)
    simp only [enc]
    rw [ha, hb]
    simpa using Spells.coord a b _ _ _ _ [] [] [] [] da db ea eb Blanks.nil Blanks.nil Blanks.nil Blanks.nil
  | .list xs, hwf, hs => by
    simpa [enc] using Spells.list xs [] _ Blanks.nil (spells_encVals xs hwf hs)
  | .dict d, hwf, hs => by
    simpa [enc] using
      Spells.dict d [] _ [] Blanks.nil (spells_encTags true 44 (Or.inl ⟨rfl, rfl⟩) d (and_true_right hwf) hs) Blanks.nil
  | .grid md cols rows ver, hwf, hs => by
    obtain ⟨⟨m1, m2, m3⟩, ⟨c0, c1, c2, c3⟩, ⟨r0, r1, r2, r3⟩⟩ := grid_wf_parts hwf hs
    rw [enc_grid_nested_sp md cols rows ver hwf]
    simpa using Spells.grid md cols rows ver [] [10] _ Blanks.nil Nl.lf (spGrid_of_parts (spells_encMeta md m1 m2 m3)
      (spells_encCols cols c0 c1 c2 c3) (spells_encRows cols.names (cols.length == 1) r0 rows r1 r2 r3))
theorem spells_encVals : ∀ xs : Vals, wfVs xs = true → Hs.Spec.strictVs xs = true → SpItems xs (encVals xs)
  | .nil, _, _ => SpItems.nil
  | .cons v .nil, hwf, hs => by
    simpa [encVals] using SpItems.last v _ [] (spells_enc v (and_true_left hwf) (and_true_left hs)) Blanks.nil
  | .cons v (.cons v2 vs), hwf, hs => by
    rw [encVals_cons2]
    simpa using SpItems.cons v v2 vs _ [] [] _ (spells_enc v (and_true_left hwf) (and_true_left hs)) Blanks.nil Blanks.nil
      (spells_encVals (.cons v2 vs) (and_true_right hwf) (and_true_right hs))
theorem spells_encTags (br : Bool) (sep : UInt8) (hsep : (br = true ∧ sep = 44) ∨ sep = 32) :
    ∀ t : Tags, wfT t = true → Hs.Spec.strictT t = true → SpTags br t (encTags t sep)
  | .nil, _, _ => SpTags.nil br
  | .cons k v .nil, hwf, hs => by
    rw [encTags_one]
    exact SpTags.one br k v _ (spTag_enc k v (spells_enc v (and_true_left hwf) (and_true_left hs)))
  | .cons k v (.cons k2 v2 t), hwf, hs => by
    have ih := spells_encTags br sep hsep (.cons k2 v2 t) (and_true_right hwf) (and_true_right hs)
    have hv := spTag_enc k v (spells_enc v (and_true_left hwf) (and_true_left hs))
    rw [encTags_cons2]
    rcases hsep with ⟨rfl, rfl⟩ | rfl
    · simpa using SpTags.comma k v k2 v2 t _ [] [] _ hv Blanks.nil Blanks.nil ih
    · simpa using SpTags.space br k v k2 v2 t _ [32] _ hv blanks_one (by simp) ih
theorem spells_encMeta : ∀ md : OTags, wfO md = true → Hs.Spec.strictO md = true → metaShape md = true →
    SpMeta md (metaPart md)
  | .none, _, _, _ => SpMeta.none
  | .some .nil, _, _, hm => by simp [metaShape, Tags.isEmpty] at hm
  | .some (.cons k v t), hwf, hs, _ =>
    SpMeta.some _ [32] _ blanks_one (by simp) (spells_encTags false 32 (Or.inr rfl) (.cons k v t) hwf hs)
theorem spells_encCols : ∀ c : Cols, c ≠ .nil → wfC c = true → Hs.Spec.strictC c = true → colsShapeAux c = true →
    SpCols c (encCols c)
  | .nil, h, _, _, _ => absurd rfl h
  | .cons n md .nil, _, hwf, hs, hsh => by
    rw [encCols_one]
    exact SpCols.one n md _ (spells_encMeta md (and_true_left hwf) (and_true_left hs) (colsShapeAux_tail hsh).2.1)
  | .cons n md (.cons n2 md2 c), _, hwf, hs, hsh => by
    rw [encCols_cons2]
    simpa using SpCols.cons n md n2 md2 c _ [] _
      (spells_encMeta md (and_true_left hwf) (and_true_left hs) (colsShapeAux_tail hsh).2.1) Blanks.nil
      (spells_encCols (.cons n2 md2 c) (by simp) (and_true_right hwf) (and_true_right hs) (colsShapeAux_tail hsh).2.2)
theorem spells_encCells : ∀ r : Tags, wfT r = true → Hs.Spec.strictT r = true → SpCells r (encCells r)
  | .nil, _, _ => SpCells.nil
  | .cons k v t, hwf, hs =>
    SpCells.cons k v t _ _ (spells_enc v (and_true_left hwf) (and_true_left hs))
      (spells_encCells t (and_true_right hwf) (and_true_right hs))
theorem spells_encRows (names : List (List Char)) (single : Bool) (hne : names ≠ []) :
    ∀ rows : Rows, wfR rows = true → Hs.Spec.strictR rows = true → rowsShape names single rows = true →
      SpRows names rows (encRows rows names single)
  | .nil, _, _, _ => SpRows.nil names
  | .cons r rs, hwf, hs, hsh => by
    obtain ⟨_, _, p3⟩ := rowShape_parts (and_true_left hsh)
    have hl := rowLine_sp (encCells r) single names hne
      (fun n hn => cellOf_encCells_sp r n single (fun h => p3 h n hn))
    simpa [encRows] using SpRows.cons names r rs _ _ [] [10] _
      (spells_encCells r (and_true_left hwf) (and_true_left hs)) hl Blanks.nil Nl.lf
      (spells_encRows names single hne rs (and_true_right hwf) (and_true_right hs) (and_true_right hsh))
end

theorem enc_top_eq : ∀ v : Val, (∀ md cols rows ver, v ≠ .grid md cols rows ver) → enc v false = enc v true
  | .grid md cols rows ver, h => absurd rfl (h md cols rows ver)
  | .null, _ | .remove, _ | .marker, _ | .bool _, _ | .na, _ | .num _, _ | .str _, _ | .uri _, _ | .ref _ _, _
  | .sym _, _ | .date _, _ | .time _, _ | .dateTime _, _ | .coord _ _, _ | .xstr _ _, _ | .list _, _ | .dict _, _ => rfl

theorem spellsTop_encode (v : Val) (hwf : wfV v = true) (hs : Hs.Spec.strictV v = true) : SpellsTop v (encode v) := by
  by_cases hg : ∃ md cols rows ver, v = .grid md cols rows ver
  · obtain ⟨md, cols, rows, ver, rfl⟩ := hg
    obtain ⟨n, cm, c, rfl⟩ := (colsShape_parts (wfV_grid_parts hwf).2.2.1).1
    obtain ⟨⟨m1, m2, m3⟩, ⟨c0, c1, c2, c3⟩, ⟨r0, r1, r2, r3⟩⟩ := grid_wf_parts hwf hs
    have hb := spGrid_of_parts (ver := ver) (spells_encMeta md m1 m2 m3) (spells_encCols _ c0 c1 c2 c3)
      (spells_encRows _ _ r0 rows r1 r2 r3)
    have := SpellsTop.gridNl md (.cons n cm c) rows ver [] _ [] [10] [] Blanks.nil hb Blanks.nil Nl.lf White.nil
      (fun _ _ => by
        have := encRows_last (Cols.names (.cons n cm c)) (Cols.length (.cons n cm c) == 1) rows
          (verBytes ++ metaPart md ++ [10] ++ encCols (.cons n cm c))
        simp only [List.append_assoc, List.cons_append, List.nil_append] at this ⊢
        rw [this]; decide)
    unfold encode
    rw [enc_grid_top]
    simpa [gridBody, tailR] using this
  · have hng : ∀ md cols rows ver, v ≠ .grid md cols rows ver := fun md cols rows ver e => hg ⟨md, cols, rows, ver, e⟩
    unfold encode
    rw [enc_top_eq v hng]
    have := SpellsTop.other v [] _ [] hng Blanks.nil (spells_enc v hwf hs) ⟨White.nil, fun b e => by cases e⟩
    simpa using this

end Hs.Zinc

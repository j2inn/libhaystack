/-
  Lemmas for C18: the ownership protocol stated over the history (counting allocations and destroys,
  "since the pointer was returned nothing touched its container") against the allocator's view `step`.
  Histories are kept latest-event-first (`past`), so that a new event is a `cons`.
-/
import Hs.Model.COwn
namespace Hs.COwn
open Hs

def isAlloc (o : Obj) : Ev → Bool
  | .alloc o' => o' == o
  | _ => false

def isFree (o : Obj) : Ev → Bool
  | .free _ o' => o' == o
  | _ => false

def allocs (o : Obj) (t : List Ev) : Nat := t.countP (isAlloc o)
def frees (o : Obj) (t : List Ev) : Nat := t.countP (isFree o)

def Owned (past : List Ev) (o : Obj) : Prop := allocs o past = 1 ∧ frees o past = 0

def touches (o : Obj) : Ev → Bool
  | .mutate o' => o' == o
  | .free _ o' => o' == o
  | _ => false

def VB (past : List Ev) (b : Nat) (o : Obj) : Prop :=
  ∃ recent older, past = recent ++ Ev.borrow b o :: older ∧ ∀ e ∈ recent, touches o e = false

/-- the documented protocol, as the precondition of an event in terms of the history before it -/
def Pre (past : List Ev) : Ev → Prop
  | .alloc o => allocs o past = 0                  -- a handed-out object is a new object
  | .free c o => o.cls = c ∧ Owned past o          -- destroyed by its own destroy function, while owned (so: once)
  | .use o => Owned past o                         -- never passed after it was destroyed
  | .mutate o => Owned past o
  | .borrow _ o => Owned past o
  | .deref b => ∃ o, VB past b o                   -- entry pointers only while the container is alive and unmodified

def Follows : List Ev → List Ev → Prop
  | _, [] => True
  | past, e :: t => Pre past e ∧ Follows (e :: past) t

def Complete (t : List Ev) : Prop := ∀ o, allocs o t = frees o t

structure Inv (past : List Ev) (h : Heap) : Prop where
  live_iff : ∀ o, o ∈ h.live ↔ Owned past o
  nodup : h.live.Nodup
  borrow_iff : ∀ b o, (b, o) ∈ h.borrows ↔ VB past b o
  frees_le : ∀ o, frees o past ≤ allocs o past

theorem allocs_cons (o : Obj) (e : Ev) (t : List Ev) :
    allocs o (e :: t) = allocs o t + (if isAlloc o e then 1 else 0) := by
  simp [allocs, List.countP_cons]

theorem frees_cons (o : Obj) (e : Ev) (t : List Ev) :
    frees o (e :: t) = frees o t + (if isFree o e then 1 else 0) := by
  simp [frees, List.countP_cons]

theorem allocs_reverse (o : Obj) (t : List Ev) : allocs o t.reverse = allocs o t := by
  simp [allocs, List.countP_reverse]

theorem frees_reverse (o : Obj) (t : List Ev) : frees o t.reverse = frees o t := by
  simp [frees, List.countP_reverse]

theorem vb_cons (e : Ev) (past : List Ev) (b : Nat) (o : Obj) :
    VB (e :: past) b o ↔ e = .borrow b o ∨ (touches o e = false ∧ VB past b o) := by
  constructor
  · intro ⟨recent, older, h1, h2⟩
    cases recent with
    | nil =>
      simp at h1
      exact .inl h1.1
    | cons e' recent =>
      simp at h1
      obtain ⟨he, hp⟩ := h1
      subst he
      refine .inr ⟨h2 e (List.mem_cons_self), recent, older, hp, ?_⟩
      intro x hx
      exact h2 x (List.mem_cons_of_mem _ hx)
  · intro h
    rcases h with h | ⟨ht, recent, older, h1, h2⟩
    · exact ⟨[], past, by simp [h], by simp⟩
    · refine ⟨e :: recent, older, by simp [h1], ?_⟩
      intro x hx
      rcases List.mem_cons.mp hx with hx | hx
      · rw [hx]; exact ht
      · exact h2 x hx

theorem inv_empty : Inv [] Heap.empty :=
  ⟨by intro o; simp [Heap.empty, Owned, allocs], by simp [Heap.empty],
   by intro b o; simp [Heap.empty, VB], by intro o; simp [frees, allocs]⟩

theorem mem_dropBorrows (bs : List (Nat × Obj)) (o : Obj) (b : Nat) (o' : Obj) :
    (b, o') ∈ dropBorrows bs o ↔ (b, o') ∈ bs ∧ o' ≠ o := by
  simp [dropBorrows]

/-- an event that hands out and takes back nothing (`use`, `mutate`, `borrow`, `deref`) changes no count -/
theorem counts_cons_quiet {e : Ev} (he : ∀ o, isAlloc o e = false ∧ isFree o e = false) (past : List Ev) (o : Obj) :
    allocs o (e :: past) = allocs o past ∧ frees o (e :: past) = frees o past := by
  rw [allocs_cons, frees_cons, (he o).1, (he o).2]
  exact ⟨rfl, rfl⟩

/-- … so after it the live set is as it was, and only the borrows are to be checked -/
theorem Inv.cons_quiet {past : List Ev} {h : Heap} (inv : Inv past h) {e : Ev}
    (he : ∀ o, isAlloc o e = false ∧ isFree o e = false) {bs : List (Nat × Obj)}
    (hb : ∀ b o, (b, o) ∈ bs ↔ VB (e :: past) b o) : Inv (e :: past) { h with borrows := bs } where
  live_iff o := by rw [Owned, (counts_cons_quiet he past o).1, (counts_cons_quiet he past o).2]; exact inv.live_iff o
  nodup := inv.nodup
  borrow_iff := hb
  frees_le o := by rw [(counts_cons_quiet he past o).1, (counts_cons_quiet he past o).2]; exact inv.frees_le o

theorem step_ok {past : List Ev} {h : Heap} (inv : Inv past h) (e : Ev) (pre : Pre past e) :
    ∃ h', step h e = .ok h' ∧ Inv (e :: past) h' := by
  -- `pre` with `live_iff` / `borrow_iff` is the test `step` makes, so the event is accepted; the new event changes
  -- the counts of its own object only (`allocs_cons`, `frees_cons`; none for the four events of `Inv.cons_quiet`) and
  -- the valid borrows by `vb_cons`, which is what `step` does to `live` and to `borrows` (`mem_dropBorrows`)
  cases e with
  | alloc o =>
    have hnot : o ∉ h.live := by
      intro hm
      have := (inv.live_iff o).mp hm
      simp only [Pre] at pre
      rw [this.1] at pre
      cases pre
    have hf0 : frees o past = 0 := by
      have := inv.frees_le o
      simp only [Pre] at pre
      omega
    refine ⟨{ h with live := o :: h.live }, by simp [step, hnot], ?_, ?_, ?_, ?_⟩
    · intro o'
      by_cases ho : o' = o
      · subst ho
        simp only [Pre] at pre
        simp [Owned, allocs_cons, frees_cons, isAlloc, isFree, pre, hf0]
      · have h1 : (o == o') = false := beq_false_of_ne (Ne.symm ho)
        simp [Owned, allocs_cons, frees_cons, isAlloc, isFree, h1, ho]
        exact inv.live_iff o'
    · exact List.nodup_cons.mpr ⟨hnot, inv.nodup⟩
    · intro b o'
      simp [vb_cons, touches, ← inv.borrow_iff b o']
    · intro o'
      have := inv.frees_le o'
      simp only [allocs_cons, frees_cons, isFree]
      by_cases hx : isAlloc o' (Ev.alloc o) = true <;> simp [hx] <;> omega
  | free c o =>
    obtain ⟨hc, hown⟩ := pre
    have hm : o ∈ h.live := (inv.live_iff o).mpr hown
    refine ⟨{ live := h.live.erase o, borrows := dropBorrows h.borrows o }, by simp [step, hc, hm], ?_, ?_, ?_, ?_⟩
    · intro o'
      by_cases ho : o' = o
      · subst ho
        simp [inv.nodup.mem_erase_iff, Owned, frees_cons, isFree]
      · have h1 : (o == o') = false := beq_false_of_ne (Ne.symm ho)
        simp [inv.nodup.mem_erase_iff, ho, Owned, allocs_cons, frees_cons, isAlloc, isFree, h1]
        exact inv.live_iff o'
    · exact inv.nodup.erase o
    · intro b o'
      rw [mem_dropBorrows, vb_cons, inv.borrow_iff b o']
      simp [touches, and_comm, eq_comm (a := o)]
    · intro o'
      have := inv.frees_le o'
      by_cases ho : o' = o
      · subst ho
        simp [allocs_cons, frees_cons, isAlloc, isFree, hown.1, hown.2]
      · have h1 : (o == o') = false := beq_false_of_ne (Ne.symm ho)
        simp [allocs_cons, frees_cons, isAlloc, isFree, h1]
        exact this
  | use o =>
    have hm : o ∈ h.live := (inv.live_iff o).mpr pre
    refine ⟨h, by simp [step, hm], inv.cons_quiet (fun _ => ⟨rfl, rfl⟩) fun b o' => ?_⟩
    simp [vb_cons, touches, ← inv.borrow_iff b o']
  | mutate o =>
    have hm : o ∈ h.live := (inv.live_iff o).mpr pre
    refine ⟨{ h with borrows := dropBorrows h.borrows o }, by simp [step, hm],
      inv.cons_quiet (fun _ => ⟨rfl, rfl⟩) fun b o' => ?_⟩
    rw [mem_dropBorrows, vb_cons, inv.borrow_iff b o']
    simp [touches, and_comm, eq_comm (a := o)]
  | borrow b o =>
    have hm : o ∈ h.live := (inv.live_iff o).mpr pre
    refine ⟨{ h with borrows := (b, o) :: h.borrows }, by simp [step, hm],
      inv.cons_quiet (fun _ => ⟨rfl, rfl⟩) fun b' o' => ?_⟩
    rw [vb_cons, ← inv.borrow_iff b' o']
    simp [touches, eq_comm]
  | deref b =>
    obtain ⟨o, hvb⟩ := pre
    have hm : (b, o) ∈ h.borrows := (inv.borrow_iff b o).mpr hvb
    have hany : h.borrows.any (fun p => p.1 == b) = true := by
      rw [List.any_eq_true]
      exact ⟨(b, o), hm, by simp⟩
    refine ⟨h, by simp [step, hany], inv.cons_quiet (fun _ => ⟨rfl, rfl⟩) fun b' o' => ?_⟩
    simp [vb_cons, touches, ← inv.borrow_iff b' o']

theorem run_ok : ∀ (t : List Ev) (past : List Ev) (h : Heap), Inv past h → Follows past t →
    ∃ h', run h t = .ok h' ∧ Inv (t.reverse ++ past) h'
  | [], past, h, inv, _ => ⟨h, rfl, by simpa using inv⟩
  | e :: t, past, h, inv, ⟨pre, fol⟩ => by
    obtain ⟨h1, hs, inv1⟩ := step_ok inv e pre
    obtain ⟨h2, hr, inv2⟩ := run_ok t (e :: past) h1 inv1 fol
    refine ⟨h2, by simp [run, hs, hr], ?_⟩
    simpa [List.reverse_cons, List.append_assoc] using inv2

end Hs.COwn

/-
  C04 read direction: what the generic rungs of `ZincRtVal` and `ZincRtDict` are instantiated at for a sentence.  Lists
  `[ items ]` with blanks around the items: `ItemsD` at `Blanks`, `DelimW` (`RdItems`).  Tags: what ends a run of tags
  in a sentence (`EndOk`: blanks and `}`, blanks and a line ending, the comma of a column) is an `Ends` for `DelimW`, and
  `RdTagsW` is `RdTagsD` there (`NextOkD` at fuel 10); the tags themselves are walked in `ZincSpellTop`.
-/
import Hs.Lemmas.ZincSpellTok
import Hs.Lemmas.ZincRtDict
namespace Hs.Zinc
open Hs Hs.Scan Hs.Spell

structure SpOk (v : Val) (bs : List UInt8) : Prop where
  rd : RdB bs (lexImg v) (nestV v)
  first : FirstW bs

theorem FirstW.noBlank {bs : List UInt8} (h : FirstW bs) : NoBlank bs :=
  let ⟨b, r, e, h1, h2, _⟩ := h
  ⟨b, r, e, h1, h2⟩

/-! ### lists -/

theorem Around.spelled : Around Blanks DelimW :=
  ⟨id, Blanks.nil, fun hw c hc rest => DelimW_blanks_end hw (by rcases hc with rfl | rfl <;> decide) rest⟩

def RdItems (xs : Vals) (body : List UInt8) : Prop :=
  ∀ (depth fuel : Nat) (p : PS) (acc : List Val) (rest ws : List UInt8), Blanks ws →
    At p.sc (ws ++ (body ++ 93 :: rest)) → p.sc.stash.length ≤ 1 → (ws = [] → p.sc.stash = []) →
    4 * body.length + ws.length + 12 ≤ fuel → depth + nestVs xs ≤ 64 →
    ∃ p', listLoop fuel depth p false acc = .ok (.list (Vals.ofList (acc ++ (lexImgs xs).toList)), p') ∧
      At p'.sc rest ∧ p'.sc.stash = []

/-- `RdItems` is `ItemsD` at `Blanks` and 12, with `Pre` written out -/
theorem RdItems_iff {xs : Vals} {body : List UInt8} : RdItems xs body ↔ ItemsD Blanks 12 xs body :=
  ⟨fun h depth fuel p acc rest ws hws hp => h depth fuel p acc rest ws hws hp.here hp.stash_le hp.stash_nil,
   fun h depth fuel p acc rest ws hws hat hs hs0 => h depth fuel p acc rest ws hws ⟨hat, hs, hs0⟩⟩

theorem RdItems_nil : RdItems .nil [] := RdItems_iff.mpr (ItemsD_nil Around.spelled (by decide))

theorem RdItems_last {v : Val} {bs w : List UInt8} (hv : SpOk v bs) (hw : Blanks w) :
    RdItems (.cons v .nil) (bs ++ w) :=
  RdItems_iff.mpr (ItemsD_last Around.spelled (by decide) hv.rd (fun _ _ _ => hv.first.noBlank) hw)

theorem RdItems_cons {v : Val} {vs : Vals} {bs w w' body : List UInt8} (hv : SpOk v bs) (hw : Blanks w)
    (hw' : Blanks w') (ih : RdItems vs body) : RdItems (.cons v vs) (bs ++ w ++ 44 :: (w' ++ body)) :=
  RdItems_iff.mpr
    (ItemsD_cons Around.spelled (by decide) hv.rd (fun _ _ _ => hv.first.noBlank) hw hw' (RdItems_iff.mp ih))

theorem RdItems_lastComma {v : Val} {bs w w' : List UInt8} (hv : SpOk v bs) (hw : Blanks w) (hw' : Blanks w') :
    RdItems (.cons v .nil) (bs ++ w ++ 44 :: w') := by
  simpa using RdItems_cons hv hw hw' RdItems_nil

theorem SpOk_list {xs : Vals} {w body : List UInt8} (hw : Blanks w) (h : RdItems xs body) :
    SpOk (.list xs) (91 :: (w ++ body ++ [93])) :=
  ⟨RdD_list (by decide) DelimW hw (RdItems_iff.mp h), firstW_cons 91 _ (by decide)⟩

/-! ### what ends the tags -/

/-- `EndOk term ending rest`: the text `ending` yields the token `term` and leaves `rest` -/
inductive EndOk : UInt8 → List UInt8 → List UInt8 → Prop
  | brace (w rest : List UInt8) (hw : Blanks w) : EndOk 125 (w ++ 125 :: rest) rest
  | nl (w nl rest : List UInt8) (hw : Blanks w) (hn : Nl nl) (hcr : NoLF nl rest) : EndOk 10 (w ++ (nl ++ rest)) rest
  | comma (rest : List UInt8) : EndOk 44 (44 :: rest) rest

theorem DelimW_nl {w nl : List UInt8} (hw : Blanks w) (hn : Nl nl) (rest : List UInt8) : DelimW (w ++ (nl ++ rest)) := by
  obtain ⟨b, r, e, hb⟩ := nl_head hn rest
  rw [e]; exact DelimW_blanks_end hw (by rcases hb with rfl | rfl <;> decide) r

theorem EndOk.delim {term : UInt8} {ending rest : List UInt8} (h : EndOk term ending rest) : DelimW ending := by
  cases h with
  | brace w rest hw => exact DelimW_blanks_end hw (by decide) rest
  | nl w nl rest hw hn hcr => exact DelimW_nl hw hn rest
  | comma rest => exact .of_end rest (by decide)

theorem EndOk.ne {term : UInt8} {ending rest : List UInt8} (h : EndOk term ending rest) : ending ≠ [] := by
  cases h with
  | brace w rest hw => simp
  | nl w nl rest hw hn hcr => obtain ⟨b, r, e, _⟩ := nl_head hn rest; rw [e]; simp
  | comma rest => simp

theorem EndOk.lex {term : UInt8} {ending rest : List UInt8} (h : EndOk term ending rest) (s : Scan)
    (hp : Post s ending) (fuel : Nat) (hf : (ending.length - rest.length) + 2 ≤ fuel) :
    ∃ s', lexRead fuel s = .ok { sc := s', tok := .ch term } ∧ At s' rest ∧ s'.stash = [] := by
  cases h with
  | brace w rest hw =>
    simp only [List.length_append, List.length_cons] at hf
    exact lexRead_specialW w hw s 125 rest (hp.pre (by decide)) (by decide) (by decide) fuel (by omega)
  | nl w nl rest hw hn hcr =>
    simp only [List.length_append] at hf
    exact lexRead_nlW w hw nl hn s rest (hp.pre_nl hn) hcr fuel (by omega)
  | comma rest =>
    exact lexRead_specialW [] Blanks.nil s 44 rest (hp.pre (ws := []) (by decide)) (by decide) (by decide) fuel
      (by simp at hf ⊢; omega)

/-! ### a run of tags before such an ending -/

variable {loop : Nat → Nat → PS → Bool → KVs → Res (KVs × PS)} {term : UInt8}

theorem EndOk.ends : Ends DelimW term (EndOk term) := ⟨fun h => by cases h <;> rfl, EndOk.ne, EndOk.delim, fun h => h.delim.stop (by decide), EndOk.lex⟩

def RdTagsW (loop : Nat → Nat → PS → Bool → KVs → Res (KVs × PS)) (term : UInt8) (t : Tags) (body : List UInt8) :
    Prop :=
  ∀ (k : List Char) (v : Val) (t' : Tags), t = .cons k v t' →
  ∃ afterK, body = encChars k ++ afterK ∧ isIdent k = true ∧
    (∀ ending rest, EndOk term ending rest → Stop isLitB (afterK ++ ending)) ∧
    ∀ (depth fuel : Nat) (sc : Scan) (ec : Bool) (acc : KVs) (ending rest : List UInt8), EndOk term ending rest →
      At sc (afterK ++ ending) → sc.stash = [] → 4 * body.length + (ending.length - rest.length) + 12 ≤ fuel →
      depth + nestT t ≤ 64 →
      ∃ p', loop fuel depth { sc := sc, tok := .id k } ec acc = .ok (acc ++ (lexImgT t).toList, p') ∧
        p'.tok = .ch term ∧ At p'.sc rest ∧ p'.sc.stash = []

theorem lexImg_marker' : lexImg .marker = .marker := by simp [lexImg]

/-! ### dicts -/

theorem SpOk_dict {d : Tags} {w1 body w2 : List UInt8} (h1 : Blanks w1) (h2 : Blanks w2)
    (hsort : keysSorted d.keys = true) (h : RdTagsW dictParts 125 d body) (hnil : d = .nil → body = []) :
    SpOk (.dict d) (123 :: (w1 ++ body ++ w2 ++ [125])) :=
  ⟨RdD_dict DelimW h1 h2 hsort hnil (fun rest => EndOk.brace w2 rest h2) (Nat.le_refl _) h, firstW_cons 123 _ (by decide)⟩

end Hs.Zinc

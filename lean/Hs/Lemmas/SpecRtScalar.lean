/-
  C04 (write direction): every scalar kind through the reference reader's `scalar`.  Str, Uri, Ref with display name,
  XStr and coordinates end at their own closing byte and are read back whatever follows; the other kinds whatever
  delimiter follows.  Numbers: the text is not taken for a date or a time by the shape test, a unit not for an
  exponent.  Dates, times and timestamps: from the well-formedness predicates (`dateOk`, `timeOk`, `dtOk`) to the
  value that is returned.
-/
import Hs.Lemmas.SpecRtStr
import Hs.Lemmas.SpecRtParts
import Hs.Lemmas.ZincEncForm
namespace Hs.Spec
open Hs Hs.Zinc Hs.Scan

/-- an upper-case letter leads `scalar` past its quote and id branches -/
theorem upper_disp {b : UInt8} (h : isUpperB b = true) : b ≠ 34 ∧ b ≠ 96 ∧ b ≠ 64 ∧ b ≠ 94 :=
  ⟨ne_of_class h (by decide), ne_of_class h (by decide), ne_of_class h (by decide), ne_of_class h (by decide)⟩

/-- a digit or `-` leads `scalar` past its quote, id and name branches -/
theorem num_disp {b : UInt8} (h : (isDigitB b || b == 45) = true) :
    b ≠ 34 ∧ b ≠ 96 ∧ b ≠ 64 ∧ b ≠ 94 ∧ isUpperB b = false := by
  have ne : ∀ c, (isDigitB c || c == 45) = false → b ≠ c := fun _ => ne_of_class (P := fun b => isDigitB b || b == 45) h
  have hup : isUpperB b = false := by
    rcases Bool.or_eq_true _ _ |>.mp h with h | h
    · exact range_disjoint h (Or.inl (by decide))
    · rw [beq_iff_eq.mp h]; rfl
  exact ⟨ne 34 (by decide), ne 96 (by decide), ne 64 (by decide), ne 94 (by decide), hup⟩

theorem scalar_str (f : Nat) (s : List Char) (rest : List UInt8) :
    scalar (f + 1) (encQuoted s ++ rest) = some (.str s, rest) := by
  rw [encQuoted_append, scalar.eq_def]
  simp [str_quoted]

theorem scalar_uri (f : Nat) (s : List Char) (rest : List UInt8) :
    scalar (f + 1) (encUri s ++ rest) = some (.uri s, rest) := by
  rw [encUri_append, scalar.eq_def]
  simp [uri_quoted]

theorem scalar_ref_nodis (f : Nat) (id : List Char) (hid : isRefId id = true) (rest : List UInt8)
    (hend : RefEnd rest) :
    scalar (f + 1) (64 :: encChars id ++ rest) = some (.ref id none, rest) := by
  have hid := isRefId_parts hid
  have hsp := span_chars hid.2 rest hend.stop
  rw [← isRefChar_fun] at hsp
  rw [List.cons_append, scalar.eq_def]
  simp [hsp, hid.1, chars_map_byteOf (AllB_ascii hid.2)]
  rcases hend with rfl | ⟨b, r, rfl, hb, hb32⟩ | ⟨x, r, rfl, hx⟩
  · rfl
  · simp [hb32]
  · simp [hx]

theorem scalar_ref_dis (f : Nat) (id : List Char) (hid : isRefId id = true) (dis : List Char) (rest : List UInt8) :
    scalar (f + 1) (64 :: encChars id ++ 32 :: encQuoted dis ++ rest) = some (.ref id (some dis), rest) := by
  have hid := isRefId_parts hid
  have hsp := span_chars hid.2 (32 :: (encQuoted dis ++ rest)) (Stop_cons (by decide))
  rw [← isRefChar_fun, encQuoted_append] at hsp
  simp only [List.cons_append, List.append_assoc, encQuoted_append]
  rw [scalar.eq_def]
  simp [hsp, hid.1, chars_map_byteOf (AllB_ascii hid.2), str_quoted]

theorem scalar_sym (f : Nat) (s : List Char) (hs : isSymBody s = true) (rest : List UInt8)
    (hst : Stop isRefB rest) :
    scalar (f + 1) (94 :: encChars s ++ rest) = some (.sym s, rest) := by
  obtain ⟨c, r, rfl, h128, hlo, hall⟩ := isSymBody_parts hs
  have hsp := span_chars hall rest hst
  rw [← isRefChar_fun] at hsp
  have hc := chars_map_byteOf (AllB_ascii hall)
  rw [encChars_cons, encChar_ascii c h128] at hsp ⊢
  simp only [List.cons_append, List.nil_append] at hsp ⊢
  rw [scalar.eq_def]
  have hb : isLower (UInt8.ofNat c.toNat) = true := hlo
  simp only [List.map_cons] at hc
  simp [hsp, hb, hc]

theorem map_byteOf_ne_C {ty : List Char} (hasc : ∀ c ∈ ty, c.toNat < 128) (h : ty ≠ ['C']) :
    ty.map byteOf ≠ [67] := by
  intro e
  apply h
  have := congrArg asciiChars e
  rw [asciiChars_map_byteOf hasc] at this
  rw [this]; decide

theorem scalar_xstr (f : Nat) (ty : List Char) (hty : isXStrType ty = true) (v : List Char) (rest : List UInt8) :
    scalar (f + 1) (enc (.xstr ty v) true ++ rest) = some (.xstr ty v, rest) := by
  have hty := isXStrType_parts hty
  obtain ⟨hl, hne⟩ := isUpperName_lit hty.1
  have he : enc (.xstr ty v) true ++ rest = encChars ty ++ 40 :: (encQuoted v ++ 41 :: rest) := by
    rw [enc, upperFirst_of_upper hty.1]; simp
  rw [he]
  have hsp := span_chars hl (40 :: (encQuoted v ++ 41 :: rest)) (Stop_cons (by decide))
  rw [← isIdChar_fun] at hsp
  rw [encQuoted_append] at hsp ⊢
  have hC := map_byteOf_ne_C (AllB_ascii hl) hty.2
  cases ty with
  | nil => exact absurd rfl hne
  | cons c r =>
    have h1 := hty.1
    simp only [isUpperName, Bool.and_eq_true, decide_eq_true_eq] at h1
    have hc := chars_map_byteOf (AllB_ascii hl)
    rw [encChars_cons, encChar_ascii c h1.1.1] at hsp ⊢
    simp only [List.cons_append, List.nil_append] at hsp ⊢
    have hu : isUpperB (UInt8.ofNat c.toNat) = true := h1.1.2
    obtain ⟨h34, h96, h64, h94⟩ := upper_disp hu
    have hC' : ¬ (byteOf c = 67 ∧ r = []) := by
      intro e; apply hC; simp [e.1, e.2]
    simp only [List.map_cons] at hc
    rw [scalar.eq_def]
    simp [hsp, h34, h96, h64, h94, isUpper_eq, hu, hC', hc, skipWs_cons, str_quoted]

def KwEnd (rest : List UInt8) : Prop := Stop isLitB rest ∧ ∀ r, rest ≠ 40 :: r

theorem _root_.Hs.Zinc.Delim.kwEnd {rest : List UInt8} (h : Delim rest) : KwEnd rest := ⟨h.stop (by decide), (h.stop (by decide)).head_ne⟩

/-- piece of `scalar`: the keyword arm -/
def kwTok (l : List Char) (r1 : In) : Option (Val × In) :=
  if l == ['N'] then some (.null, r1)
  else if l == ['M'] then some (.marker, r1)
  else if l == ['R'] then some (.remove, r1)
  else if l == ['T'] then some (.bool true, r1)
  else if l == ['F'] then some (.bool false, r1)
  else if l == ['N', 'A'] then some (.na, r1)
  else if l == ['N', 'a', 'N'] then
    some (.num { v := { bits := Hs.Zinc.nanBits, txt := "NaN".toList }, unit := none }, r1)
  else if l == ['I', 'N', 'F'] then
    some (.num { v := { bits := Hs.Zinc.posInfBits, txt := "inf".toList }, unit := none }, r1)
  else none

theorem scalar_kw (f : Nat) (b : UInt8) (t rest : List UInt8) (hb : isUpperB b = true)
    (ht : ∀ x ∈ b :: t, isLitB x = true) (h : KwEnd rest) :
    scalar (f + 1) (b :: t ++ rest) = kwTok (chars (b :: t)) rest := by
  have hsp : span isIdChar (b :: t ++ rest) = (b :: t, rest) := by
    rw [isIdChar_fun]; exact span_all isLitB _ rest ht h.1
  obtain ⟨h34, h96, h64, h94⟩ := upper_disp hb
  have hb' : isUpper b = true := hb
  simp only [List.cons_append] at hsp ⊢
  rw [scalar.eq_def]
  simp only [hsp, kwTok, beq_iff_eq, h34, h96, h64, h94, hb', if_false, if_true]
  cases rest with
  | nil => rfl
  | cons c r =>
    have : c ≠ 40 := fun e => h.2 r (by rw [e])
    split
    · rename_i heq; cases heq; exact absurd rfl this
    · rfl

theorem scalar_null (f : Nat) (rest : List UInt8) (h : KwEnd rest) : scalar (f + 1) (78 :: rest) = some (.null, rest) :=
  scalar_kw f 78 [] rest (by decide) (by decide) h

theorem scalar_marker (f : Nat) (rest : List UInt8) (h : KwEnd rest) :
    scalar (f + 1) (77 :: rest) = some (.marker, rest) :=
  scalar_kw f 77 [] rest (by decide) (by decide) h

theorem scalar_remove (f : Nat) (rest : List UInt8) (h : KwEnd rest) :
    scalar (f + 1) (82 :: rest) = some (.remove, rest) :=
  scalar_kw f 82 [] rest (by decide) (by decide) h

theorem scalar_true (f : Nat) (rest : List UInt8) (h : KwEnd rest) :
    scalar (f + 1) (84 :: rest) = some (.bool true, rest) :=
  scalar_kw f 84 [] rest (by decide) (by decide) h

theorem scalar_false (f : Nat) (rest : List UInt8) (h : KwEnd rest) :
    scalar (f + 1) (70 :: rest) = some (.bool false, rest) :=
  scalar_kw f 70 [] rest (by decide) (by decide) h

theorem scalar_na (f : Nat) (rest : List UInt8) (h : KwEnd rest) :
    scalar (f + 1) (78 :: 65 :: rest) = some (.na, rest) :=
  scalar_kw f 78 [65] rest (by decide) (by decide) h

theorem scalar_nan (f : Nat) (rest : List UInt8) (h : KwEnd rest) :
    scalar (f + 1) (78 :: 97 :: 78 :: rest) = some (.num { v := { bits := nanBits, txt := "NaN".toList }, unit := none }, rest) :=
  scalar_kw f 78 [97, 78] rest (by decide) (by decide) h

theorem scalar_posinf (f : Nat) (rest : List UInt8) (h : KwEnd rest) :
    scalar (f + 1) (73 :: 78 :: 70 :: rest) = some (.num { v := { bits := posInfBits, txt := "inf".toList }, unit := none }, rest) :=
  scalar_kw f 73 [78, 70] rest (by decide) (by decide) h

theorem scalar_neginf (f : Nat) (rest : List UInt8) :
    scalar (f + 1) (45 :: 73 :: 78 :: 70 :: rest) =
      some (.num { v := { bits := negInfBits, txt := "-inf".toList }, unit := none }, rest) := by
  rw [scalar.eq_def]
  simp [isUpper]

structure AfterNum (T : List UInt8) : Prop where
  cont : Stop isDecCont T
  tail : AfterDec T
  noexp : NoExp T

theorem afterNum_delim {rest : List UInt8} (hd : Delim rest) : AfterNum rest := by
  refine ⟨hd.stop (by decide), afterDec_unit_rest none rfl rest (hd.stop (by decide)), ?_⟩
  · intro e r he h101
    rcases hd.head e r he with h | h | h | h | h <;> subst h <;> rcases h101 with h | h <;> cases h

/-- the reference reader's unit class holds the library's (it also takes the byte 128) -/
theorem unitByte_of_unitB {b : UInt8} (h : isUnitB b = true) : isUnitByte b = true := by
  simp only [isUnitB, Bool.or_eq_true, decide_eq_true_eq] at h
  simp only [isUnitByte, isLower_eq, isUpper_eq, Bool.or_eq_true, decide_eq_true_eq]
  rcases h with h | h
  · exact Or.inl h
  · exact Or.inr (UInt8.le_of_lt h)

theorem afterNum_unit (u : List Char) (hu : unitOk (some u) = true) (rest : List UInt8) (hd : Delim rest) :
    AfterNum (encChars u ++ rest) := by
  obtain ⟨u0, ur, hU, _, h95', hall, _, _⟩ := unitOk_some hu
  rw [hU] at hall
  have hu0 := hall u0 (by simp)
  have hd0 := unit_not_digit hu0
  have h46 : u0 ≠ 46 := ne_of_class hu0 (by decide)
  refine ⟨?_, ?_, ?_⟩
  · rw [hU]; exact Stop_cons (by simp [isDecCont, isDigit_eq, hd0, h95', h46])
  · exact afterDec_unit_rest (some u) hu rest (hd.stop (by decide))
  · intro e r he h101 c r' hr
    rw [hU] at he
    simp only [List.cons_append, List.cons.injEq] at he
    rw [← he.2] at hr
    cases ur with
    | nil =>
      simp only [List.nil_append] at hr
      rcases hd.head c r' hr with h | h | h | h | h <;> subst h <;> decide
    | cons u1 ur' =>
      simp only [List.cons_append, List.cons.injEq] at hr
      have hu1 := hall u1 (by simp)
      rw [← hr.1]; exact ⟨unit_not_digit hu1, ne_of_class hu1 (by decide), ne_of_class hu1 (by decide)⟩

theorem strictDec_shape (tb : List UInt8) (h : strictDec tb = true) (T : List UInt8) (hT : AfterNum T) :
    ∃ b t, tb ++ T = b :: t ∧ (isDigitB b || b == 45) = true ∧ (b == 45 && t.take 3 == [73, 78, 70]) = false ∧
      dateP (b :: t) = none ∧ (if b != 45 then timeP (b :: t) else none) = none := by
  have body_facts : ∀ body, DecParts body →
      (∃ d t, body ++ T = d :: t ∧ isDigitB d = true) ∧ dateP (body ++ T) = none ∧ timeP (body ++ T) = none := by
    intro body hp
    -- the leading digit run ends at the `.` or at what follows the number (`AfterDec`), never at the `-` of a date or the
    -- `:` of a time
    obtain ⟨b, ip, fp, rfl, hip, hfp⟩ := hp
    have htl : AfterDec (fp ++ T) := by
      rcases hfp with rfl | ⟨c, fr, rfl, _⟩
      · simpa using hT.tail
      · intro x r e
        simp only [List.cons_append, List.cons.injEq] at e
        rw [← e.1]; decide
    refine ⟨⟨b, ip ++ fp ++ T, by simp, hip b (by simp)⟩, ?_, ?_⟩
    · rw [List.append_assoc]; exact dateP_none _ _ hip htl
    · rw [List.append_assoc]; exact timeP_none _ _ hip htl
  unfold strictDec at h
  split at h
  · rename_i body
    obtain ⟨⟨d, t, e, hd⟩, _, _⟩ := body_facts body (strictBody_parts h)
    refine ⟨45, body ++ T, rfl, by decide, ?_, dateP_minus _, by simp⟩
    rw [e]
    have : d ≠ 73 := by intro e; subst e; revert hd; decide
    simp [this]
  · rename_i body _
    obtain ⟨⟨d, t, e, hd⟩, h1, h2⟩ := body_facts tb (strictBody_parts h)
    have h45 := digit_ne_45 hd
    refine ⟨d, t, e, by simp [hd], by simp [h45], by rw [← e]; exact h1, ?_⟩
    rw [← e]; simp [h45, h2]

theorem scalar_num_finite (f : Nat) (tb : List UInt8) (hs : strictDec tb = true) (uo : Option (List Char))
    (hu : unitOk uo = true) (rest : List UInt8) (hd : Delim rest) :
    scalar (f + 1) (tb ++ (unitBytes uo ++ rest)) =
      some (.num { v := { bits := specBits, txt := chars tb }, unit := uo }, rest) := by
  have hT : AfterNum (unitBytes uo ++ rest) := by
    cases uo with
    | none => exact afterNum_delim hd
    | some u => exact afterNum_unit u hu rest hd
  obtain ⟨b, t, e, hb, hinf, hdate, htime⟩ := strictDec_shape tb hs _ hT
  have hdec := decimal_rt true tb hs _ hT.cont (fun _ => hT.noexp)
  obtain ⟨h34, h96, h64, h94, hup⟩ := num_disp hb
  have hb' : (isDigit b || b == 45) = true := hb
  rw [e] at hdec ⊢
  have htime' : (if b = 45 then none else timeP (b :: t)) = none := by simpa using htime
  rw [scalar.eq_def]
  simp [hdate, htime', hdec, hinf, hb', h34, h96, h64, h94, isUpper_eq, hup]
  cases uo with
  | none =>
    have hsp : span isUnitByte rest = ([], rest) := span_all isUnitByte [] rest (by simp) (hd.stop (by decide))
    simp [unitBytes, hsp]
  | some u =>
    obtain ⟨u0, ur, hU, _, _, hall, _, hsym'⟩ := unitOk_some hu
    have hsym : unitSymbol (text (encChars u)) = some u := by rw [text, lossy_encChars]; exact hsym'
    have hne : encChars u ≠ [] := by rw [hU]; exact List.cons_ne_nil _ _
    have hsp := span_all isUnitByte _ rest (fun b hb => unitByte_of_unitB (hall b hb)) (hd.stop (by decide))
    simp [unitBytes, hsp, hsym, hne]

theorem skipWs_strict {tb : List UInt8} (h : strictDec tb = true) (T : List UInt8) : skipWs (tb ++ T) = tb ++ T := by
  obtain ⟨b, t, e, hb, _⟩ := strictDec_shape tb h [] (afterNum_delim (Or.inl rfl))
  obtain rfl : tb = b :: t := by simpa using e
  exact skipWs_cons (ne_of_class (P := fun b => isDigitB b || b == 45) hb (by decide))
    (ne_of_class (P := fun b => isDigitB b || b == 45) hb (by decide))

theorem scalar_coord (f : Nat) (la lo : List UInt8) (hla : strictDec la = true) (hlo : strictDec lo = true)
    (rest : List UInt8) :
    scalar (f + 1) (67 :: 40 :: (la ++ 44 :: (lo ++ 41 :: rest))) =
      some (.coord { bits := specBits, txt := chars la } { bits := specBits, txt := chars lo }, rest) := by
  have hsp : span isIdChar (67 :: 40 :: (la ++ 44 :: (lo ++ 41 :: rest))) = ([67], 40 :: (la ++ 44 :: (lo ++ 41 :: rest))) := by
    rw [isIdChar_fun]
    exact span_all isLitB [67] _ (by decide) (Stop_cons (by decide))
  have h1 := decimal_rt false la hla (44 :: (lo ++ 41 :: rest)) (Stop_cons (by decide)) (fun h => by cases h)
  have h2 := decimal_rt false lo hlo (41 :: rest) (Stop_cons (by decide)) (fun h => by cases h)
  rw [scalar.eq_def]
  simp [hsp, isUpper, skipWs_strict hla, skipWs_strict hlo, h1, h2, skipWs_cons]

theorem digit_disp {b : UInt8} (h : isDigitB b = true) :
    b ≠ 34 ∧ b ≠ 96 ∧ b ≠ 64 ∧ b ≠ 94 ∧ isUpperB b = false ∧ b ≠ 45 := by
  obtain ⟨h34, h96, h64, h94, hup⟩ := num_disp (b := b) (by simp [h])
  exact ⟨h34, h96, h64, h94, hup, digit_ne_45 h⟩

theorem scalar_date_core (f : Nat) (b : UInt8) (t : List UInt8) (hb : isDigitB b = true) (d : Date) (r1 : List UInt8)
    (hdate : dateP (b :: t) = some (d, r1)) (hT : ∀ r, r1 ≠ 84 :: r) :
    scalar (f + 1) (b :: t) = some (.date d, r1) := by
  obtain ⟨h34, h96, h64, h94, hup, h45⟩ := digit_disp hb
  have hb' : isDigit b = true := hb
  rw [scalar.eq_def]
  cases r1 with
  | nil => simp [hdate, h34, h96, h64, h94, isUpper_eq, hup, h45, hb']
  | cons x r =>
    have : x ≠ 84 := fun e => hT r (by rw [e])
    simp [hdate, h34, h96, h64, h94, isUpper_eq, hup, h45, hb']

theorem scalar_time_core (f : Nat) (b : UInt8) (t : List UInt8) (hb : isDigitB b = true)
    (hdate : dateP (b :: t) = none) (tm : Time) (r1 : List UInt8) (htime : timeP (b :: t) = some (tm, r1)) :
    scalar (f + 1) (b :: t) = some (.time tm, r1) := by
  obtain ⟨h34, h96, h64, h94, hup, h45⟩ := digit_disp hb
  have hb' : isDigit b = true := hb
  rw [scalar.eq_def]
  simp [hdate, htime, h34, h96, h64, h94, isUpper_eq, hup, h45, hb']

theorem scalar_datetime_core (f : Nat) (b : UInt8) (t : List UInt8) (hb : isDigitB b = true) (d : Date)
    (r1 : List UInt8) (hdate : dateP (b :: t) = some (d, 84 :: r1)) (tm : Time) (r2 : List UInt8)
    (htime : timeP r1 = some (tm, r2)) (r3 : List UInt8) (hzone : zoneP r2 = some ((), r3)) :
    scalar (f + 1) (b :: t) =
      some (.dateTime { secs := 0, ns := 0, off := 0, zone := [], tzid := [],
                        txt := chars ((b :: t).take ((b :: t).length - r3.length)) }, r3) := by
  obtain ⟨h34, h96, h64, h94, hup, h45⟩ := digit_disp hb
  have hb' : isDigit b = true := hb
  rw [scalar.eq_def]
  simp [hdate, htime, hzone, h34, h96, h64, h94, isUpper_eq, hup, h45, hb']

theorem scalar_date (f : Nat) (d : Date) (hok : dateOk d = true) (rest : List UInt8) (hd : Delim rest) :
    scalar (f + 1) (encChars d.txt ++ rest) = some (.date d, rest) := by
  obtain ⟨y0, y1, y2, y3, m0, m1, d0, d1, heq, hdg, hmk⟩ := dateOk_elim hok
  rw [heq]
  simp only [List.cons_append, List.nil_append]
  exact scalar_date_core f y0 _ hdg.y0 d rest (dateP_rt y0 y1 y2 y3 m0 m1 d0 d1 hdg d hmk rest)
    (hd.stop (by decide)).head_ne

theorem scalar_time (f : Nat) (t : Time) (hok : timeOk t = true) (rest : List UInt8) (hd : Delim rest) :
    scalar (f + 1) (encChars t.txt ++ rest) = some (.time t, rest) := by
  obtain ⟨h0, h1, m0, m1, s0, s1, tl, heq, htg, htl⟩ := timeInv_canon t hok
  rw [heq]
  simp only [List.cons_append]
  refine scalar_time_core f h0 _ htg.h0 (dateP_time_shape h0 h1 _) t rest ?_
  rcases htl with ⟨rfl, hmk⟩ | ⟨f0, fr, rfl, hdig, hmk⟩
  · exact timeP_rt h0 h1 m0 m1 s0 s1 htg none (fun _ e => by cases e) t hmk rest
      (hd.stop (by decide)) (hd.stop (by decide)).head_ne
  · exact timeP_rt h0 h1 m0 m1 s0 s1 htg (some (f0 :: fr))
      (fun _ e => by cases e; exact ⟨by simp, hdig⟩) t hmk rest (hd.stop (by decide)) (hd.stop (by decide)).head_ne

theorem scalar_datetime_bytes (f : Nat) (w : List UInt8) (hok : dtBytesOk w = true) (rest : List UInt8)
    (hd : Delim rest) :
    scalar (f + 1) (w ++ rest) = some (dtVal (chars w), rest) := by
  have hfin : ∀ (b : UInt8) (t : List UInt8), w ++ rest = b :: t →
      scalar (f + 1) (b :: t) = some (dtVal (chars ((b :: t).take ((b :: t).length - rest.length))), rest) →
      scalar (f + 1) (w ++ rest) = some (dtVal (chars w), rest) := by
    intro b t e h
    rw [← e] at h
    simpa using h
  obtain ⟨y0, y1, y2, y3, m0, m1, d0, d1, h0, h1, i0, i1, s0, s1, tl, rfl, hdg, htg, hmk, htl⟩ := dtBytesOk_elim hok
  obtain ⟨d, hd'⟩ := Option.isSome_iff_exists.mp hmk
  refine hfin y0 (y1 :: y2 :: y3 :: 45 :: m0 :: m1 :: 45 :: d0 :: d1 :: 84 :: h0 :: h1 :: 58 :: i0 :: i1 :: 58 ::
    s0 :: s1 :: (tl ++ rest)) (by simp) ?_
  have hdate := dateP_rt y0 y1 y2 y3 m0 m1 d0 d1 hdg d hd'
    (84 :: h0 :: h1 :: 58 :: i0 :: i1 :: 58 :: s0 :: s1 :: (tl ++ rest))
  obtain ⟨fr, z, hfr, hmt, hz, e⟩ : ∃ fr z, (∀ f, fr = some f → f ≠ [] ∧ ∀ b ∈ f, isDigitB b = true) ∧
      (mkTime [h0, h1, 58, i0, i1, 58, s0, s1] fr).isSome = true ∧ zoneOk z = true ∧ tl = fracText fr ++ z := by
    rcases htl with ⟨f0, fr, z, rfl, hfr, hmt, hz⟩ | ⟨hmt, hz⟩
    · exact ⟨some (f0 :: fr), z, fun _ e => by cases e; exact ⟨by simp, hfr⟩, hmt, hz, by simp [fracText]⟩
    · exact ⟨none, tl, (fun _ e => by cases e), hmt, hz, rfl⟩
  obtain ⟨tm, htm⟩ := Option.isSome_iff_exists.mp hmt
  -- a zone starts with `Z`, `+` or `-`: neither a digit nor a point
  obtain ⟨z0, zr, ez, hzd, h46⟩ := zoneOk_head hz
  have htime := timeP_rt h0 h1 i0 i1 s0 s1 htg fr hfr tm htm (z ++ rest)
    (by rw [ez]; exact Stop_cons hzd) (fun r e => by rw [ez] at e; exact h46 (List.cons.inj e).1)
  rw [← List.append_assoc, ← e] at htime
  exact scalar_datetime_core f y0 _ hdg.y0 d _ hdate tm _ htime rest (zoneP_rt _ hz rest hd)

theorem scalar_datetime (f : Nat) (t : DateTime) (hok : dtOk t = true) (rest : List UInt8) (hd : Delim rest) :
    scalar (f + 1) (encDateTime t ++ rest) = some (dtVal (dtText t), rest) := by
  obtain ⟨henc, htxt, hok⟩ := dtOk_elim hok
  rw [henc, scalar_datetime_bytes f _ hok rest hd, chars_eq, htxt]

end Hs.Spec

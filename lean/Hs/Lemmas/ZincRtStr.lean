/-
  `parseStr` on every legal spelling of a Str (`Hs.Spell.Quoted`: raw UTF-8, the short escapes, `\uXXXX` with
  upper- or lower-case hex digits), whatever follows the closing quote (C04 read direction). The writer's
  `encQuoted s` is one of the spellings, so `parseStr` reads it back (C01).
-/
import Hs.Lemmas.ZincRtScan
import Hs.Lemmas.ZincEncForm
namespace Hs.Zinc
open Hs Hs.Scan Hs.Spell

/-! ### `\uXXXX` -/

theorem hexOf_val {n : Nat} {b : UInt8} (h : HexOf n b) : isHexB b = true ∧ hexVal b = n := by
  have : ∀ n : Fin 16, (isHexB (hexLower n.1) = true ∧ hexVal (hexLower n.1) = n.1) ∧
      (isHexB (hexUpper n.1) = true ∧ hexVal (hexUpper n.1) = n.1) := by decide
  obtain ⟨hn, rfl | rfl⟩ := h
  · exact (this ⟨n, hn⟩).1
  · exact (this ⟨n, hn⟩).2

theorem parseUnicodeEscape_sp {c : Char} {d3 d2 d1 d0 : UInt8} {r : List UInt8} {s : Scan}
    (hc : c.toNat < 0x10000) (h3 : HexOf (c.toNat / 4096) d3) (h2 : HexOf (c.toNat / 256 % 16) d2)
    (h1 : HexOf (c.toNat / 16 % 16) d1) (h0 : HexOf (c.toNat % 16) d0)
    (h : At s (117 :: d3 :: d2 :: d1 :: d0 :: r)) :
    parseUnicodeEscape s = .ok (encChar c, advN 4 s) := by
  have a1 := h.advance
  have a2 := a1.advance
  have a3 := a2.advance
  have a4 := a3.advance
  obtain ⟨x3, v3⟩ := hexOf_val h3
  obtain ⟨x2, v2⟩ := hexOf_val h2
  obtain ⟨x1, v1⟩ := hexOf_val h1
  obtain ⟨x0, v0⟩ := hexOf_val h0
  have hu : c.toNat / 4096 * 4096 + c.toNat / 256 % 16 * 256 + c.toNat / 16 % 16 * 16 + c.toNat % 16 = c.toNat := by
    omega
  unfold parseUnicodeEscape
  simp only [h.cur, h.readQ, a1.readQ, a2.readQ, a3.readQ, Scan.isHexDigit, a1.cur, a2.cur, a3.cur, a4.cur,
    x3, x2, x1, x0, v3, v2, v1, v0, hu]
  rcases char_bounds c with hb | hb
  · have : ¬ (0xD800 ≤ c.toNat) := by omega
    simp [this, advN]
  · have : ¬ (c.toNat ≤ 0xDFFF) := by omega
    simp [this, advN]

/-! ### one character of a Str -/

theorem strLoop_plain_bytes (bs : List UInt8) (hbs : ∀ b ∈ bs, b ≠ 34 ∧ b ≠ 92) :
    ∀ (s : Scan) (r : List UInt8) (fuel : Nat) (acc : List UInt8), At s (bs ++ r) →
    strLoop (fuel + bs.length) s acc = strLoop fuel (advN bs.length s) (acc ++ bs) :=
  copyLoop_bytes strLoop (fun b => b ≠ 34 ∧ b ≠ 92)
    (fun _ _ _ _ _ h hb => by rw [strLoop]; simp [h.cur, h.eof, hb.1, hb.2]) bs hbs

theorem parseStrEscape_short {s : Scan} {c x : UInt8} {r : List UInt8} (h : At s (92 :: c :: r))
    (hx : (c = 98 ∧ x = 8) ∨ (c = 102 ∧ x = 12) ∨ (c = 110 ∧ x = 10) ∨ (c = 114 ∧ x = 13) ∨ (c = 116 ∧ x = 9)
        ∨ (c = 34 ∧ x = 34) ∨ (c = 36 ∧ x = 36) ∨ (c = 92 ∧ x = 92)) :
    parseStrEscape s = .ok ([x], advN 1 s) := by
  simp only [parseStrEscape, h.readQ, h.advance.cur]
  rcases hx with ⟨rfl, rfl⟩ | ⟨rfl, rfl⟩ | ⟨rfl, rfl⟩ | ⟨rfl, rfl⟩ | ⟨rfl, rfl⟩ | ⟨rfl, rfl⟩ | ⟨rfl, rfl⟩
    | ⟨rfl, rfl⟩ <;> rfl

theorem parseStrEscape_uesc {c : Char} {bs : List UInt8} (hu : UEsc c bs) {s : Scan} {r : List UInt8}
    (h : At s (bs ++ r)) : parseStrEscape s = .ok (encChar c, advN 5 s) := by
  cases hu with
  | mk d3 d2 d1 d0 hc h3 h2 h1 h0 =>
    simp only [List.cons_append, List.nil_append] at h
    simp only [parseStrEscape, h.readQ, h.advance.cur, parseUnicodeEscape_sp hc h3 h2 h1 h0 h.advance]
    rfl

theorem strLoop_bslash {s s' : Scan} {r bs : List UInt8} (h : At s (92 :: r))
    (e : parseStrEscape s = .ok (bs, s')) (fuel : Nat) (acc : List UInt8) :
    strLoop (fuel + 1) s acc = strLoop fuel s'.advance (acc ++ bs) := by
  rw [strLoop]; simp [h.cur, h.eof, e]

/-- `k` is the number of loop iterations this takes -/
theorem strLoop_ch (c : Char) (bs : List UInt8) (hc : StrCh c bs) (s : Scan) (r : List UInt8)
    (acc : List UInt8) (h : At s (bs ++ r)) :
    ∃ k, 1 ≤ k ∧ k ≤ bs.length ∧
      ∀ fuel, strLoop (fuel + k) s acc = strLoop fuel (advN bs.length s) (acc ++ encChar c) := by
  have two : ∀ (x y : UInt8), bs = [92, x] → encChar c = [y] →
      ((x = 98 ∧ y = 8) ∨ (x = 102 ∧ y = 12) ∨ (x = 110 ∧ y = 10) ∨ (x = 114 ∧ y = 13) ∨ (x = 116 ∧ y = 9)
        ∨ (x = 34 ∧ y = 34) ∨ (x = 36 ∧ y = 36) ∨ (x = 92 ∧ y = 92)) →
      ∃ k, 1 ≤ k ∧ k ≤ bs.length ∧
        ∀ fuel, strLoop (fuel + k) s acc = strLoop fuel (advN bs.length s) (acc ++ encChar c) := by
    intro x y e ey hx
    rw [e] at h ⊢
    exact ⟨1, Nat.le_refl 1, by simp, fun fuel => by rw [strLoop_bslash h (parseStrEscape_short h hx), ey]; rfl⟩
  cases hc with
  | raw _ h32 c1 c2 c3 =>
    have hb : ∀ b ∈ encChar c, b ≠ 34 ∧ b ≠ 92 := fun b hb =>
      ⟨encChar_bytes_ne c 34 (by decide) (fun e => c1 (Char.toNat_inj.mp e)) b hb,
       encChar_bytes_ne c 92 (by decide) (fun e => c2 (Char.toNat_inj.mp e)) b hb⟩
    exact ⟨(encChar c).length, encChar_length_pos c, Nat.le_refl _,
      fun fuel => strLoop_plain_bytes (encChar c) hb s r fuel acc h⟩
  | b => exact two 98 8 rfl (by decide) (by simp)
  | f => exact two 102 12 rfl (by decide) (by simp)
  | n => exact two 110 10 rfl (by decide) (by simp)
  | r => exact two 114 13 rfl (by decide) (by simp)
  | t => exact two 116 9 rfl (by decide) (by simp)
  | quote => exact two 34 34 rfl (by decide) (by simp)
  | bslash => exact two 92 92 rfl (by decide) (by simp)
  | dollar => exact two 36 36 rfl (by decide) (by simp)
  | u _ _ hu =>
    have e := parseStrEscape_uesc hu h
    cases hu
    exact ⟨1, Nat.le_refl 1, by simp, fun fuel => strLoop_bslash h e fuel acc⟩

/-! ### the whole body and `parseStr` -/

theorem strLoop_bodyS (cs : List Char) (body : List UInt8) (hb : StrBody cs body) :
    ∀ (s : Scan) (r : List UInt8) (fuel : Nat) (acc : List UInt8),
    At s (body ++ 34 :: r) → body.length < fuel →
    strLoop fuel s acc = .ok (acc ++ encChars cs, advN body.length s) := by
  induction hb with
  | nil =>
    intro s r fuel acc h hf
    obtain ⟨f, rfl⟩ : ∃ f, fuel = f + 1 := ⟨fuel - 1, by omega⟩
    rw [strLoop]; simp [h.cur, advN]
  | cons c cs bs bs' hc _ ih =>
    intro s r fuel acc h hf
    simp only [List.append_assoc, List.length_append] at h hf
    obtain ⟨k, hk1, hk2, e⟩ := strLoop_ch c bs hc s _ acc h
    obtain ⟨f, rfl⟩ : ∃ f, fuel = f + k := ⟨fuel - k, by omega⟩
    rw [e, ih _ r f _ h.advN (by omega), encChars_cons, List.length_append, advN_add, List.append_assoc]

theorem parseStr_sp (cs : List Char) (q : List UInt8) (hq : Quoted cs q) (s : Scan) (rest : List UInt8) (fuel : Nat)
    (h : At s (q ++ rest)) (hf : q.length ≤ fuel) :
    ∃ s', parseStr fuel s = .ok (cs, s') ∧ At s' rest ∧ (s.stash = [] → s'.stash = []) := by
  cases hq with
  | mk body hb =>
    simp only [List.cons_append, List.nil_append, List.append_assoc, List.length_cons,
      List.length_append, List.length_nil] at h hf
    have h0 := h.advance
    have hp0 := h.advance_pos_mid
    have hp1 := advN_pos_le body.length s.advance
    refine ⟨(advN body.length s.advance).advance, ?_, h0.advN.advance, fun hh => advance_stash_nil ?_⟩
    · unfold parseStr
      simp only [h.cur, strLoop_bodyS cs body hb s.advance rest fuel [] h0 (by omega)]
      have : (s.pos == (advN body.length s.advance).pos) = false := by simp; omega
      simp [this, lossy_encChars]
    · simp [advN_stash_nil _ _ (advance_stash_nil (s := s) (by simp [hh]))]

/-! ### the writer's text is one of the spellings -/

/-- behind `C01.rt_str` -/
theorem parseStr_rt (cs : List Char) (s : Scan) (rest : List UInt8) (fuel : Nat)
    (h : At s (encQuoted cs ++ rest)) (hf : (encQuoted cs).length ≤ fuel) :
    ∃ s', parseStr fuel s = .ok (cs, s') ∧ At s' rest ∧ (s.stash = [] → s'.stash = []) :=
  parseStr_sp cs _ (quoted_encQuoted cs) s rest fuel h hf

end Hs.Zinc

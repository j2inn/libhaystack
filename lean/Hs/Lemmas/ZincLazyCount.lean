/-
  C11 (lazy rows): from scanner positions to byte counts.  `pulls` is the iterator driven to its end,
  `pullsN` its first calls, each recording with every row handed out how many bytes had been pulled from the reader
  at that moment (`total - inp.length`: what the driver prints and what a counting reader measures under the real
  iterator).  `tokEnds` / `tokEndsP` list, for every row, the offset in the text at which the first token of the
  following line ends.
-/
import Hs.Lemmas.ZincLazyRow
namespace Hs.Zinc
open Hs Hs.Scan

theorem _root_.Hs.At.inp_length {s : Scan} {text : List UInt8} (h : At s text) (hs : s.stash = []) :
    s.inp.length = text.length - 1 := by
  cases text with
  | nil => simp [h.2.2]
  | cons b r =>
    have := h.unread
    rw [hs] at this
    simp at this
    simp [this]

def pulls (F depth : Nat) (names : List (List Char)) (total : Nat) : Nat → RowState → Res (List (Tags × Nat))
  | 0, _ => .diverge
  | n + 1, st =>
    match rowNext F depth st names with
    | .ok (Option.none, _) => .ok []
    | .ok (some row, st') =>
      match pulls F depth names total n st' with
      | .ok l => .ok ((row, total - st'.p.sc.inp.length) :: l)
      | .err => .err | .panic => .panic | .diverge => .diverge | .depth => .depth
    | .err => .err | .panic => .panic | .diverge => .diverge | .depth => .depth

def pullsN (F depth : Nat) (names : List (List Char)) (total : Nat) : Nat → RowState → Res (List (Tags × Nat))
  | 0, _ => .ok []
  | k + 1, st =>
    match rowNext F depth st names with
    | .ok (Option.none, _) => .ok []
    | .ok (some row, st') =>
      match pullsN F depth names total k st' with
      | .ok l => .ok ((row, total - st'.p.sc.inp.length) :: l)
      | .err => .err | .panic => .panic | .diverge => .diverge | .depth => .depth
    | .err => .err | .panic => .panic | .diverge => .diverge | .depth => .depth

theorem pulls_of_hands (F depth : Nat) (names : List (List Char)) (total : Nat) :
    ∀ (l : List (Tags × List UInt8)) (n : Nat) (st : RowState),
      Hands F depth names (AtEnd F depth names) st l → l.length < n →
      pulls F depth names total n st = .ok (l.map (fun x => (x.1, total - (x.2.length - 1))))
  | [], n, st, h, hn => by
    obtain ⟨m, rfl⟩ : ∃ m, n = m + 1 := ⟨n - 1, by omega⟩
    obtain ⟨st', e⟩ := h
    simp [pulls, e]
  | (row, text) :: more, n, st, h, hn => by
    obtain ⟨m, rfl⟩ : ∃ m, n = m + 1 := ⟨n - 1, by simp at hn; omega⟩
    obtain ⟨st', e, hat, hs, hmore⟩ := h
    have ih := pulls_of_hands F depth names total more m st' hmore (by simp at hn; omega)
    simp [pulls, e, ih, hat.inp_length hs]

theorem pullsN_of_hands (F depth : Nat) (names : List (List Char)) (total : Nat) (End : RowState → Prop) :
    ∀ (l : List (Tags × List UInt8)) (st : RowState), Hands F depth names End st l →
      pullsN F depth names total l.length st = .ok (l.map (fun x => (x.1, total - (x.2.length - 1))))
  | [], st, _ => by simp [pullsN]
  | (row, text) :: more, st, h => by
    obtain ⟨st', e, hat, hs, hmore⟩ := h
    have ih := pullsN_of_hands F depth names total End more st' hmore
    simp [pullsN, e, ih, hat.inp_length hs]

/-- `off` is the offset of the first line of `rows`.  The line after the last row is the blank line that ends the grid:
its newline is the token. -/
def tokEnds (names : List (List Char)) (single : Bool) : Nat → Rows → List Nat
  | _, .nil => []
  | off, .cons r rs =>
    (match rs with
     | .nil => off + (rowBytes r names single).length + 1 + 1
     | .cons r2 _ => off + (rowBytes r names single).length + 1 + rowFirstLen r2 names)
      :: tokEnds names single (off + (rowBytes r names single).length + 1) rs

/-- ends of the first tokens of the lines after each row of `rows`, when the line after the last of them is the
line of `rn` -/
def tokEndsP (names : List (List Char)) (single : Bool) (rn : Tags) : Nat → Rows → List Nat
  | _, .nil => []
  | off, .cons r rs =>
    (match rs with
     | .nil => off + (rowBytes r names single).length + 1 + rowFirstLen rn names
     | .cons r2 _ => off + (rowBytes r names single).length + 1 + rowFirstLen r2 names)
      :: tokEndsP names single rn (off + (rowBytes r names single).length + 1) rs

theorem tokEnds_length (names : List (List Char)) (single : Bool) : ∀ (rows : Rows) (off : Nat),
    (tokEnds names single off rows).length = (lexImgR rows).toList.length
  | .nil, _ => rfl
  | .cons r rs, off => by simp [tokEnds, lexImgR, Rows.toList, tokEnds_length names single rs]

theorem tokEndsP_length (names : List (List Char)) (single : Bool) (rn : Tags) : ∀ (rows : Rows) (off : Nat),
    (tokEndsP names single rn off rows).length = (lexImgR rows).toList.length
  | .nil, _ => rfl
  | .cons r rs, off => by simp [tokEndsP, lexImgR, Rows.toList, tokEndsP_length names single rn rs]

/-- the blank line that ends the grid counts like a line whose first token is one byte long -/
theorem tokEnds_eq (names : List (List Char)) (single : Bool) (rn : Tags) (h : rowFirstLen rn names = 1) :
    ∀ (rows : Rows) (off : Nat), tokEnds names single off rows = tokEndsP names single rn off rows
  | .nil, _ => rfl
  | .cons r rs, off => by
    simp only [tokEnds, tokEndsP, tokEnds_eq names single rn h rs]
    cases rs <;> simp only [h]

theorem rowTrace_length (names : List (List Char)) (single : Bool) (Y Z : List UInt8) : ∀ rows : Rows,
    (rowTrace names single Y Z rows).length = rows.length
  | .nil => rfl
  | .cons r rs => by simp [rowTrace, Rows.length, rowTrace_length names single Y Z rs]

/-- the positions recorded by `rowTrace`, as byte counts; `Y` begins with a token as long as the first token of the
line of `rn`, and `Z` is the rest of it -/
theorem rowTrace_counts (names : List (List Char)) (single : Bool) (rn : Tags) (Y Z : List UInt8)
    (hY : Y.length = rowFirstLen rn names + Z.length) :
    ∀ (rows : Rows) (off total : Nat), total = off + (encRows rows names single).length + Y.length →
    (rowTrace names single Y Z rows).map (fun x => (x.1, total - (x.2.length - 1))) =
      List.zip (lexImgR rows).toList ((tokEndsP names single rn off rows).map (fun e => min (e + 1) total))
  | .nil, _, _, _ => rfl
  | .cons r rs, off, total, ht => by
    rw [encRows_length_cons] at ht
    have ih := rowTrace_counts names single rn Y Z hY rs (off + (rowBytes r names single).length + 1) total (by omega)
    simp only [rowTrace, List.map_cons, tokEndsP, lexImgR, Rows.toList, List.zip_cons_cons, ih]
    congr 1
    cases rs with
    | nil =>
      simp only [encRows, List.length_nil] at ht ⊢
      congr 1; omega
    | cons r2 rs2 =>
      rw [encRows_length_cons] at ht
      simp only [List.length_drop, List.length_append, List.length_cons]
      congr 1; omega

end Hs.Zinc

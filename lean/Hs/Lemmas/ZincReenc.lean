/-
  C11 (re-encode stability), model side.  The writer prints numbers, coordinates and timestamps from their
  texts, so it prints for the lexical image of a value (what the reader returns for the writer's output) the
  same bytes as for the value itself.  One modelling detail: the reader's timestamp is purely lexical (its
  `txt` is the whole token, `tzid`/`zone` are empty — chrono's formatting of the decoded instant is outside the
  model), while the writer prints `txt`, a space and `zone` unless `tzid` is "UTC".  `asRead` marks every
  timestamp of a decoded value as "print the text as it was read" (`tzid := "UTC"`); it is the identity on values
  without timestamps (`noDT`).
-/
import Hs.Lemmas.ZincEncForm
namespace Hs.Zinc
open Hs Hs.Scan

mutual
def asRead : Val → Val
  | .dateTime t => .dateTime { t with tzid := "UTC".toList }
  | .list xs => .list (asReads xs)
  | .dict d => .dict (asReadT d)
  | .grid md cols rows ver => .grid (asReadO md) (asReadC cols) (asReadR rows) ver
  | v => v
def asReads : Vals → Vals
  | .nil => .nil
  | .cons v vs => .cons (asRead v) (asReads vs)
def asReadT : Tags → Tags
  | .nil => .nil
  | .cons k v t => .cons k (asRead v) (asReadT t)
def asReadO : OTags → OTags
  | .none => .none
  | .some t => .some (asReadT t)
def asReadC : Cols → Cols
  | .nil => .nil
  | .cons n m c => .cons n (asReadO m) (asReadC c)
def asReadR : Rows → Rows
  | .nil => .nil
  | .cons r rs => .cons (asReadT r) (asReadR rs)
end

mutual
def noDT : Val → Bool
  | .dateTime _ => false
  | .list xs => noDTs xs
  | .dict d => noDTT d
  | .grid md cols rows _ => noDTO md && noDTC cols && noDTR rows
  | _ => true
def noDTs : Vals → Bool
  | .nil => true
  | .cons v vs => noDT v && noDTs vs
def noDTT : Tags → Bool
  | .nil => true
  | .cons _ v t => noDT v && noDTT t
def noDTO : OTags → Bool
  | .none => true
  | .some t => noDTT t
def noDTC : Cols → Bool
  | .nil => true
  | .cons _ m c => noDTO m && noDTC c
def noDTR : Rows → Bool
  | .nil => true
  | .cons r rs => noDTT r && noDTR rs
end

/-! ### `asRead` changes nothing but the zone id of timestamps -/

theorem keys_asReadT : ∀ t : Tags, (asReadT t).keys = t.keys
  | .nil => rfl
  | .cons k v t => by simp [asReadT, Tags.keys, keys_asReadT t]

theorem isEmpty_asReadT (t : Tags) : (asReadT t).isEmpty = t.isEmpty := by
  cases t <;> simp [asReadT, Tags.isEmpty]

theorem keysIdent_asReadT : ∀ t : Tags, keysIdent (asReadT t) = keysIdent t
  | .nil => rfl
  | .cons k v t => by simp [asReadT, keysIdent, keysIdent_asReadT t]

theorem get?_asReadT : ∀ (t : Tags) (n : List Char), ((asReadT t).get? n).isSome = (t.get? n).isSome
  | .nil, _ => rfl
  | .cons k v t, n => by
    by_cases hk : k = n
    · simp [asReadT, Tags.get?, hk]
    · simp [asReadT, Tags.get?, hk, get?_asReadT t n]

theorem metaShape_asReadO : ∀ o : OTags, metaShape (asReadO o) = metaShape o
  | .none => rfl
  | .some t => by simp [asReadO, metaShape, isEmpty_asReadT, keysIdent_asReadT, keys_asReadT]

theorem colsShapeAux_asReadC : ∀ c : Cols, colsShapeAux (asReadC c) = colsShapeAux c
  | .nil => rfl
  | .cons n md c => by simp [asReadC, colsShapeAux, metaShape_asReadO, colsShapeAux_asReadC c]

theorem names_asReadC : ∀ c : Cols, (asReadC c).names = c.names
  | .nil => rfl
  | .cons n md c => by simp [asReadC, Cols.names, names_asReadC c]

theorem length_asReadC : ∀ c : Cols, (asReadC c).length = c.length
  | .nil => rfl
  | .cons n md c => by simp [asReadC, Cols.length, length_asReadC c]

/-! ### the writer on a `cons`, the separator as a `match` on the tail (one equation for `encX_one` / `encX_cons2`) -/

theorem encCols_step (n : List Char) (md : OTags) (c : Cols) :
    encCols (.cons n md c) = encChars n ++ metaPart md ++
      (match c with | .nil => [] | .cons _ _ _ => 44 :: encCols c) := by
  cases c with
  | nil => rw [encCols_one]; simp
  | cons n2 md2 c2 => rw [encCols_cons2]

theorem encTags_step (k : List Char) (v : Val) (t : Tags) (sep : UInt8) :
    encTags (.cons k v t) sep = encChars k ++ valPart v ++
      (match t with | .nil => [] | .cons _ _ _ => sep :: encTags t sep) := by
  cases t with
  | nil => rw [encTags_one]; simp
  | cons k2 v2 t2 => rw [encTags_cons2]

theorem encVals_step (v : Val) (vs : Vals) :
    encVals (.cons v vs) = enc v true ++ (match vs with | .nil => [] | .cons _ _ => 44 :: encVals vs) := by
  cases vs with
  | nil => rw [encVals_one]; simp
  | cons w ws => rw [encVals_cons2]

/-! ### the image of the reader prints like the value -/

theorem enc_dt_image (t : DateTime) (b : Bool) :
    enc (asRead (lexImg (.dateTime t))) b = enc (.dateTime t) b := by
  have hsp : ∀ z : List Char, encChars (' ' :: z) = 32 :: encChars z := by
    intro z
    rw [← List.singleton_append, encChars_append, show encChars [' '] = [32] by decide]
    rfl
  -- the zone test is kept on a variable: `"UTC".toList == "UTC".toList` is dear to evaluate
  have hutc : ∀ x : DateTime, x.tzid = "UTC".toList → encDateTime x = encChars x.txt := by
    intro x hx
    unfold encDateTime
    rw [hx, if_pos (beq_self_eq_true _)]
  simp only [lexImg, asRead, enc]
  rw [hutc _ rfl]
  unfold encDateTime
  cases t.tzid == "UTC".toList <;> simp [encChars_append, hsp]

theorem encNum_image (n : Num) : encNum (lexNumI n) = encNum n := by
  unfold lexNumI
  by_cases h1 : Flt.isNaNBits n.v.bits = true
  · simp only [h1, if_true]
    have : Flt.isNaNBits nanBits = true := by decide
    simp [encNum, this, h1]
  · simp only [h1, Bool.false_eq_true, if_false]
    by_cases h2 : Flt.isInfBits n.v.bits = true
    · simp only [h2, if_true]
      by_cases h3 : Flt.signBit n.v.bits = true
      · simp only [h3, if_true]
        have a1 : Flt.isNaNBits negInfBits = false := by decide
        have a2 : Flt.isInfBits negInfBits = true := by decide
        have a3 : Flt.signBit negInfBits = true := by decide
        simp [encNum, a1, a2, a3, h1, h2, h3]
      · simp only [h3, Bool.false_eq_true, if_false]
        have a1 : Flt.isNaNBits posInfBits = false := by decide
        have a2 : Flt.isInfBits posInfBits = true := by decide
        have a3 : Flt.signBit posInfBits = false := by decide
        simp [encNum, a1, a2, a3, h1, h2, h3]
    · simp only [h2, Bool.false_eq_true, if_false]
      have a1 : Flt.isNaNBits lexBits = false := by decide
      have a2 : Flt.isInfBits lexBits = false := by decide
      simp [encNum, a1, a2, h1, h2]

theorem isMarker_image (v : Val) : isMarker (asRead (lexImg v)) = isMarker v := by
  cases v <;> rfl

theorem names_image (c : Cols) : (asReadC (lexImgC c)).names = c.names := by
  rw [names_asReadC, Cols.names_eq, lexImgC_names]

theorem length_image : ∀ c : Cols, (asReadC (lexImgC c)).length = c.length
  | .nil => rfl
  | .cons n m c => by simp [lexImgC, asReadC, Cols.length, length_image c]

mutual
/-- **the writer prints the reader's image of a value exactly like the value** (no hypothesis) -/
theorem enc_image : ∀ (v : Val) (b : Bool), enc (asRead (lexImg v)) b = enc v b
  | .dateTime t, b => enc_dt_image t b
  | .num n, b => by simp [lexImg, asRead, enc, encNum_image]
  | .coord x y, b => by simp [lexImg, asRead, enc]
  | .list xs, b => by simp [lexImg, asRead, enc, encVals_image xs]
  | .dict d, b => by simp [lexImg, asRead, enc, encTags_image d 44]
  | .grid md cols rows ver, b => by
    simp only [lexImg, asRead]
    rw [enc_grid_eq, enc_grid_eq, metaPart_image md]
    cases cols with
    | nil => simp [lexImgC, asReadC]
    | cons n m c =>
      have hn := names_image (.cons n m c)
      have hl := length_image (.cons n m c)
      have hc := encCols_image (.cons n m c)
      simp only [lexImgC, asReadC] at hn hl hc ⊢
      simp only [hn, hl, hc, encRows_image rows]
  | .null, _ | .remove, _ | .marker, _ | .bool _, _ | .na, _ | .str _, _ | .uri _, _ | .ref _ _, _ | .sym _, _
  | .date _, _ | .time _, _ | .xstr _ _, _ => rfl
theorem encVals_image : ∀ xs : Vals, encVals (asReads (lexImgs xs)) = encVals xs
  | .nil => rfl
  | .cons v vs => by
    simp only [lexImgs, asReads]
    rw [encVals_step, encVals_step, enc_image v true]
    cases vs with
    | nil => simp [lexImgs, asReads]
    | cons w ws =>
      have := encVals_image (.cons w ws)
      simp only [lexImgs, asReads] at this ⊢
      rw [this]
theorem encTags_image : ∀ (t : Tags) (sep : UInt8), encTags (asReadT (lexImgT t)) sep = encTags t sep
  | .nil, _ => rfl
  | .cons k v t, sep => by
    simp only [lexImgT, asReadT]
    rw [encTags_step, encTags_step]
    have hv : valPart (asRead (lexImg v)) = valPart v := by
      simp only [valPart, isMarker_image, enc_image v true]
    rw [hv]
    cases t with
    | nil => simp [lexImgT, asReadT]
    | cons k2 v2 t2 =>
      have := encTags_image (.cons k2 v2 t2) sep
      simp only [lexImgT, asReadT] at this ⊢
      rw [this]
theorem metaPart_image : ∀ md : OTags, metaPart (asReadO (lexImgO md)) = metaPart md
  | .none => rfl
  | .some t => by
    simp only [lexImgO, asReadO, metaPart]
    have he : (asReadT (lexImgT t)).isEmpty = t.isEmpty := by cases t <;> simp [lexImgT, asReadT, Tags.isEmpty]
    rw [he, encTags_image t 32]
theorem encCols_image : ∀ c : Cols, encCols (asReadC (lexImgC c)) = encCols c
  | .nil => rfl
  | .cons n m c => by
    simp only [lexImgC, asReadC]
    rw [encCols_step, encCols_step, metaPart_image m]
    cases c with
    | nil => simp [lexImgC, asReadC]
    | cons n2 m2 c2 =>
      have := encCols_image (.cons n2 m2 c2)
      simp only [lexImgC, asReadC] at this ⊢
      rw [this]
theorem encCells_image : ∀ t : Tags, encCells (asReadT (lexImgT t)) = encCells t
  | .nil => rfl
  | .cons k v t => by simp [lexImgT, asReadT, encCells, enc_image v true, encCells_image t]
theorem encRows_image : ∀ (rows : Rows) (names : List (List Char)) (single : Bool),
    encRows (asReadR (lexImgR rows)) names single = encRows rows names single
  | .nil, _, _ => rfl
  | .cons r rs, names, single => by
    simp [lexImgR, asReadR, encRows, encCells_image r, encRows_image rs names single]
end

/-! ### values without timestamps: `asRead` changes nothing -/

mutual
theorem asRead_noDT : ∀ v : Val, noDT v = true → asRead (lexImg v) = lexImg v
  | .dateTime _, h => by simp [noDT] at h
  | .list xs, h => by simp only [noDT] at h; simp [lexImg, asRead, asReads_noDT xs h]
  | .dict d, h => by simp only [noDT] at h; simp [lexImg, asRead, asReadT_noDT d h]
  | .grid md cols rows ver, h => by
    simp only [noDT, Bool.and_eq_true] at h
    simp [lexImg, asRead, asReadO_noDT md h.1.1, asReadC_noDT cols h.1.2, asReadR_noDT rows h.2]
  | .num _, _ | .coord _ _, _ | .null, _ | .remove, _ | .marker, _ | .bool _, _ | .na, _ | .str _, _ | .uri _, _ | .ref _ _, _ | .sym _, _
  | .date _, _ | .time _, _ | .xstr _ _, _ => rfl
theorem asReads_noDT : ∀ xs : Vals, noDTs xs = true → asReads (lexImgs xs) = lexImgs xs
  | .nil, _ => rfl
  | .cons v vs, h => by
    simp only [noDTs, Bool.and_eq_true] at h
    simp [lexImgs, asReads, asRead_noDT v h.1, asReads_noDT vs h.2]
theorem asReadT_noDT : ∀ t : Tags, noDTT t = true → asReadT (lexImgT t) = lexImgT t
  | .nil, _ => rfl
  | .cons k v t, h => by
    simp only [noDTT, Bool.and_eq_true] at h
    simp [lexImgT, asReadT, asRead_noDT v h.1, asReadT_noDT t h.2]
theorem asReadO_noDT : ∀ o : OTags, noDTO o = true → asReadO (lexImgO o) = lexImgO o
  | .none, _ => rfl
  | .some t, h => by simp only [noDTO] at h; simp [lexImgO, asReadO, asReadT_noDT t h]
theorem asReadC_noDT : ∀ c : Cols, noDTC c = true → asReadC (lexImgC c) = lexImgC c
  | .nil, _ => rfl
  | .cons n m c, h => by
    simp only [noDTC, Bool.and_eq_true] at h
    simp [lexImgC, asReadC, asReadO_noDT m h.1, asReadC_noDT c h.2]
theorem asReadR_noDT : ∀ r : Rows, noDTR r = true → asReadR (lexImgR r) = lexImgR r
  | .nil, _ => rfl
  | .cons r rs, h => by
    simp only [noDTR, Bool.and_eq_true] at h
    simp [lexImgR, asReadR, asReadT_noDT r h.1, asReadR_noDT rs h.2]
end

end Hs.Zinc

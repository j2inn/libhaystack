/-
  C11: grids with two columns of the same name.  The reader keeps both columns; the cells of a row line are
  collected in column order into one dict, so a row carries ONE cell for the name (the last one read).  The writer
  looks cells up by column name and prints that cell under both columns; read back, the same value is inserted
  twice (`dictOf_cellsOf_gen`).  C01's ladder for rows and grids does not ask for distinct column names; nor does its
  mutual induction (`rdVG` in `ZincRtTop`, over `GoodVG` = `GoodV` of C01 without the distinctness of the names).
-/
import Hs.Lemmas.ZincRtGrid
namespace Hs.Zinc
open Hs Hs.Scan

theorem rows_allG (names : List (List Char)) (single nested : Bool) (rest : List UInt8)
    (hne : names ≠ []) (hsingle : names.length = 1 → single = true) (depth : Nat)
    (rows : Rows) (hok : RowsOk names single rows) (hdep : depth + nestR rows ≤ 64)
    (g : Nat) (sc6 : Scan) (hat : At sc6 (encRows rows names single ++ tailR nested rest)) (hs : sc6.stash = [])
    (hf : 4 * (encRows rows names single).length + 20 ≤ g) :
    ∃ p6 r', lexRead g sc6 = .ok p6 ∧
      rowsLoop (g + 1) depth { p := p6, nestedStart := nested, nestedEnd := false } names []
        = .ok ((lexImgR rows).toList, r') ∧
      At r'.p.sc (finalR nested rest) ∧ r'.p.sc.stash = [] :=
  rowsLoop_all names single nested rest hne hsingle depth rows hok hdep g sc6 hat hs hf

theorem RdVal_gridG (md : OTags) (n : List Char) (cm : OTags) (c : Cols) (rows : Rows) (ver : List Char)
    (hok : GridOkG md (.cons n cm c) rows ver) : RdVal (.grid md (.cons n cm c) rows ver) :=
  RdVal_grid md n cm c rows ver hok

theorem fromBytes_gridG (md : OTags) (n : List Char) (cm : OTags) (c : Cols) (rows : Rows) (ver : List Char)
    (hok : GridOkG md (.cons n cm c) rows ver) (hn : nestV (.grid md (.cons n cm c) rows ver) < 64) :
    fromBytes (encode (.grid md (.cons n cm c) rows ver)) = .ok (lexImg (.grid md (.cons n cm c) rows ver)) :=
  fromBytes_grid md n cm c rows ver hok hn

end Hs.Zinc

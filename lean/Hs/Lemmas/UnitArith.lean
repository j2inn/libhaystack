/-
  Hs.Lemmas.UnitArith — general lemmas about the model `Hs.Model.UnitArith` (all units, all lists of
  entries, all rationals); no table facts here.
  `&a * b` / `&a / b` and `Number × Number` / `Number ÷ Number` are each one function of what differs
  (`combine`, `numBin`); the facts about products and quotients are proved for those.
-/
import Hs.Model.UnitArith
import Mathlib.Tactic.FieldSimp
import Mathlib.Tactic.Ring
import Mathlib.Tactic.Linarith
namespace Hs.UnitArith
open Hs

theorem inconvertible_comm (a b : QUnit) : inconvertible b a = inconvertible a b := by
  unfold inconvertible
  rw [Bool.and_comm b.isByte a.isByte]
  congr 1
  exact decide_eq_decide.mpr ⟨fun h e => h e.symm, fun h e => h e.symm⟩

theorem inconvertible_eq_false (a b : QUnit) :
    inconvertible a b = false ↔ (a.dims = b.dims ∨ (a.isByte = true ∧ b.isByte = true)) := by
  unfold inconvertible
  by_cases hd : a.dims = b.dims <;> cases ha : a.isByte <;> cases hb : b.isByte <;> simp [hd]

theorem convertTo_ok_iff (a b : QUnit) (x : Rat) :
    (∃ y, convertTo a b x = .ok y) ↔ inconvertible a b = false := by
  unfold convertTo
  cases h : inconvertible a b <;> simp

theorem convertTo_ok (a b : QUnit) (x y : Rat) (h : convertTo a b x = .ok y) :
    inconvertible a b = false ∧ y = ((x * a.scale + a.offset) - b.offset) / b.scale := by
  unfold convertTo at h
  cases hi : inconvertible a b <;> simp [hi] at h
  exact ⟨rfl, h.symm⟩

theorem convert_roundtrip_alg (x sa oa sb ob : Rat) (ha : sa ≠ 0) (hb : sb ≠ 0) :
    ((((x * sa + oa) - ob) / sb) * sb + ob - oa) / sa = x := by
  field_simp
  ring

theorem le_qmin_iff (x p q : Rat) : x ≤ qmin p q ↔ x ≤ p ∧ x ≤ q := by
  unfold qmin
  split
  · constructor
    · intro h; exact ⟨h, le_trans h ‹_›⟩
    · intro h; exact h.1
  · rename_i hn
    have : q ≤ p := le_of_lt (not_le.mp hn)
    constructor
    · intro h; exact ⟨le_trans h this, h⟩
    · intro h; exact h.2

theorem qabs_nonneg (x : Rat) : 0 ≤ qabs x := by
  unfold qabs
  split <;> linarith

theorem approxEq_iff (a b : Rat) :
    approxEq a b = true ↔
      (a = b ∨ (qabs (a - b) ≤ qabs (a / 1000) ∧ qabs (a - b) ≤ qabs (b / 1000))) := by
  unfold approxEq
  by_cases h : a = b
  · simp [h]
  · simp [h, le_qmin_iff]

/-! ### match_units, products and quotients -/

theorem mem_matchUnits (es : List QUnit) (dim : Dims) (scale : Rat) (u : QUnit) :
    u ∈ matchUnits es dim scale ↔ (u ∈ es ∧ u.dims = some dim ∧ approxEq u.scale scale = true) := by
  unfold matchUnits
  simp [List.mem_filter]

/-- what `Mul` and `Div` both do with the candidates of `match_units` -/
def pick (cands : List QUnit) (p : QUnit → Bool) : Res QUnit :=
  match cands with
  | [u] => .ok u
  | _ =>
    match cands.find? p with
    | some u => .ok u
    | none => .err

theorem pick_mem {cands : List QUnit} {p : QUnit → Bool} {u : QUnit} (h : pick cands p = .ok u) : u ∈ cands := by
  unfold pick at h
  split at h
  · cases h; exact List.mem_singleton.2 rfl
  · split at h
    · rename_i v hv; cases h; exact List.mem_of_find?_eq_some hv
    · cases h

def combine (es : List QUnit) (dop : Dims → Dims → Dims) (scale : Rat) (p : QUnit → Bool) (a b : QUnit) : Res QUnit :=
  match a.dims, b.dims with
  | some d1, some d2 => pick (matchUnits es (dop d1 d2) scale) p
  | _, _ => .err

theorem mulUnits_eq (es : List QUnit) (a b : QUnit) :
    mulUnits es a b = combine es Dims.add (a.scale * b.scale) (fun u => u.name == a.name ++ "_" ++ b.name) a b := rfl

theorem divUnits_eq (es : List QUnit) (a b : QUnit) :
    divUnits es a b = combine es Dims.sub (a.scale / b.scale)
      (fun u => u.name == a.name ++ "_per_" ++ b.name || u.name == a.name ++ "s_per_" ++ b.name) a b := rfl

section
variable {es : List QUnit} {dop : Dims → Dims → Dims} {s : Rat} {p : QUnit → Bool} {a b u : QUnit}

theorem combine_dimless (h : a.dims = none ∨ b.dims = none) : combine es dop s p a b = .err := by
  unfold combine
  rcases h with h | h <;> cases ha : a.dims <;> cases hb : b.dims <;> simp_all

theorem combine_sound (h : combine es dop s p a b = .ok u) :
    u ∈ es ∧ ∃ d1 d2, a.dims = some d1 ∧ b.dims = some d2 ∧ u.dims = some (dop d1 d2) ∧ approxEq u.scale s = true := by
  unfold combine at h
  split at h
  · rename_i d1 d2 h1 h2
    have hm := (mem_matchUnits ..).1 (pick_mem h)
    exact ⟨hm.1, d1, d2, h1, h2, hm.2.1, hm.2.2⟩
  · cases h

end

theorem mulUnits_dimless (es : List QUnit) (a b : QUnit) (h : a.dims = none ∨ b.dims = none) :
    mulUnits es a b = .err := mulUnits_eq es a b ▸ combine_dimless h

theorem divUnits_dimless (es : List QUnit) (a b : QUnit) (h : a.dims = none ∨ b.dims = none) :
    divUnits es a b = .err := divUnits_eq es a b ▸ combine_dimless h

theorem small_add_sub (x y : Int) (hx : small x = true) (hy : small y = true) :
    inI8 (x + y) = true ∧ inI8 (x - y) = true := by
  simp only [small, inI8, Bool.and_eq_true, decide_eq_true_eq] at *
  omega

theorem Dims.small_add_sub (d1 d2 : Dims) (h1 : d1.small = true) (h2 : d2.small = true) :
    (d1.add d2).inI8 = true ∧ (d1.sub d2).inI8 = true := by
  simp only [Dims.small, Bool.and_eq_true] at h1 h2
  obtain ⟨⟨⟨⟨⟨⟨a1, a2⟩, a3⟩, a4⟩, a5⟩, a6⟩, a7⟩ := h1
  obtain ⟨⟨⟨⟨⟨⟨b1, b2⟩, b3⟩, b4⟩, b5⟩, b6⟩, b7⟩ := h2
  simp only [Dims.inI8, Dims.add, Dims.sub, Bool.and_eq_true]
  have c1 := UnitArith.small_add_sub _ _ a1 b1
  have c2 := UnitArith.small_add_sub _ _ a2 b2
  have c3 := UnitArith.small_add_sub _ _ a3 b3
  have c4 := UnitArith.small_add_sub _ _ a4 b4
  have c5 := UnitArith.small_add_sub _ _ a5 b5
  have c6 := UnitArith.small_add_sub _ _ a6 b6
  have c7 := UnitArith.small_add_sub _ _ a7 b7
  exact ⟨⟨⟨⟨⟨⟨⟨c1.1, c2.1⟩, c3.1⟩, c4.1⟩, c5.1⟩, c6.1⟩, c7.1⟩,
         ⟨⟨⟨⟨⟨⟨c1.2, c2.2⟩, c3.2⟩, c4.2⟩, c5.2⟩, c6.2⟩, c7.2⟩⟩

theorem entryUnits_subset (units : List QUnit) (entries : List (String × Nat))
    (h : ∀ e ∈ entries, e.2 < units.length) : ∀ u ∈ entryUnits units entries, u ∈ units := by
  intro u hu
  unfold entryUnits at hu
  rw [List.mem_map] at hu
  obtain ⟨e, he, rfl⟩ := hu
  have hlt := h e he
  have : units.getD e.2 defaultUnit = units[e.2] := by
    simp [List.getD_eq_getElem?_getD, List.getElem?_eq_getElem hlt]
  rw [this]
  exact List.getElem_mem hlt

/-- `l.getD i d` through the suffixes of `l` at every `k`-th cell.  For evaluation: the kernel walks `i` cells
for every `getD`, but evaluates each of the `n` suffixes (identical closed terms) once, so that a look-up
walks at most `n + k` cells. -/
def strideGetD {α : Type} (l : List α) (k n i : Nat) (d : α) : α :=
  (((List.range n).map fun j => l.drop (k * j)).getD (i / k) []).getD (i % k) d

theorem strideGetD_eq {α : Type} {l : List α} {k n : Nat} (h : l.length ≤ k * n) (i : Nat) (d : α) :
    strideGetD l k n i d = l.getD i d := by
  unfold strideGetD
  by_cases hi : i / k < n
  · simp only [List.getD_eq_getElem?_getD, List.getElem?_map, List.getElem?_range hi, Option.map_some,
      Option.getD_some, List.getElem?_drop, Nat.div_add_mod]
  · have : l.length ≤ i :=
      Nat.le_trans h (Nat.mul_comm k n ▸ Nat.mul_le_of_le_div k n i (Nat.not_lt.1 hi))
    simp [List.getD_eq_getElem?_getD, hi, List.getElem?_eq_none this]

theorem entryUnits_stride {k n : Nat} {units : List QUnit} (h : units.length ≤ k * n)
    (entries : List (String × Nat)) :
    entryUnits units entries = entries.map fun e => strideGetD units k n e.2 defaultUnit := by
  simp only [entryUnits, strideGetD_eq h]

theorem makeWithUnit_of_ne (v : Rat) (u : QUnit) (h : u ≠ defaultUnit) :
    makeWithUnit v u = ⟨v, some u⟩ := by
  simp [makeWithUnit, h]

theorem makeWithUnit_default (v : Rat) : makeWithUnit v defaultUnit = ⟨v, none⟩ := by
  simp [makeWithUnit]

theorem addUnit_same (a b : QNum) (h : a.unit = b.unit) : addUnit a b = some a.unit := by
  simp [addUnit, h]

theorem addUnit_diff (x y : Rat) (u v : QUnit) (h : u ≠ v) :
    addUnit ⟨x, some u⟩ ⟨y, some v⟩ = none := by
  simp [addUnit, h]

theorem addUnit_none_left (x y : Rat) (v : Option QUnit) : addUnit ⟨x, none⟩ ⟨y, v⟩ = some v := by
  cases v <;> simp [addUnit]

theorem addUnit_none_right (x y : Rat) (u : Option QUnit) : addUnit ⟨x, u⟩ ⟨y, none⟩ = some u := by
  cases u <;> simp [addUnit]

def numBin (f : QUnit → QUnit → Res QUnit) (op : Rat → Rat → Rat) (a b : QNum) : Res QNum :=
  let unit : Res (Option QUnit) :=
    if a.unit.isNone then .ok b.unit
    else if b.unit.isNone then .ok a.unit
    else match f (a.unit.getD defaultUnit) (b.unit.getD defaultUnit) with
      | .ok u => .ok (some u)
      | _ => .err
  match unit with
  | .ok unit => .ok (makeWithUnit (op a.value b.value) (unit.getD defaultUnit))
  | _ => .err

theorem numMul_eq (es : List QUnit) : numMul es = numBin (mulUnits es) (· * ·) := rfl

theorem numDiv_eq (es : List QUnit) : numDiv es = numBin (divUnits es) (· / ·) := rfl

theorem numBin_units {f : QUnit → QUnit → Res QUnit} {op : Rat → Rat → Rat} {x y : Rat} {a b : QUnit} {n : QNum}
    (h : numBin f op ⟨x, some a⟩ ⟨y, some b⟩ = .ok n) : ∃ u, f a b = .ok u ∧ n = makeWithUnit (op x y) u := by
  simp only [numBin, Option.isNone_some, Bool.false_eq_true, if_false, Option.getD_some] at h
  cases hm : f a b <;> simp [hm] at h
  exact ⟨_, rfl, h.symm⟩

theorem numBin_unitless (f : QUnit → QUnit → Res QUnit) (op : Rat → Rat → Rat) (x y : Rat) {u : QUnit}
    (hu : u ≠ defaultUnit) :
    numBin f op ⟨x, some u⟩ ⟨y, none⟩ = .ok ⟨op x y, some u⟩ ∧
      numBin f op ⟨x, none⟩ ⟨y, some u⟩ = .ok ⟨op x y, some u⟩ := by
  simp [numBin, makeWithUnit_of_ne _ u hu]

end Hs.UnitArith

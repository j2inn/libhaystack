/-
  C04 read direction, grids: a spelled row line is a row line as `rowLoop` reads it (`rowLoop_line` at `Blanks`,
  `DelimW`); the spelled rows are row lines as the row iterator sees them (`Lines` of
  `ZincRtRows`), so the iterator reads them up to the grid's end.
-/
import Hs.Lemmas.ZincSpellTags
import Hs.Lemmas.ZincRtRows
namespace Hs.Zinc
open Hs Hs.Scan Hs.Spell

/-! ### the spelled cells of a row -/

def CellsW (r : Tags) (cells : List (List Char × List UInt8)) : Prop :=
  ∀ n, (∀ v, r.get? n = some v → SpOk v (cellText cells n)) ∧ (r.get? n = none → cellText cells n = [])

theorem CellsW_nil : CellsW .nil [] := by
  intro n
  exact ⟨fun v h => by simp [Tags.get?] at h, fun _ => rfl⟩

theorem CellsW_cons {k : List Char} {v : Val} {t : Tags} {bs : List UInt8} {cells : List (List Char × List UInt8)}
    (hv : SpOk v bs) (ht : CellsW t cells) : CellsW (.cons k v t) ((k, bs) :: cells) := by
  intro n
  by_cases hk : k = n
  · subst hk
    constructor
    · intro v' h
      simp only [Tags.get?, if_true, Option.some.injEq] at h
      subst h
      simpa [cellText] using hv
    · intro h; simp [Tags.get?] at h
  · have hk' : (k == n) = false := by simpa using hk
    constructor
    · intro v' h
      simp only [Tags.get?, hk, if_false] at h
      have := (ht n).1 v' h
      simpa [cellText, List.find?_cons, hk'] using this
    · intro h
      simp only [Tags.get?, hk, if_false] at h
      have := (ht n).2 h
      simpa [cellText, List.find?_cons, hk'] using this

/-! ### row lines and rows -/

theorem _root_.Hs.Spell.RowLine.toB {cells : List (List Char × List UInt8)} {ns : List (List Char)} {line : List UInt8}
    (h : RowLine cells ns line) : RowLineB Blanks cells ns line := by
  induction h with
  | one n => exact RowLineB.one _ n
  | cons n n2 ns w rest hw _ ih => exact RowLineB.cons _ n n2 ns w rest hw ih

structure RowOkW (r : Tags) (names : List (List Char)) (single : Bool) (line : List UInt8) : Prop where
  cells : ∃ cs, CellsW r cs ∧ RowLine cs names line
  pres : single = true → ∀ n ∈ names, r.get? n ≠ none
  sorted : keysSorted r.keys = true
  sub : ∀ k ∈ r.keys, k ∈ names

inductive RowsOkW (names : List (List Char)) (single tlf : Bool) : Rows → List UInt8 → Prop
  | nil : RowsOkW names single tlf .nil []
  | cons (r : Tags) (rs : Rows) (line w nl rest : List UInt8) (hr : RowOkW r names single line) (hw : Blanks w)
      (hn : Nl nl) (hcr : CrOk nl rest tlf) (t : RowsOkW names single tlf rs rest) :
      RowsOkW names single tlf (.cons r rs) (line ++ w ++ nl ++ rest)

theorem firstW_row {r : Tags} {names : List (List Char)} {single : Bool} {line : List UInt8}
    (h : RowOkW r names single line) (hsingle : names.length = 1 → single = true) (x : List UInt8) :
    FirstW (line ++ x) := by
  obtain ⟨cs, hC, hl⟩ := h.cells
  cases hl with
  | one n =>
    have hs : single = true := hsingle rfl
    cases hget : r.get? n with
    | none => exact absurd hget (h.pres hs n (by simp))
    | some v =>
      obtain ⟨b, rr, e, hb⟩ := ((hC n).1 v hget).first
      exact ⟨b, rr ++ x, by rw [e]; simp, hb⟩
  | cons n n2 ns w restl hw hl' =>
    cases hget : r.get? n with
    | none =>
      rw [(hC n).2 hget]
      exact firstW_cons 44 _ (by decide)
    | some v =>
      obtain ⟨b, rr, e, hb⟩ := ((hC n).1 v hget).first
      exact ⟨b, rr ++ (44 :: (w ++ restl) ++ x), by rw [e]; simp, hb⟩

theorem RowsOkW.lines {names : List (List Char)} {single tlf : Bool} (hne : names ≠ [])
    (hsingle : names.length = 1 → single = true) {rows : Rows} {body : List UInt8}
    (h : RowsOkW names single tlf rows body) : Lines names tlf rows body := by
  induction h with
  | nil => exact Lines.nil
  | cons r rs line w nl rest hr hw hn hcr _ ih =>
    refine Lines.cons r rs line w nl rest ⟨?_, fun x => (firstW_row hr hsingle x).ok, hr.sorted, hr.sub⟩ hw hn hcr ih
    intro depth f1 f2 sc rest' hnolf hdep hat hs hf1 hf2
    obtain ⟨cs, hC, hl⟩ := hr.cells
    obtain ⟨p, p2, e1, e2, ht2, h2, hs2, hfirst⟩ := rowLoop_line Around.spelled r cs names single names line hl.toB 0 rfl
      (fun n _ => ⟨fun v hv => ⟨((hC n).1 v hv).rd, fun _ _ _ => ((hC n).1 v hv).first.noBlank⟩, (hC n).2⟩) hr.pres
      depth f1 f2 sc [] rest' nl w [] hn hw (DelimW_nl hw hn rest') hnolf Blanks.nil hdep
      (Pre.of_clean (by simpa using hat) hs) (by simp; omega) (by simp; omega)
    exact ⟨p, p2, e1, by simpa using e2, ht2, h2, hs2, hfirst (two_or_single hne hsingle)⟩

end Hs.Zinc

/-
  Lemmas for C17: `Tags` with `tInsert` / `tRemove` is a finite map with strictly ascending keys.  `ltKey` is core's
  `<` on names, `Sorted t` says that `t.toList` is a sorted association list of `Hs.Lemmas.KeyMap`, `tInsert` is its
  `Key.insert`, `tRemove` its `Key.erase` and `t.get?` its `Key.find`; `insertName` is `Key.insertKey`.
-/
import Hs.Model.CApi
import Hs.Lemmas.Views
namespace Hs.CApi
open Hs

/-! ### the key order -/

theorem ltKey_iff : ∀ a b : List Char, ltKey a b = true ↔ a < b :=
  Key.lt_iff (by rw [ltKey]) (fun _ _ => by rw [ltKey]) (fun _ _ => by rw [ltKey]) (fun _ _ _ _ => by rw [ltKey])

/-! ### sorted maps -/

def Below (k : List Char) : Tags → Prop
  | .nil => True
  | .cons k' _ t => ltKey k k' = true ∧ Below k t

/-- strictly ascending keys (the `BTreeMap` invariant) -/
def Sorted : Tags → Prop
  | .nil => True
  | .cons k _ t => Below k t ∧ Sorted t

theorem below_iff (a : List Char) : ∀ t : Tags, Below a t ↔ ∀ p ∈ t.toList, a < p.1
  | .nil => by simp [Below, Tags.toList]
  | .cons k v t => by simp [Below, Tags.toList, below_iff a t, ltKey_iff]

theorem sorted_iff : ∀ t : Tags, Sorted t ↔ Key.Sorted t.toList
  | .nil => by simp [Sorted, Tags.toList]
  | .cons k v t => by simp [Sorted, Tags.toList, List.pairwise_cons, below_iff, sorted_iff t]

theorem tInsert_toList (k : List Char) (v : Val) : ∀ t : Tags, (tInsert t k v).toList = Key.insert k v t.toList
  | .nil => rfl
  | .cons k' v' t => by
    rw [tInsert, Tags.toList, Key.insert]
    by_cases e : k = k'
    · simp [e, Tags.toList]
    · by_cases hlt : k < k'
      · simp [e, (ltKey_iff _ _).mpr hlt, List.le_of_lt hlt, Tags.toList]
      · have hn : ¬ ltKey k k' = true := fun h => hlt ((ltKey_iff _ _).mp h)
        have hle : ¬ k ≤ k' := fun h => hlt (Key.le_and_ne.mp ⟨h, e⟩)
        simp [e, hn, hle, Tags.toList, tInsert_toList k v t]

theorem get?_tInsert (k : List Char) (v : Val) (q : List Char) (t : Tags) :
    (tInsert t k v).get? q = if q = k then some v else t.get? q := by
  rw [Tags.get?_eq, tInsert_toList, Key.find_insert, Tags.get?_eq]
  by_cases e : q = k
  · simp [e]
  · have e' : ¬ k = q := fun h => e h.symm
    simp [e, e']

theorem sorted_tInsert (k : List Char) (v : Val) (t : Tags) (h : Sorted t) : Sorted (tInsert t k v) := by
  rw [sorted_iff, tInsert_toList] at *; exact Key.insert_sorted k v h

/-- among strictly ascending keys the first entry of a name is the only one -/
theorem tRemove_toList (k : List Char) : (t : Tags) → Sorted t → (tRemove t k).toList = Key.erase k t.toList
  | .nil, _ => rfl
  | .cons k' v' t, ⟨h1, h2⟩ => by
    rw [tRemove, Tags.toList, Key.erase, List.filter_cons]
    by_cases hk : k = k'
    · subst hk
      rw [if_pos rfl, if_neg (by simp), ← Key.erase,
        Key.erase_of_not_mem fun p hp e => Key.lt_ne ((below_iff k t).mp h1 p hp) e.symm]
    · rw [if_neg hk, if_pos (by simpa using fun e : k' = k => hk e.symm), Tags.toList, tRemove_toList k t h2, Key.erase]

theorem sorted_tRemove (k : List Char) (t : Tags) (h : Sorted t) : Sorted (tRemove t k) := by
  rw [sorted_iff, tRemove_toList k t h]; exact Key.erase_sorted k ((sorted_iff t).mp h)

theorem get?_tRemove (k q : List Char) (t : Tags) (h : Sorted t) :
    (tRemove t k).get? q = if q = k then none else t.get? q := by
  rw [Tags.get?_eq, tRemove_toList k t h, Key.find_erase, Tags.get?_eq]

/-! ### keys -/

theorem mem_keys_iff (q : List Char) : (t : Tags) → (q ∈ t.keys ↔ (t.get? q).isSome = true)
  | .nil => by simp [Tags.keys, Tags.get?]
  | .cons k v t => by
    by_cases h : k = q
    · simp [Tags.keys, Tags.get?, h]
    · have : ¬ q = k := fun e => h e.symm
      simp [Tags.keys, Tags.get?, h, this, mem_keys_iff q t]

def Asc : List (List Char) → Prop
  | [] => True
  | k :: ks => (∀ x ∈ ks, ltKey k x = true) ∧ Asc ks

theorem asc_iff : ∀ l : List (List Char), Asc l ↔ Key.Asc l
  | [] => by simp [Asc]
  | k :: ks => by simp [Asc, List.pairwise_cons, ltKey_iff, asc_iff ks]

theorem asc_keys (t : Tags) (h : Sorted t) : Asc t.keys := by
  rw [asc_iff, ← Tags.sorted_toList]; exact (sorted_iff t).mp h

theorem toList_keysList : (t : Tags) → (keysList t).toList = t.keys.map Val.str
  | .nil => rfl
  | .cons k v t => by simp [keysList, Vals.toList, Tags.keys, toList_keysList t]

/-! ### columns of a grid built from rows -/

theorem insertName_eq (k : List Char) : ∀ l, insertName l k = Key.insertKey k l
  | [] => rfl
  | x :: xs => by
    rw [insertName, Key.insertKey, insertName_eq k xs]
    by_cases e : k = x
    · subst e; simp [List.lt_irrefl]
    · by_cases hlt : k < x
      · simp [e, hlt, (ltKey_iff _ _).mpr hlt]
      · have : ltKey k x = false := Bool.eq_false_iff.mpr fun h => hlt ((ltKey_iff _ _).mp h)
        simp [e, hlt, this]

theorem mem_insertName (q k : List Char) (l : List (List Char)) : q ∈ insertName l k ↔ q = k ∨ q ∈ l := by
  rw [insertName_eq]; exact Key.mem_insertKey

theorem asc_insertName (k : List Char) (l : List (List Char)) (h : Asc l) : Asc (insertName l k) := by
  rw [asc_iff, insertName_eq] at *; exact Key.asc_insertKey h

theorem foldl_insertName (ks : List (List Char)) :
    ∀ acc : List (List Char), Asc acc →
      Asc (ks.foldl insertName acc) ∧ ∀ q, q ∈ ks.foldl insertName acc ↔ q ∈ acc ∨ q ∈ ks := by
  induction ks with
  | nil => intro acc h; exact ⟨h, by simp⟩
  | cons k ks ih =>
    intro acc h
    obtain ⟨h1, h2⟩ := ih (insertName acc k) (asc_insertName k acc h)
    refine ⟨h1, fun q => ?_⟩
    rw [List.foldl_cons, h2 q, mem_insertName]
    simp only [List.mem_cons, or_assoc, or_comm, or_left_comm]

theorem unionKeys_spec_aux (rows : List Tags) :
    ∀ acc : List (List Char), Asc acc →
      Asc (rows.foldl (fun acc r => r.keys.foldl insertName acc) acc) ∧
      ∀ q, q ∈ rows.foldl (fun acc r => r.keys.foldl insertName acc) acc ↔ q ∈ acc ∨ ∃ r ∈ rows, q ∈ r.keys := by
  induction rows with
  | nil => intro acc h; exact ⟨h, by simp⟩
  | cons r rows ih =>
    intro acc h
    obtain ⟨a1, a2⟩ := foldl_insertName r.keys acc h
    obtain ⟨h1, h2⟩ := ih _ a1
    refine ⟨h1, fun q => ?_⟩
    rw [List.foldl_cons, h2 q, a2 q]
    simp only [List.mem_cons, exists_eq_or_imp, or_assoc]

/-- the columns of `Grid::make_from_dicts`.
(`Hs.Kinds.makeFromDicts`, with `Hs.Kinds.gridColumns`, is a second model of that function; no theorem relates the two.) -/
theorem unionKeys_spec (rows : List Tags) :
    Asc (unionKeys rows) ∧ ∀ q, q ∈ unionKeys rows ↔ ∃ r ∈ rows, q ∈ r.keys := by
  obtain ⟨h1, h2⟩ := unionKeys_spec_aux rows [] trivial
  exact ⟨h1, fun q => by rw [unionKeys, h2 q]; simp⟩

-- `Hs.CApi.colsOfNames`; Hs.Model.Kinds has a second function of this name and body (lemma in Lemmas/Kinds)
theorem names_colsOfNames : (ns : List (List Char)) → (colsOfNames ns).names = ns
  | [] => rfl
  | n :: ns => by simp [colsOfNames, Cols.names, names_colsOfNames ns]

theorem rGet?_ofList : (l : List Tags) → (i : Nat) → rGet? (Rows.ofList l) i = l[i]?
  | [], _ | r :: rs, 0 => by simp [Rows.ofList, rGet?]
  | r :: rs, i + 1 => by simp [Rows.ofList, rGet?, rGet?_ofList rs i]

end Hs.CApi

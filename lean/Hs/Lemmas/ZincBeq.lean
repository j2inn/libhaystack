/-
  A Boolean equality test on the mutual value types with its soundness proof, so that concrete facts of the
  form `fromBytes t = .ok v` can be checked by evaluation in the kernel (`decide +kernel` on `isOkEq`).
-/
import Hs.Lemmas.ValRec
namespace Hs
open Hs

mutual
def beqV : Val → Val → Bool
  | .null, .null => true
  | .remove, .remove => true
  | .marker, .marker => true
  | .bool a, .bool b => a == b
  | .na, .na => true
  | .num a, .num b => decide (a = b)
  | .str a, .str b => decide (a = b)
  | .uri a, .uri b => decide (a = b)
  | .ref a d, .ref b e => decide (a = b) && decide (d = e)
  | .sym a, .sym b => decide (a = b)
  | .date a, .date b => decide (a = b)
  | .time a, .time b => decide (a = b)
  | .dateTime a, .dateTime b => decide (a = b)
  | .coord a b, .coord c d => decide (a = c) && decide (b = d)
  | .xstr a b, .xstr c d => decide (a = c) && decide (b = d)
  | .list a, .list b => beqVs a b
  | .dict a, .dict b => beqT a b
  | .grid m c r v, .grid m' c' r' v' => beqO m m' && beqC c c' && beqR r r' && decide (v = v')
  | _, _ => false
def beqVs : Vals → Vals → Bool
  | .nil, .nil => true
  | .cons a as, .cons b bs => beqV a b && beqVs as bs
  | _, _ => false
def beqT : Tags → Tags → Bool
  | .nil, .nil => true
  | .cons k a as, .cons k' b bs => decide (k = k') && beqV a b && beqT as bs
  | _, _ => false
def beqO : OTags → OTags → Bool
  | .none, .none => true
  | .some a, .some b => beqT a b
  | _, _ => false
def beqC : Cols → Cols → Bool
  | .nil, .nil => true
  | .cons n m c, .cons n' m' c' => decide (n = n') && beqO m m' && beqC c c'
  | _, _ => false
def beqR : Rows → Rows → Bool
  | .nil, .nil => true
  | .cons a as, .cons b bs => beqT a b && beqR as bs
  | _, _ => false
end

theorem beqV_kind (a b : Val) : beqV a b = true → a.kindIdx = b.kindIdx := by
  fun_cases beqV a b <;> intro h
  -- every arm of `beqV` but the catch-all pairs a constructor with itself; the catch-all answers `false`
  any_goals rfl
  cases h

mutual
theorem beqV_sound : ∀ a b : Val, beqV a b = true → a = b
  | a, b, h => by
    have hk := beqV_kind a b h
    cases Val.sameKind hk
    all_goals simp only [beqV, Bool.and_eq_true, decide_eq_true_eq, beq_iff_eq] at h
    case null | remove | marker | na => rfl
    case list x y => rw [beqVs_sound x y h]
    case dict x y => rw [beqT_sound x y h]
    case grid m c r v m' c' r' v' =>
      rw [beqO_sound m m' h.1.1.1, beqC_sound c c' h.1.1.2, beqR_sound r r' h.1.2, h.2]
    case ref | coord | xstr => rw [h.1, h.2]
    all_goals rw [h]
termination_by structural a => a
theorem beqVs_sound : ∀ a b : Vals, beqVs a b = true → a = b
  | .nil, .nil, _ => rfl
  | .cons a as, .cons b bs, h => by
    simp only [beqVs, Bool.and_eq_true] at h
    rw [beqV_sound a b h.1, beqVs_sound as bs h.2]
  | .nil, .cons _ _, h => by simp [beqVs] at h
  | .cons _ _, .nil, h => by simp [beqVs] at h
termination_by structural a => a
theorem beqT_sound : ∀ a b : Tags, beqT a b = true → a = b
  | .nil, .nil, _ => rfl
  | .cons k a as, .cons k' b bs, h => by
    simp only [beqT, Bool.and_eq_true, decide_eq_true_eq] at h
    rw [h.1.1, beqV_sound a b h.1.2, beqT_sound as bs h.2]
  | .nil, .cons _ _ _, h => by simp [beqT] at h
  | .cons _ _ _, .nil, h => by simp [beqT] at h
termination_by structural a => a
theorem beqO_sound : ∀ a b : OTags, beqO a b = true → a = b
  | .none, .none, _ => rfl
  | .some a, .some b, h => by simp only [beqO] at h; rw [beqT_sound a b h]
  | .none, .some _, h => by simp [beqO] at h
  | .some _, .none, h => by simp [beqO] at h
termination_by structural a => a
theorem beqC_sound : ∀ a b : Cols, beqC a b = true → a = b
  | .nil, .nil, _ => rfl
  | .cons n m c, .cons n' m' c', h => by
    simp only [beqC, Bool.and_eq_true, decide_eq_true_eq] at h
    rw [h.1.1, beqO_sound m m' h.1.2, beqC_sound c c' h.2]
  | .nil, .cons _ _ _, h => by simp [beqC] at h
  | .cons _ _ _, .nil, h => by simp [beqC] at h
termination_by structural a => a
theorem beqR_sound : ∀ a b : Rows, beqR a b = true → a = b
  | .nil, .nil, _ => rfl
  | .cons a as, .cons b bs, h => by
    simp only [beqR, Bool.and_eq_true] at h
    rw [beqT_sound a b h.1, beqR_sound as bs h.2]
  | .nil, .cons _ _, h => by simp [beqR] at h
  | .cons _ _, .nil, h => by simp [beqR] at h
termination_by structural a => a
end

def isOkEq (r : Res Val) (v : Val) : Bool :=
  match r with
  | .ok w => beqV w v
  | _ => false

theorem isOkEq_sound {r : Res Val} {v : Val} (h : isOkEq r v = true) : r = .ok v := by
  cases r <;> simp [isOkEq] at h
  rw [beqV_sound _ _ h]

end Hs

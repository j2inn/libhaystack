/-
  C04 read direction, grids: how the lines of a sentence end (`LineEnds.spelled`), what the grid reader needs of a spelled
  grid (`GridOkW`), and `parse_grid` on every spelled layout, nested and at top level, as the case of `parseGrid_tailD`
  with blanks before each line ending.
-/
import Hs.Lemmas.ZincRtGrid
import Hs.Lemmas.ZincSpellRows
namespace Hs.Zinc
open Hs Hs.Scan Hs.Spell

theorem LineEnds.spelled : LineEnds DelimW EndOk := ⟨EndOk.ends, EndOk.ends, EndOk.comma⟩

abbrev ColsOkW : Cols → List UInt8 → Prop := ColsOkD (fun term => RdTagsW colMetaL term)

theorem ColsOkW.firstW {cols : Cols} {cl : List UInt8} (h : ColsOkW cols cl) (tl : List UInt8) : FirstW (cl ++ tl) := by
  cases h with
  | one n md m hn hm => simpa using firstW_ident hn (m ++ tl)
  | cons n md n2 md2 c m w rest hn hm hw t => simpa using firstW_ident hn (m ++ 44 :: (w ++ rest) ++ tl)

/-- `m` meta, `cl` column line, `rw` rows, blanks `w1` `w2` before the line endings `nl1` `nl2`; `tlf`: the text after the
grid may start with LF -/
structure GridOkW (tlf : Bool) (md : OTags) (cols : Cols) (rows : Rows) (ver : List Char)
    (m w1 nl1 cl w2 nl2 rw : List UInt8) : Prop where
  okVer : ver = ['3', '.', '0']
  okMeta : MetaOkD (RdTagsW dictParts 10) md m
  okCols : ColsOkW cols cl
  okRows : RowsOkW cols.names (cols.length == 1) tlf rows rw
  okW1 : Blanks w1
  okNl1 : Nl nl1
  okW2 : Blanks w2
  okNl2 : Nl nl2
  okCr2 : CrOk nl2 rw tlf

theorem parseGrid_tailW {tlf : Bool} {md : OTags} {cols : Cols} {rows : Rows} {ver : List Char}
    {m w1 nl1 cl w2 nl2 rw : List UInt8}
    (hok : GridOkW tlf md cols rows ver m w1 nl1 cl w2 nl2 rw) {nested : Bool} {tail final : List UInt8}
    (hE : GridEnd nested tail final) (htl : tlf = false → tail.head? ≠ some 10) (depth g : Nat) (s0 : Scan)
    (hat : At s0 (verArg ++ (m ++ (w1 ++ (nl1 ++ (cl ++ (w2 ++ (nl2 ++ (rw ++ tail)))))))))
    (hs : s0.stash = []) (hf : 4 * (m.length + cl.length + rw.length) + w1.length + w2.length + 48 ≤ g)
    (hfu : nested = false → 4 * rw.length + tail.length + 20 ≤ g)
    (hd : depth + nestV (.grid md cols rows ver) ≤ 64) :
    GridReads md cols rows nested depth g s0 final := by
  simp only [nestV] at hd
  have hne : cols.names ≠ [] := by cases hok.okCols <;> simp [Cols.names]
  have hlines := hok.okRows.lines hne (cols_singleW cols)
  have hcl : cl ≠ [] := by
    obtain ⟨b, r, eb, _⟩ := hok.okCols.firstW []
    intro e; rw [e] at eb; cases eb
  have l1 : nl1.length ≤ 2 := by cases hok.okNl1 <;> simp
  have l2 : nl2.length ≤ 2 := by cases hok.okNl2 <;> simp
  -- a lone CR before the column line or the rows is not followed by LF: both start with no white space
  exact parseGrid_tailD LineEnds.spelled hok.okMeta hok.okCols hlines
    (EndOk.nl w1 nl1 _ hok.okW1 hok.okNl1 (fun _ => (hok.okCols.firstW _).head_ne))
    (EndOk.nl w2 nl2 _ hok.okW2 hok.okNl2 (hlines.noLF hok.okCr2 htl)) hcl hE htl depth g s0
    (by simpa using hat) hs (by simp only [List.length_append]; omega) hfu ⟨by omega, by omega, by omega⟩

theorem SpOk_grid {md : OTags} {cols : Cols} {rows : Rows} {ver : List Char} {m w1 nl1 cl w2 nl2 rw w nl : List UInt8}
    (hok : GridOkW false md cols rows ver m w1 nl1 cl w2 nl2 rw) (hw : Blanks w) (hn : Nl nl) :
    SpOk (.grid md cols rows ver) (60 :: 60 :: (w ++ nl ++ gridText m w1 nl1 cl w2 nl2 rw ++ [62, 62])) := by
  refine ⟨?_, firstW_cons 60 _ (by decide)⟩
  rw [gridText_eq]
  refine RdD_grid DelimW hok.okVer hw hn fun rest depth g s0 hat hs hf hd => ?_
  simp only [List.length_append] at hf
  exact parseGrid_tailW hok (GridEnd.nested rest) (fun _ => by simp) depth g s0 (by simpa using hat) hs (by omega)
    (fun h => by cases h) hd

theorem fromBytes_gridW {tlf : Bool} {md : OTags} {cols : Cols} {rows : Rows} {ver : List Char}
    {m w1 nl1 cl w2 nl2 rw lead tail : List UInt8}
    (hok : GridOkW tlf md cols rows ver m w1 nl1 cl w2 nl2 rw) (hl : Blanks lead) (hE : GridEnd false tail [])
    (htl : tlf = false → tail.head? ≠ some 10) (hn : nestV (.grid md cols rows ver) < 64) :
    fromBytes (lead ++ gridText m w1 nl1 cl w2 nl2 rw ++ tail) = .ok (lexImg (.grid md cols rows ver)) := by
  rw [gridText_eq]
  refine fromBytes_grid_of hok.okVer hl fun g s0 hat hs hf => ?_
  simp only [List.length_append] at hf
  exact parseGrid_tailW hok hE htl 1 g s0 (by simpa using hat) hs (by omega) (fun _ => by omega) (by omega)

end Hs.Zinc

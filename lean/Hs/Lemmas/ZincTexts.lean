/-
  The texts of scalar tokens as byte lists, with the lemmas that take the Boolean predicates apart: decimal texts
  (`DecText lex bs`: `bs` may carry `_`, `lex` is what `parse_decimal` returns; `DecShape` adds what the look-ahead of
  `parse_number_date_time` needs; `numBytesOk` / `decBytesOk` the writer's case `bs = lex`), units (`unitOk`), zones
  (`tzNameOk`, `zoneOk`) and timestamps (`dtBytesOk`); a spelled Str begins with its quote (`quoted_shape`).
-/
import Hs.Lemmas.ZincFollow

namespace Hs.Zinc
open Hs Hs.Scan Hs.Spell

/-! ### Str -/

theorem quoted_shape {cs : List Char} {q : List UInt8} (hq : Quoted cs q) : ∃ t, q = 34 :: t := by
  cases hq with
  | mk body hb => exact ⟨_, rfl⟩

/-! ### decimal texts and units -/

structure DecText (lex bs : List UInt8) : Prop where
  filt : bs.filter (· != 95) = lex
  cls : ∀ b ∈ bs, isDecB b = true
  valid : validDecimal lex = true

/-- no `-` further on: `dddd-` would be taken for a date -/
structure DecShape (lex bs : List UInt8) : Prop extends DecText lex bs where
  tail : ∀ b ∈ bs.tail, b ≠ 45
  first : ∃ b r, bs = b :: r ∧ (isDigitB b = true ∨ (b = 45 ∧ r ≠ []))

theorem DecText.first_nb {lex bs : List UInt8} (h : DecText lex bs) : ∃ b r, bs = b :: r ∧ b ≠ 32 ∧ b ≠ 9 := by
  cases bs with
  | nil => exact absurd (h.filt ▸ h.valid) (by decide)
  | cons b r =>
    exact ⟨b, r, rfl, fun e => absurd (h.cls b (by simp)) (by rw [e]; decide),
      fun e => absurd (h.cls b (by simp)) (by rw [e]; decide)⟩

theorem DecShape.first' {lex bs : List UInt8} (h : DecShape lex bs) :
    ∃ b r, bs = b :: r ∧ (isDigitB b || b == 45) = true := by
  obtain ⟨b, r, e, hb⟩ := h.first
  refine ⟨b, r, e, ?_⟩
  rcases hb with hb | ⟨rfl, _⟩
  · simp [hb]
  · decide

/-- Rust's `Display for f64` prints finite values as `-?d+(.d+)?`, which satisfies this. -/
def numBytesOk (tb : List UInt8) : Bool :=
  tb.all isNumB && validDecimal tb && tb.tail.all (· != 45) &&
    (match tb with
     | b :: _ => isDigitB b || b == 45
     | [] => false)

theorem decShape_of_numBytesOk {tb : List UInt8} (hok : numBytesOk tb = true) : DecShape tb tb := by
  simp only [numBytesOk, Bool.and_eq_true, List.all_eq_true, bne_iff_ne, ne_eq] at hok
  obtain ⟨⟨⟨hnum, hvalid⟩, htail⟩, hfirst⟩ := hok
  refine ⟨⟨List.filter_eq_self.mpr (fun b hb => by simpa using (isNumB_dec (hnum b hb)).2),
    fun b hb => (isNumB_dec (hnum b hb)).1, hvalid⟩, htail, ?_⟩
  cases tb with
  | nil => simp at hfirst
  | cons b r =>
    refine ⟨b, r, rfl, ?_⟩
    simp only [Bool.or_eq_true, beq_iff_eq] at hfirst
    rcases hfirst with h | rfl
    · exact Or.inl h
    · refine Or.inr ⟨rfl, ?_⟩
      rintro rfl
      exact absurd hvalid (by decide)

/-- decimal text of a coordinate component -/
def decBytesOk (tb : List UInt8) : Bool := tb.all isNumB && validDecimal tb

theorem decText_of_decBytesOk {tb : List UInt8} (h : decBytesOk tb = true) : DecText tb tb := by
  simp only [decBytesOk, Bool.and_eq_true, List.all_eq_true] at h
  exact ⟨List.filter_eq_self.mpr (fun b hb => by simpa using (isNumB_dec (h.1 b hb)).2),
    fun b hb => (isNumB_dec (h.1 b hb)).1, h.2⟩

def numTextOk (txt : List Char) : Bool := txt.all (fun c => c.toNat < 128) && numBytesOk (txt.map byteOf)

def decTextOk (txt : List Char) : Bool := txt.all (fun c => c.toNat < 128) && decBytesOk (txt.map byteOf)

theorem decTextOk_elim {txt : List Char} (h : decTextOk txt = true) :
    encChars txt = txt.map byteOf ∧ asciiChars (txt.map byteOf) = txt ∧ decBytesOk (txt.map byteOf) = true := by
  simp only [decTextOk, Bool.and_eq_true] at h
  exact ⟨encChars_all_ascii h.1, asciiChars_map_byteOf (all_ascii_mem h.1), h.2⟩

/-- the unit part of a number: absent, or a symbol of the unit table made of unit characters, not
starting with `_` (which `parse_decimal` would swallow) and not the single letter `e`/`E` (which
`parse_number` takes for an exponent) -/
def unitOk (uo : Option (List Char)) : Bool :=
  match uo with
  | none => true
  | some u =>
    !(encChars u).isEmpty && (encChars u).all isUnitB && (encChars u).head? != some 95
      && (encChars u != [101] && encChars u != [69]) && unitSymbol u == some u

def unitBytes (uo : Option (List Char)) : List UInt8 :=
  match uo with
  | none => []
  | some u => encChars u

theorem unitText_eq (uo : Option (List Char)) : Spell.unitText uo = unitBytes uo := by cases uo <;> rfl

theorem unitOk_some {u : List Char} (hu : unitOk (some u) = true) :
    ∃ b0 ub', encChars u = b0 :: ub' ∧ isUnitB b0 = true ∧ b0 ≠ 95 ∧ (∀ b ∈ encChars u, isUnitB b = true) ∧
      ((b0 == 101 || b0 == 69) = true → ∃ y ys, ub' = y :: ys) ∧ unitSymbol u = some u := by
  simp only [unitOk, Bool.and_eq_true, Bool.not_eq_eq_eq_not, Bool.not_true, List.isEmpty_eq_false_iff,
    List.all_eq_true, bne_iff_ne, ne_eq, beq_iff_eq] at hu
  obtain ⟨⟨⟨⟨hne, hall⟩, h95⟩, he1, he2⟩, hsym⟩ := hu
  cases hx : encChars u with
  | nil => exact absurd hx hne
  | cons b0 ub' =>
    refine ⟨b0, ub', rfl, hall b0 (by rw [hx]; simp), ?_, by rw [← hx]; exact hall, ?_, hsym⟩
    · intro e; apply h95; rw [hx, e]; rfl
    · intro hee
      cases ub' with
      | cons y ys => exact ⟨y, ys, rfl⟩
      | nil =>
        exfalso
        simp only [Bool.or_eq_true, beq_iff_eq] at hee
        rcases hee with rfl | rfl
        · exact he1 hx
        · exact he2 hx

theorem stop_dec_unit_rest (uo : Option (List Char)) (hu : unitOk uo = true) (rest : List UInt8)
    (hd : Stop isNumMoreB rest) : Stop isDecB (unitBytes uo ++ rest) := by
  cases uo with
  | none => simpa [unitBytes] using hd.dec
  | some u =>
    obtain ⟨b0, ub', hub, hb0, hb0', _, _, _⟩ := unitOk_some hu
    simp only [unitBytes, hub, List.cons_append]
    apply Stop_cons
    simp [isDecB, unit_not_digit hb0, hb0', ne_of_class hb0 (k := 46) (by decide), ne_of_class hb0 (k := 45) (by decide)]

theorem afterDec_unit_rest (uo : Option (List Char)) (hu : unitOk uo = true) (rest : List UInt8)
    (hd : Stop isNumMoreB rest) : AfterDec (unitBytes uo ++ rest) := by
  intro x r hx
  cases uo with
  | none =>
    have := hd x r hx
    simp only [isNumMoreB, isDecB, Bool.or_eq_false_iff, beq_eq_false_iff_ne, ne_eq] at this
    exact ⟨this.1.1.1.1.1, this.2, this.1.1.2⟩
  | some u =>
    obtain ⟨b0, ub', hub, hb0, _, _, _, _⟩ := unitOk_some hu
    simp only [unitBytes, hub, List.cons_append, List.cons.injEq] at hx
    rw [← hx.1]
    exact ⟨unit_not_digit hb0, ne_of_class hb0 (by decide), ne_of_class hb0 (by decide)⟩

/-! ### zones and timestamps -/

def tzNameOk (name : List UInt8) : Bool :=
  match name with
  | n0 :: n1 :: nr => isUpperB n0 && (n1 :: nr).all isTzB
  | _ => false

theorem tzNameOk_elim {name : List UInt8} (hn : tzNameOk name = true) :
    ∃ n0 n1 nr, name = n0 :: n1 :: nr ∧ isUpperB n0 = true ∧ ∀ b ∈ n1 :: nr, isTzB b = true := by
  cases name with
  | nil => simp [tzNameOk] at hn
  | cons n0 tl =>
    cases tl with
    | nil => simp [tzNameOk] at hn
    | cons n1 nr =>
      simp only [tzNameOk, Bool.and_eq_true, List.all_eq_true] at hn
      exact ⟨n0, n1, nr, rfl, hn.1, hn.2⟩

/-- `UTC` is accepted without the table -/
def nameResolves (name : List UInt8) : Bool := name == [85, 84, 67] || tzResolves name

def zoneOk (z : List UInt8) : Bool :=
  match z with
  | [90] => true
  | 90 :: 32 :: name => tzNameOk name && nameResolves name
  | sg :: o0 :: o1 :: 58 :: o2 :: o3 :: 32 :: name =>
    (sg == 43 || sg == 45) && isDigitB o0 && isDigitB o1 && isDigitB o2 && isDigitB o3 && tzNameOk name
      && nameResolves name
  | _ => false

/-- the check `parse_datetime` makes on the zone name -/
def zoneCheck (z : List UInt8) : Bool :=
  match zoneNameOf z with
  | Option.none => false
  | some name => name != [85, 84, 67] && !tzResolves name

theorem zoneCheck_of_resolves {name : List UInt8} (h : nameResolves name = true) :
    (name != [85, 84, 67] && !tzResolves name) = false := by
  simp only [nameResolves, Bool.or_eq_true, beq_iff_eq] at h
  rcases h with h | h
  · simp [h]
  · simp [h]

theorem zoneOk_cases {z : List UInt8} (hz : zoneOk z = true) :
    z = [90] ∨ (∃ name, z = 90 :: 32 :: name ∧ tzNameOk name = true ∧ nameResolves name = true) ∨
    ∃ sg o0 o1 o2 o3 name, z = sg :: o0 :: o1 :: 58 :: o2 :: o3 :: 32 :: name ∧ (sg = 43 ∨ sg = 45) ∧
      isDigitB o0 = true ∧ isDigitB o1 = true ∧ isDigitB o2 = true ∧ isDigitB o3 = true ∧ tzNameOk name = true ∧
      nameResolves name = true := by
  unfold zoneOk at hz
  split at hz
  · exact Or.inl rfl
  · rename_i name
    simp only [Bool.and_eq_true] at hz
    exact Or.inr (Or.inl ⟨name, rfl, hz.1, hz.2⟩)
  · rename_i _ sg o0 o1 o2 o3 name _
    simp only [Bool.and_eq_true, Bool.or_eq_true, beq_iff_eq] at hz
    obtain ⟨⟨⟨⟨⟨⟨hsg, ho0⟩, ho1⟩, ho2⟩, ho3⟩, hn⟩, hres⟩ := hz
    exact Or.inr (Or.inr ⟨sg, o0, o1, o2, o3, name, rfl, hsg, ho0, ho1, ho2, ho3, hn, hres⟩)
  · simp at hz

theorem zoneOk_head {z : List UInt8} (hz : zoneOk z = true) : ∃ z0 zr, z = z0 :: zr ∧ isDigitB z0 = false ∧ z0 ≠ 46 := by
  rcases zoneOk_cases hz with rfl | ⟨name, rfl, _⟩ | ⟨sg, o0, o1, o2, o3, name, rfl, hsg, _⟩
  · exact ⟨90, _, rfl, by decide, by decide⟩
  · exact ⟨90, _, rfl, by decide, by decide⟩
  · refine ⟨sg, _, rfl, ?_⟩
    rcases hsg with rfl | rfl <;> exact ⟨by decide, by decide⟩

structure DateDigits (a b c d e f g h : UInt8) : Prop where
  y0 : isDigitB a = true
  y1 : isDigitB b = true
  y2 : isDigitB c = true
  y3 : isDigitB d = true
  m0 : isDigitB e = true
  m1 : isDigitB f = true
  d0 : isDigitB g = true
  d1 : isDigitB h = true

structure TimeDigits (a b c d e f : UInt8) : Prop where
  h0 : isDigitB a = true
  h1 : isDigitB b = true
  m0 : isDigitB c = true
  m1 : isDigitB d = true
  s0 : isDigitB e = true
  s1 : isDigitB f = true

def dtBytesOk (w : List UInt8) : Bool :=
  match w with
  | y0 :: y1 :: y2 :: y3 :: 45 :: m0 :: m1 :: 45 :: d0 :: d1 :: 84 :: h0 :: h1 :: 58 :: i0 :: i1 :: 58 :: s0 :: s1 :: tl =>
    isDigitB y0 && isDigitB y1 && isDigitB y2 && isDigitB y3 && isDigitB m0 && isDigitB m1 && isDigitB d0
      && isDigitB d1 && isDigitB h0 && isDigitB h1 && isDigitB i0 && isDigitB i1 && isDigitB s0 && isDigitB s1
      && (mkDate [y0, y1, y2, y3, 45, m0, m1, 45, d0, d1]).isSome &&
    (match tl with
     | 46 :: f0 :: more =>
       isDigitB f0 && (mkTime [h0, h1, 58, i0, i1, 58, s0, s1] (some (f0 :: more.takeWhile isDigitB))).isSome
         && zoneOk (more.dropWhile isDigitB)
     | z => (mkTime [h0, h1, 58, i0, i1, 58, s0, s1] Option.none).isSome && zoneOk z)
  | _ => false

/-- with a fraction, the text is cut after the fraction's last digit, where the reader's digit loop stops -/
theorem dtBytesOk_elim {w : List UInt8} (hok : dtBytesOk w = true) :
    ∃ y0 y1 y2 y3 m0 m1 d0 d1 h0 h1 i0 i1 s0 s1 tl,
      w = y0 :: y1 :: y2 :: y3 :: 45 :: m0 :: m1 :: 45 :: d0 :: d1 :: 84 :: h0 :: h1 :: 58 :: i0 :: i1 :: 58 :: s0 :: s1 :: tl ∧
      DateDigits y0 y1 y2 y3 m0 m1 d0 d1 ∧ TimeDigits h0 h1 i0 i1 s0 s1 ∧
      (mkDate [y0, y1, y2, y3, 45, m0, m1, 45, d0, d1]).isSome = true ∧
      ((∃ f0 fr z, tl = 46 :: f0 :: (fr ++ z) ∧ (∀ b ∈ f0 :: fr, isDigitB b = true) ∧
          (mkTime [h0, h1, 58, i0, i1, 58, s0, s1] (some (f0 :: fr))).isSome = true ∧ zoneOk z = true) ∨
       ((mkTime [h0, h1, 58, i0, i1, 58, s0, s1] none).isSome = true ∧ zoneOk tl = true)) := by
  unfold dtBytesOk at hok
  split at hok
  · rename_i y0 y1 y2 y3 m0 m1 d0 d1 h0 h1 i0 i1 s0 s1 tl
    simp only [Bool.and_eq_true] at hok
    obtain ⟨⟨⟨⟨⟨⟨⟨⟨⟨⟨⟨⟨⟨⟨⟨hy0, hy1⟩, hy2⟩, hy3⟩, hm0⟩, hm1⟩, hd0⟩, hd1⟩, hh0⟩, hh1⟩, hi0⟩, hi1⟩, hs0⟩, hs1⟩, hmk⟩, htl⟩ := hok
    refine ⟨y0, y1, y2, y3, m0, m1, d0, d1, h0, h1, i0, i1, s0, s1, tl, rfl, ⟨hy0, hy1, hy2, hy3, hm0, hm1, hd0, hd1⟩,
      ⟨hh0, hh1, hi0, hi1, hs0, hs1⟩, hmk, ?_⟩
    split at htl
    · rename_i f0 more
      simp only [Bool.and_eq_true] at htl
      refine Or.inl ⟨f0, more.takeWhile isDigitB, more.dropWhile isDigitB, by rw [List.takeWhile_append_dropWhile],
        fun b hb => ?_, htl.1.2, htl.2⟩
      rcases List.mem_cons.mp hb with rfl | hb
      · exact htl.1.1
      · exact List.all_eq_true.mp List.all_takeWhile b hb
    · simp only [Bool.and_eq_true] at htl
      exact Or.inr htl
  · simp at hok

theorem dtBytesOk_head {w : List UInt8} (h : dtBytesOk w = true) : ∃ y0 r, w = y0 :: r ∧ isDigitB y0 = true := by
  obtain ⟨y0, _, _, _, _, _, _, _, _, _, _, _, _, _, _, rfl, hdg, _⟩ := dtBytesOk_elim h
  exact ⟨y0, _, rfl, hdg.y0⟩

end Hs.Zinc

/-
  print → parse for filter trees (C08): where the scanner stands in printed text between two tokens, what each token
  of a term is read as, and one lemma per term form and per loop step, each taking what an induction over the tree
  gives for the parts as a hypothesis.  The lexer is used only through the lemmas of `Hs.Lemmas.FilterLex`, the end
  of the input (`follow_nil`) and the Ref reader (`follow_ref`, from `parseRef_nodis` of the Zinc lemmas) apart.
-/
import Hs.Lemmas.FilterLex
namespace Hs.FText
open Hs Hs.Scan Hs.Zinc

/-! ### positions and continuations -/

/-- a token may start here after a name or a Ref and a space: not white space; not `?` or `-`, which the identifier
arm would take for the relation mark or an arrow; not `"`, which `parse_ref` would take for a display name -/
def okHead (T : List UInt8) : Prop :=
  ∃ c r, T = c :: r ∧ isWsB c = false ∧ (c == 63) = false ∧ (c == 45) = false ∧ (c == 34) = false

def nonWs (T : List UInt8) : Prop := ∃ c r, T = c :: r ∧ isWsB c = false

theorem okHead.nonWs {T : List UInt8} (h : okHead T) : nonWs T := by
  obtain ⟨c, r, h1, h2, _⟩ := h; exact ⟨c, r, h1, h2⟩

/- Three notions of position carry the proofs.  `Hs.At s v` (scanner lemmas): `s` stands at the text `v`, the peek
stash counted as unread.  `Pos s T` (below): `s` is where a token reader leaves it when the next token starts at `T` —
at `T` itself (`Views`, which is `Hs.At` with an empty stash: the identifier arm has eaten the space), or one space
before `T` with nothing peeked (`Views s (32 :: T)`) or with `T`'s first byte peeked (`Stashed`); the last two
together are `Zinc.Post s (32 :: T)`, what `parse_ref` and the zone reader leave (`pos_of_post`).  `At l tok T`: the
lexer `l` holds `tok` and its scanner is at `Pos … T`.  From here on `At` is this one; the scanner's is written
`Hs.At`. -/

def Pos (s : Scan) (T : List UInt8) : Prop :=
  Views s T ∨ (nonWs T ∧ (Views s (32 :: T) ∨ Stashed s T))

def At (l : FLex) (tok : FTok) (T : List UInt8) : Prop := l.cur = tok ∧ Pos l.sc T

/-- what follows a term in printed text -/
def Cont (rest T : List UInt8) : Prop := (rest = [] ∧ T = []) ∨ (rest = 32 :: T ∧ okHead T)

/-- `Cont` without the restrictions a preceding name imposes -/
def Sp (rest T : List UInt8) : Prop := (rest = [] ∧ T = []) ∨ (rest = 32 :: T ∧ nonWs T)

def Follow (T : List UInt8) (tok : FTok) (T' : List UInt8) : Prop :=
  T'.length ≤ T.length ∧
  ∀ (fuel : Nat) (s : Scan), Views s T → T.length + 5 ≤ fuel → ∃ s', lexRead fuel s = .ok s' tok ∧ Pos s' T'

theorem Cont.sp {rest T : List UInt8} (h : Cont rest T) : Sp rest T := by
  rcases h with h | ⟨h, h'⟩
  · exact Or.inl h
  · exact Or.inr ⟨h, h'.nonWs⟩

theorem Cont.pdelim {rest T : List UInt8} (h : Cont rest T) : PDelim rest := by
  rcases h with ⟨h, _⟩ | ⟨h, c, r, hT, h1, h2, h3, _⟩
  · exact Or.inl h
  · exact Or.inr ⟨c, r, by rw [h, hT], h1, h2, h3⟩

theorem Cont.afterSp {rest T : List UInt8} (h : Cont rest T) : afterSp rest = T := by
  rcases h with ⟨h, h'⟩ | ⟨h, _⟩ <;> subst h <;> simp [FText.afterSp, *]

theorem Sp.len {rest T : List UInt8} (h : Sp rest T) : T.length ≤ rest.length := by
  rcases h with ⟨h, h'⟩ | ⟨h, _⟩ <;> subst h <;> simp [*]

theorem Cont.len {rest T : List UInt8} (h : Cont rest T) : T.length ≤ rest.length := h.sp.len

theorem Sp.pos {rest T : List UInt8} (h : Sp rest T) {s : Scan} (hs : Views s rest) : Pos s T := by
  rcases h with ⟨h, h'⟩ | ⟨h, h'⟩
  · subst h; subst h'; exact Or.inl hs
  · subst h; exact Or.inr ⟨h', Or.inl hs⟩

theorem pos_of_post {s : Scan} {rest T : List UInt8} (hS : Sp rest T) (hp : Post s rest) : Pos s T := by
  obtain ⟨hat, hlen, hclean⟩ := hp
  rcases hS with ⟨rfl, rfl⟩ | ⟨rfl, hT⟩
  · exact Or.inl (Clean.views ⟨hat, hat.2.1⟩)
  · obtain ⟨c, r, rfl, hc⟩ := hT
    cases hst : s.stash with
    | nil => exact Or.inr ⟨⟨c, r, rfl, hc⟩, Or.inl (Clean.views ⟨hat, hst⟩)⟩
    | cons y ys =>
      rw [hst] at hlen
      have hys : ys = [] := by
        cases ys with
        | nil => rfl
        | cons _ _ => simp at hlen
      subst hys
      have hu := hat.2.2
      rw [hst] at hu
      simp only [List.cons_append, List.nil_append, List.cons.injEq] at hu
      obtain ⟨rfl, hi⟩ := hu
      exact Or.inr ⟨⟨y, r, rfl, hc⟩, Or.inr ⟨y, r, rfl, hat.1, hat.2.1, hst, hi⟩⟩

theorem read_pos {T T' : List UInt8} {tok : FTok} (hF : Follow T tok T') (fuel : Nat) (s : Scan)
    (hp : Pos s T) (hf : T.length + 7 ≤ fuel) : ∃ s', lexRead fuel s = .ok s' tok ∧ Pos s' T' := by
  rcases hp with hp | ⟨hT, hp | hp⟩
  · exact hF.2 fuel s hp (by omega)
  · obtain ⟨F, rfl⟩ : ∃ F, fuel = F + 2 := ⟨fuel - 2, by omega⟩
    obtain ⟨c, r, hTe, hc⟩ := hT
    rw [hTe] at hp
    obtain ⟨s0, h1, h2⟩ := lexRead_space F s c r hc hp
    rw [h1]
    rw [← hTe] at h2
    exact hF.2 (F + 1) s0 h2 (by omega)
  · obtain ⟨F, rfl⟩ : ∃ F, fuel = F + 2 := ⟨fuel - 2, by omega⟩
    obtain ⟨c, r, rfl, hc⟩ := hT
    obtain ⟨s0, h1, h2⟩ := lexRead_stashed F s c r hc hp
    rw [h1]
    exact hF.2 (F + 1) s0 h2 (by omega)

theorem At.eof_false {l : FLex} {tok : FTok} {X : List UInt8} (h : At l tok X) (hX : okHead X) :
    l.sc.eof = false := by
  obtain ⟨c, r, hc, _⟩ := hX
  rcases h.2 with h | ⟨_, h | h⟩
  · rw [hc] at h; exact Views.cons_eof h
  · exact Views.cons_eof h
  · obtain ⟨_, _, _, he, _⟩ := h; exact he

/-- `T` does not start with an upper-case letter (what follows a literal is `and`, `or`, `)`) -/
def NoUp (T : List UInt8) : Prop := ∀ c r, T = c :: r → isUpperB c = false

/-- `Cont` for the whole fragment of the property: what the zone reader of a DateTime literal needs besides.  The
names ending in `2` (`OkLit2`, `OkT2`, `AllA2`, `AllO2`, `imgT2` …, `WF2`, `termR_ok2` …, `costT_le2` …) speak of that
fragment, every literal kind the syntax admits; the same names without it of the fragment without Number, Date, Time
and DateTime literals and with ASCII text only, which is a part of it (`Hs.Lemmas.FilterRtParse`). -/
def Cont2 (rest T : List UInt8) : Prop := Cont rest T ∧ NoUp T

/-- what `Cont2` adds to `Cont` holds wherever a token follows -/
theorem Follow.noUp {T T' : List UInt8} {tok : FTok} (h : Follow T tok T') : NoUp T := by
  intro c r e
  cases hu : isUpperB c with
  | false => rfl
  | true =>
    subst e
    have hv := views_make (c :: r)
    obtain ⟨s', h1, _⟩ := h.2 ((c :: r).length + 5) _ hv (Nat.le_refl _)
    rw [lexRead_upper _ _ (Views.cons_eof hv) (by rw [Views.cons_cur hv]; exact hu)] at h1
    cases h1

/-- reading at a position in a text of at most `N - 8` bytes with fuel at least `N`; the bound holds at the
next position too, so a chain of reads needs no further arithmetic.  Of the 8, `Follow` asks for 5 (the path reader:
one unit each for `Lexer::read` and its identifier arm, three for `parse_path`), skipping the space in front takes 2
more (`read_pos`), and one is to spare. -/
theorem read_at {T T' : List UInt8} {tok : FTok} (hF : Follow T tok T') {N fuel : Nat} {s : Scan}
    (hp : Pos s T) (hN : T.length + 8 ≤ N) (hf : N ≤ fuel) :
    ∃ s', lexRead fuel s = .ok s' tok ∧ Pos s' T' ∧ T'.length + 8 ≤ N := by
  obtain ⟨s', h1, h2⟩ := read_pos hF fuel s hp (by omega)
  exact ⟨s', h1, h2, by have := hF.1; omega⟩

/-! ### the tokens of printed text -/

theorem follow_nil : Follow [] .none [] := by
  refine ⟨Nat.le_refl _, ?_⟩
  intro fuel s hs hf
  obtain ⟨F, rfl⟩ : ∃ F, fuel = F + 1 := ⟨fuel - 1, by omega⟩
  exact ⟨s, by unfold lexRead; simp [Views.nil_eof hs], Or.inl hs⟩

theorem follow_of_read {X rest T : List UInt8} {tok : FTok} (hS : Sp rest T)
    (h : ∀ (F : Nat) (s : Scan), Views s (X ++ rest) → X.length + 4 ≤ F →
      ∃ s', lexRead (F + 1) s = .ok s' tok ∧ Views s' rest) : Follow (X ++ rest) tok T := by
  refine ⟨by have := hS.len; simp; omega, ?_⟩
  intro fuel s hv hf
  obtain ⟨F, rfl⟩ : ∃ F, fuel = F + 1 := ⟨fuel - 1, by omega⟩
  obtain ⟨s', h1, h2⟩ := h F s hv (by simp at hf; omega)
  exact ⟨s', h1, hS.pos h2⟩

theorem follow_rparen {rest T : List UInt8} (h : Cont rest T) : Follow (41 :: rest) .rparen T :=
  follow_of_read (X := [41]) h.sp fun F s hv _ => ⟨s.advance, lexRead_rparen F s rest hv⟩

theorem follow_lparen (X : List UInt8) (hX : nonWs X) : Follow (40 :: 32 :: X) .lparen X :=
  follow_of_read (X := [40]) (Or.inr ⟨rfl, hX⟩) fun F s hv _ => ⟨s.advance, lexRead_lparen F s _ hv⟩

def WFPath (p : Path) : Prop := p ≠ [] ∧ ∀ seg ∈ p, IdSeg seg

theorem follow_path {p : Path} (hp : WFPath p) {rest T : List UInt8} (hC : Cont rest T) :
    Follow (pathBytes p ++ rest) (.path p) T := by
  refine ⟨by have := hC.len; simp; omega, ?_⟩
  intro fuel s hs hf
  obtain ⟨s', h1, h2⟩ := lexRead_path p hp.1 hp.2 rest hC.pdelim fuel s hs (by simp at hf; omega)
  rw [hC.afterSp] at h2
  exact ⟨s', h1, Or.inl h2⟩

theorem follow_kw (kw : List Char) (hkw : IdSeg kw) (X : List UInt8) (hX : okHead X) :
    Follow (segBytes kw ++ 32 :: X) (.path [kw]) X := by
  have hC : Cont (32 :: X) X := Or.inr ⟨rfl, hX⟩
  have := follow_path (p := [kw]) ⟨by simp, by simpa using hkw⟩ hC
  simpa [pathBytes] using this

theorem follow_sym {sym : List Char} (hs : SymSeg sym) {rest T : List UInt8} (h : Sp rest T) :
    Follow (94 :: (segBytes sym ++ rest)) (.val (.sym sym)) T :=
  have hno : Stop refByte rest := by
    rcases h with ⟨rfl, _⟩ | ⟨rfl, _⟩
    · exact Stop_nil _
    · exact Stop_cons (by decide)
  follow_of_read (X := 94 :: segBytes sym) h fun F s hv hf =>
    lexRead_sym sym hs rest hno F s hv (by simp at hf; omega)

/-- after a space `parse_ref` has peeked one byte -/
theorem follow_ref {id : List Char} (hid : RefSeg id) {rest T : List UInt8} (h : Cont rest T) :
    Follow (64 :: (segBytes id ++ rest)) (.val (.ref id none)) T := by
  refine ⟨by have := h.len; simp; omega, ?_⟩
  intro fuel s hv hf
  obtain ⟨F, rfl⟩ : ∃ F, fuel = F + 1 := ⟨fuel - 1, by omega⟩
  have hend : RefEnd rest := by
    rcases h with ⟨rfl, _⟩ | ⟨rfl, c, r, rfl, _, _, _, h4⟩
    · exact Or.inl rfl
    · exact Or.inr (Or.inr ⟨c, r, rfl, by simpa using h4⟩)
  obtain ⟨hat, hst⟩ := hv.clean
  obtain ⟨s', e, hp⟩ := parseRef_nodis id hid.allB hid.ne s rest F (by simpa [hid.enc] using hat) hst hend
    (by simp [segBytes] at hf; omega)
  exact ⟨s', by rw [lexRead_at F s hat.eof hat.cur, e], pos_of_post h.sp hp⟩

theorem follow_op (op : CmpOp) (X : List UInt8) (hX : nonWs X) : Follow (printOp op ++ 32 :: X) (opTok op) X :=
  follow_of_read (Or.inr ⟨rfl, hX⟩) fun F s hv _ => lexRead_op op X F s hv

theorem follow_weq (X : List UInt8) (hX : nonWs X) : Follow (42 :: 61 :: 61 :: 32 :: X) .weq X :=
  follow_of_read (X := [42, 61, 61]) (Or.inr ⟨rfl, hX⟩) fun F s hv _ => lexRead_weq X F s hv

theorem follow_rel {name : List Char} (hn : IdSeg name) {rest T : List UInt8} (h : Sp rest T) :
    Follow (segBytes name ++ 63 :: rest) (.rel name) T := by
  have := follow_of_read (X := segBytes name ++ [63]) h fun F s hv hf =>
    lexRead_rel name hn rest (F + 1) s (by simpa using hv) (by simp at hf; omega)
  simpa using this

theorem okHead_lower {b : UInt8} {r : List UInt8} (h : isLowerB b = true) : okHead (b :: r) := by
  have hid := idByte_not_ws (lower_facts h).2
  exact ⟨b, r, rfl, hid.1, hid.2.2.1, hid.2.1, hid.2.2.2⟩

theorem okHead_append {X Y : List UInt8} (h : okHead X) : okHead (X ++ Y) := by
  obtain ⟨c, r, hX, h1⟩ := h
  exact ⟨c, r ++ Y, by simp [hX], h1⟩

theorem nonWs_append {X Y : List UInt8} (h : nonWs X) : nonWs (X ++ Y) := by
  obtain ⟨c, r, hX, h1⟩ := h
  exact ⟨c, r ++ Y, by simp [hX], h1⟩

theorem kwNot_seg : IdSeg ['n', 'o', 't'] := by decide +kernel
theorem kwAnd_seg : IdSeg ['a', 'n', 'd'] := by decide +kernel
theorem kwOr_seg : IdSeg ['o', 'r'] := by decide +kernel
theorem kwTrue_seg : IdSeg ['t', 'r', 'u', 'e'] := by decide +kernel
theorem kwFalse_seg : IdSeg ['f', 'a', 'l', 's', 'e'] := by decide +kernel

theorem path_head {p : Path} (h : WFPath p) : okHead (pathBytes p) := by
  obtain ⟨b, r, hb, hl⟩ := pathBytes_head p h.1 h.2
  rw [hb]; exact okHead_lower hl

theorem seg_head {seg : List Char} (h : IdSeg seg) : okHead (segBytes seg) := by
  obtain ⟨b, r, hb, hl⟩ := segBytes_head h
  rw [hb]; exact okHead_lower hl

theorem okHead_byte (c : UInt8) (r : List UInt8) (h : (!isWsB c && !(c == 63) && !(c == 45) && !(c == 34)) = true) :
    okHead (c :: r) := by
  simp only [Bool.and_eq_true, Bool.not_eq_true'] at h
  exact ⟨c, r, rfl, h.1.1.1, h.1.1.2, h.1.2, h.2⟩

theorem ands_head (t : Term) (ts : Ands) (h : okHead (printTerm t)) : okHead (printAnds (.cons t ts)) := by
  cases ts with
  | nil => simpa [printAnds] using h
  | cons u us => simp only [printAnds]; rw [List.append_assoc]; exact okHead_append h

theorem ors_head (a : Ands) (as : Ors) (h : okHead (printAnds a)) : okHead (printOrs (.cons a as)) := by
  cases as with
  | nil => simpa [printOrs] using h
  | cons u us => simp only [printOrs]; rw [List.append_assoc]; exact okHead_append h

theorem okHead_op (op : CmpOp) (X : List UInt8) : okHead (printOp op ++ X) := by
  cases op <;> simp only [printOp, List.cons_append, List.nil_append] <;> exact okHead_byte _ _ (by decide)

theorem sepAnd_eq : sepAnd = 32 :: (segBytes ['a', 'n', 'd'] ++ [32]) := by decide +kernel
theorem sepOr_eq : sepOr = 32 :: (segBytes ['o', 'r'] ++ [32]) := by decide +kernel
theorem notSp_eq : bytesOfAscii "not " = segBytes ['n', 'o', 't'] ++ [32] := by decide +kernel
theorem weqSp_eq : bytesOfAscii " *== " = [32, 42, 61, 61, 32] := by decide +kernel
theorem true_eq : bytesOfAscii "true" = segBytes ['t', 'r', 'u', 'e'] := by decide +kernel
theorem false_eq : bytesOfAscii "false" = segBytes ['f', 'a', 'l', 's', 'e'] := by decide +kernel

theorem sep_kw (kw : List Char) (hkw : IdSeg kw) (X : List UInt8) (hX : okHead X) :
    Cont (32 :: (segBytes kw ++ [32]) ++ X) (segBytes kw ++ 32 :: X) ∧
    Follow (segBytes kw ++ 32 :: X) (.path [kw]) X :=
  ⟨Or.inr ⟨by simp, okHead_append (seg_head hkw)⟩, follow_kw kw hkw X hX⟩

theorem sep_and (X : List UInt8) (hX : okHead X) :
    Cont (sepAnd ++ X) (segBytes ['a', 'n', 'd'] ++ 32 :: X) ∧
    Follow (segBytes ['a', 'n', 'd'] ++ 32 :: X) (.path kwAnd) X :=
  sepAnd_eq ▸ sep_kw _ kwAnd_seg X hX

theorem sep_or (X : List UInt8) (hX : okHead X) :
    Cont (sepOr ++ X) (segBytes ['o', 'r'] ++ 32 :: X) ∧
    Follow (segBytes ['o', 'r'] ++ 32 :: X) (.path kwOr) X :=
  sepOr_eq ▸ sep_kw _ kwOr_seg X hX

/-! ### what the parser makes of a token -/

def isCont : FTok → Bool
  | .none => true
  | .path _ => true
  | .rparen => true
  | _ => false

def notKw (tok : FTok) (kw : Path) : Prop := tok.isPath kw = false

theorem cont_has (tok : FTok) (h : isCont tok = true) (F : Nat) (l : FLex) (p : Path) :
    (if tok.isNone then Res.ok (Term.has p, l) else parseCmpOrWeq F l tok p) = .ok (.has p, l) := by
  cases tok <;> simp [isCont, FTok.isNone, parseCmpOrWeq, FTok.cmpOp] at *

theorem readTry_ok {F : Nat} {l : FLex} {s' : Scan} {tok : FTok} (h : lexRead F l.sc = .ok s' tok) :
    l.readTry F = .ok (true, { sc := s', cur := tok }) := by simp [FLex.readTry, h]
theorem readOk_ok {F : Nat} {l : FLex} {s' : Scan} {tok : FTok} (h : lexRead F l.sc = .ok s' tok) :
    l.readOk F = .ok { sc := s', cur := tok } := by simp [FLex.readOk, FLex.readTry, h]
theorem read_ok {F : Nat} {l : FLex} {s' : Scan} {tok : FTok} (h : lexRead F l.sc = .ok s' tok) :
    l.read F = .ok { sc := s', cur := tok } := by simp [FLex.read, h]

theorem cmpOp_opTok (op : CmpOp) : (opTok op).cmpOp = some op := by cases op <;> rfl
theorem opTok_notNone (op : CmpOp) : (opTok op).isNone = false := by cases op <;> rfl

/-- `parse_rel` stops at a token that may follow a term -/
theorem isCont_not_val {tok : FTok} (h : isCont tok = true) : ∀ v, tok ≠ .val v := by
  intro v e; subst e; simp [isCont] at h

/-! ### nesting depth and parser calls of a tree: what the depth counter and the fuel have to pay -/

mutual
def nestT : Term → Nat
  | .parens o => nestO o + 1
  | _ => 0
def nestA : Ands → Nat
  | .nil => 0
  | .cons t ts => max (nestT t) (nestA ts)
def nestO : Ors → Nat
  | .nil => 0
  | .cons a as => max (nestA a) (nestO as)
end

mutual
/-- parser calls on the way through a tree (what the fuel has to pay besides the lexer's share) -/
def costT : Term → Nat
  | .parens o => costO o + 2
  | _ => 1
def costA : Ands → Nat
  | .nil => 1
  | .cons t ts => costT t + costA ts + 1
def costO : Ors → Nat
  | .nil => 1
  | .cons a as => costA a + costO as + 1
end

/-- a term that is not a group costs one call of `parse_term` -/
theorem leaf_fuel {N fuelP : Nat} (h : 1 + N ≤ fuelP) : ∃ F, fuelP = F + 1 ∧ N ≤ F :=
  ⟨fuelP - 1, by omega, by omega⟩

/-- a list step costs one call; what is left pays for the head and for the tail -/
theorem step_fuel {a b N fuelP : Nat} (h : a + b + 1 + N ≤ fuelP) : ∃ F, fuelP = F + 1 ∧ a + N ≤ F ∧ b + N ≤ F :=
  ⟨fuelP - 1, by omega⟩

/-- a group costs two calls -/
theorem group_fuel {c N fuelP : Nat} (h : c + 2 + N ≤ fuelP) : ∃ F, fuelP = F + 2 ∧ c + N ≤ F ∧ N ≤ F :=
  ⟨fuelP - 2, by omega⟩

theorem depth_max {d a b : Nat} (h : d + max a b ≤ 64) : d + a ≤ 64 ∧ d + b ≤ 64 := by omega

theorem len_later {A B C : List UInt8} {N : Nat} (hlen : A.length ≤ C.length) (hN : (B ++ C).length + 8 ≤ N) :
    A.length + 8 ≤ N := by
  rw [List.length_append] at hN; omega

/-! ### one term at a time

`TermR`, `AndsR`, `OrsR` name the three statements that are proved together, `AndTail` and `OrTail` those about the
loops, which follow; `After` is the context they share. -/

structure After (rest T : List UInt8) (tok' : FTok) (T' : List UInt8) : Prop where
  cont : Cont rest T
  follow : Follow T tok' T'
  tok : isCont tok' = true

theorem After.cont2 {rest T T' : List UInt8} {tok' : FTok} (h : After rest T tok' T') : Cont2 rest T :=
  ⟨h.cont, h.follow.noUp⟩

theorem After.len {rest T T' : List UInt8} {tok' : FTok} (h : After rest T tok' T') : T.length ≤ rest.length :=
  h.cont.len

/-- `x`, printed by `pr` in front of `rest`, is read and parsed by `parse` as `img`; the lexer ends on the token
after it -/
def ParsesAs {α : Type} (pr : α → List UInt8) (nest cost : α → Nat) (parse : Nat → Nat → FLex → Res (α × FLex))
    (x img : α) (rest T' : List UInt8) (tok' : FTok) : Prop :=
  ∀ (d fuelL fuelP N : Nat) (s : Scan), Pos s (pr x ++ rest) → d + nest x ≤ 64 →
    (pr x ++ rest).length + 8 ≤ N → N ≤ fuelL → cost x + N ≤ fuelP →
    ∃ s1 tok1 l', lexRead fuelL s = .ok s1 tok1 ∧ parse fuelP d { sc := s1, cur := tok1 } = .ok (img, l')
      ∧ At l' tok' T'

def TermR : Term → Term → List UInt8 → List UInt8 → FTok → Prop := ParsesAs printTerm nestT costT parseTerm

def OrsR : Ors → Ors → List UInt8 → List UInt8 → FTok → Prop := ParsesAs printOrs nestO costO parseOr

def AndsR : Ands → Ands → List UInt8 → List UInt8 → FTok → Prop := ParsesAs printAnds nestA costA parseAnd

/-- `and_loop` on the operands `ts` that remain after the first: the lexer stands on `and` if there is one -/
def AndTail (ts img : Ands) (rest T' : List UInt8) (tok' : FTok) : Prop :=
  ∀ (d fuelP N : Nat) (l : FLex),
    (match ts with
     | .nil => At l tok' T'
     | .cons _ _ => At l (.path kwAnd) (printAnds ts ++ rest)) →
    d + nestA ts ≤ 64 → (printAnds ts ++ rest).length + 8 ≤ N → costA ts + N ≤ fuelP →
    ∃ l', andLoop fuelP d l = .ok (img, l') ∧ At l' tok' T'

def OrTail (as img : Ors) (rest T' : List UInt8) (tok' : FTok) : Prop :=
  ∀ (d fuelP N : Nat) (l : FLex),
    (match as with
     | .nil => At l tok' T'
     | .cons _ _ => At l (.path kwOr) (printOrs as ++ rest)) →
    d + nestO as ≤ 64 → (printOrs as ++ rest).length + 8 ≤ N → costO as + N ≤ fuelP →
    ∃ l', orLoop fuelP d l = .ok (img, l') ∧ At l' tok' T'

theorem has_ok {p : Path} (hw : WFPath p) (hnk : p ≠ kwNot) {rest T T' : List UInt8} {tok' : FTok}
    (hA : After rest T tok' T') : TermR (.has p) (.has p) rest T' tok' := by
  intro d fuelL fuelP N s hp _ hN hL hP
  have hnn : (p == kwNot) = false := by simpa using hnk
  simp only [printTerm, printPath_eq p hw.2] at hp hN
  obtain ⟨F, rfl, hNF⟩ := leaf_fuel hP
  obtain ⟨s1, h1, hp1, hN1⟩ := read_at (follow_path hw hA.cont) hp hN hL
  obtain ⟨s2, h2, hp2, _⟩ := read_at hA.follow hp1 hN1 hNF
  refine ⟨s1, .path p, { sc := s2, cur := tok' }, h1, ?_, rfl, hp2⟩
  unfold parseTerm
  simp only [hnn, Bool.false_eq_true, if_false]
  rw [readTry_ok (l := { sc := s1, cur := .path p }) h2]
  exact cont_has tok' hA.tok F _ p

theorem missing_ok {p : Path} (hw : WFPath p) {rest T T' : List UInt8} {tok' : FTok}
    (hA : After rest T tok' T') : TermR (.missing p) (.missing p) rest T' tok' := by
  intro d fuelL fuelP N s hp _ hN hL hP
  have htxt : printTerm (.missing p) ++ rest = segBytes ['n', 'o', 't'] ++ 32 :: (pathBytes p ++ rest) := by
    simp [printTerm, printPath_eq p hw.2, notSp_eq]
  rw [htxt] at hp hN
  obtain ⟨F, rfl, hNF⟩ := leaf_fuel hP
  have hX : okHead (pathBytes p ++ rest) := okHead_append (path_head hw)
  obtain ⟨s1, h1, hp1, hN1⟩ := read_at (follow_kw _ kwNot_seg _ hX) hp hN hL
  obtain ⟨s2, h2, hp2, hN2⟩ := read_at (follow_path hw hA.cont) hp1 hN1 hNF
  obtain ⟨s3, h3, hp3, _⟩ := read_at hA.follow hp2 hN2 hNF
  refine ⟨s1, .path kwNot, { sc := s3, cur := tok' }, h1, ?_, rfl, hp3⟩
  unfold parseTerm
  have : (kwNot == kwNot) = true := by decide
  simp only [this, if_true]
  unfold parseNot
  rw [read_ok (l := { sc := s1, cur := .path kwNot }) h2]
  simp only
  rw [readOk_ok (l := { sc := s2, cur := .path p }) h3]

theorem isA_ok {sym : List Char} (hs : SymSeg sym) {rest T T' : List UInt8} {tok' : FTok}
    (hA : After rest T tok' T') : TermR (.isA sym) (.isA sym) rest T' tok' := by
  intro d fuelL fuelP N s hp _ hN hL hP
  have htxt : printTerm (.isA sym) ++ rest = 94 :: (segBytes sym ++ rest) := by simp [printTerm, hs.1.enc]
  rw [htxt] at hp hN
  obtain ⟨F, rfl, hNF⟩ := leaf_fuel hP
  obtain ⟨s1, h1, hp1, hN1⟩ := read_at (follow_sym hs hA.cont.sp) hp hN hL
  obtain ⟨s2, h2, hp2, _⟩ := read_at hA.follow hp1 hN1 hNF
  refine ⟨s1, _, { sc := s2, cur := tok' }, h1, ?_, rfl, hp2⟩
  unfold parseTerm
  simp only
  rw [readOk_ok (l := { sc := s1, cur := .val (.sym sym) }) h2]

theorem weq_ok {p : Path} {r : RefV} (hw : WFPath p) (hnk : p ≠ kwNot) (hid : RefSeg r.id)
    {rest T T' : List UInt8} {tok' : FTok} (hA : After rest T tok' T') :
    TermR (.weq p r) (.weq p { id := r.id, dis := none }) rest T' tok' := by
  intro d fuelL fuelP N s hp _ hN hL hP
  have hnn : (p == kwNot) = false := by simpa using hnk
  have htxt : printTerm (.weq p r) ++ rest =
      pathBytes p ++ 32 :: (42 :: 61 :: 61 :: 32 :: (64 :: (segBytes r.id ++ rest))) := by
    simp [printTerm, printPath_eq p hw.2, weqSp_eq, printRef, hid.enc]
  rw [htxt] at hp hN
  obtain ⟨F, rfl, hNF⟩ := leaf_fuel hP
  have hC1 : Cont (32 :: (42 :: 61 :: 61 :: 32 :: (64 :: (segBytes r.id ++ rest))))
      (42 :: 61 :: 61 :: 32 :: (64 :: (segBytes r.id ++ rest))) := Or.inr ⟨rfl, okHead_byte 42 _ (by decide)⟩
  obtain ⟨s1, h1, hp1, hN1⟩ := read_at (follow_path hw hC1) hp hN hL
  obtain ⟨s2, h2, hp2, hN2⟩ := read_at (follow_weq (64 :: (segBytes r.id ++ rest)) ⟨64, _, rfl, by decide⟩) hp1 hN1 hNF
  obtain ⟨s3, h3, hp3, hN3⟩ := read_at (follow_ref hid hA.cont) hp2 hN2 hNF
  obtain ⟨s4, h4, hp4, _⟩ := read_at hA.follow hp3 hN3 hNF
  refine ⟨s1, .path p, { sc := s4, cur := tok' }, h1, ?_, rfl, hp4⟩
  unfold parseTerm
  simp only [hnn, Bool.false_eq_true, if_false]
  rw [readTry_ok (l := { sc := s1, cur := .path p }) h2]
  simp only [FTok.isNone, Bool.false_eq_true, if_false]
  unfold parseCmpOrWeq
  simp only [FTok.cmpOp]
  unfold parseWeq
  rw [read_ok (l := { sc := s2, cur := .weq }) h3]
  simp only
  rw [readOk_ok (l := { sc := s3, cur := .val (.ref r.id none) }) h4]

/-- a comparison, for any literal `v` that is read in front of `rest` as the token `tokv`, from which `parse_cmp`
makes the operand `v'` -/
theorem cmp_ok {p : Path} (op : CmpOp) {v v' : Val} {tokv : FTok} (hw : WFPath p) (hnk : p ≠ kwNot)
    {rest T T' : List UInt8} {tok' : FTok} (hA : After rest T tok' T') (hhead : nonWs (printVal v))
    (hlit : Follow (printVal v ++ rest) tokv T)
    (hcmp : ∀ (F : Nat) (l : FLex) (s' : Scan), lexRead F l.sc = .ok s' tokv →
      parseCmp F l p op = .ok (.cmp p op v', { sc := s', cur := tokv })) :
    TermR (.cmp p op v) (.cmp p op v') rest T' tok' := by
  intro d fuelL fuelP N s hp _ hN hL hP
  have hnn : (p == kwNot) = false := by simpa using hnk
  have htxt : printTerm (.cmp p op v) ++ rest =
      pathBytes p ++ 32 :: (printOp op ++ 32 :: (printVal v ++ rest)) := by
    simp [printTerm, printPath_eq p hw.2]
  rw [htxt] at hp hN
  obtain ⟨F, rfl, hNF⟩ := leaf_fuel hP
  have hC1 : Cont (32 :: (printOp op ++ 32 :: (printVal v ++ rest))) (printOp op ++ 32 :: (printVal v ++ rest)) :=
    Or.inr ⟨rfl, okHead_op op _⟩
  obtain ⟨s1, h1, hp1, hN1⟩ := read_at (follow_path hw hC1) hp hN hL
  obtain ⟨s2, h2, hp2, hN2⟩ := read_at (follow_op op (printVal v ++ rest) (nonWs_append hhead)) hp1 hN1 hNF
  obtain ⟨s3, h3, hp3, hN3⟩ := read_at hlit hp2 hN2 hNF
  obtain ⟨s4, h4, hp4, _⟩ := read_at hA.follow hp3 hN3 hNF
  refine ⟨s1, .path p, { sc := s4, cur := tok' }, h1, ?_, rfl, hp4⟩
  unfold parseTerm
  simp only [hnn, Bool.false_eq_true, if_false]
  rw [readTry_ok (l := { sc := s1, cur := .path p }) h2]
  simp only [opTok_notNone, Bool.false_eq_true, if_false]
  unfold parseCmpOrWeq
  simp only [cmpOp_opTok]
  rw [hcmp F { sc := s2, cur := opTok op } s3 h3]
  simp only
  rw [readOk_ok (l := { sc := s3, cur := tokv }) h4]

theorem rel_ok {r : List Char} {t : Option (List Char)} {ref : Option RefV} (hr : IdSeg r)
    (ht : ∀ x, t = some x → SymSeg x) (hrf : ∀ rv, ref = some rv → RefSeg rv.id)
    {rest T T' : List UInt8} {tok' : FTok} (hA : After rest T tok' T') :
    TermR (.rel r t ref) (.rel r t (ref.map fun rv => { id := rv.id, dis := none })) rest T' tok' := by
  intro d fuelL fuelP N s hp _ hN hL hP
  obtain ⟨F, rfl, hNF⟩ := leaf_fuel hP
  have hnv := isCont_not_val hA.tok
  -- four cases, by which of the Symbol and the Ref are printed; where no Ref is, `parse_rel` has read the token after
  -- the term to see whether an operand follows, and `hnv` says it is none
  cases t with
  | none =>
    cases ref with
    | none =>
      have htxt : printTerm (.rel r none none) ++ rest = segBytes r ++ 63 :: rest := by simp [printTerm, hr.enc]
      rw [htxt] at hp hN
      obtain ⟨s1, h1, hp1, hN1⟩ := read_at (follow_rel hr hA.cont.sp) hp hN hL
      obtain ⟨s2, h2, hp2, _⟩ := read_at hA.follow hp1 hN1 hNF
      refine ⟨s1, .rel r, { sc := s2, cur := tok' }, h1, ?_, rfl, hp2⟩
      unfold parseTerm
      simp only
      unfold parseRel
      rw [read_ok (l := { sc := s1, cur := .rel r }) h2]
      cases tok' with
      | val v => exact absurd rfl (hnv v)
      | _ => rfl
    | some rv =>
      have hid : RefSeg rv.id := hrf rv rfl
      have htxt : printTerm (.rel r none (some rv)) ++ rest = segBytes r ++ 63 :: (32 :: (64 :: (segBytes rv.id ++ rest))) := by
        simp [printTerm, hr.enc, printRef, hid.enc]
      rw [htxt] at hp hN
      have hS : Sp (32 :: (64 :: (segBytes rv.id ++ rest))) (64 :: (segBytes rv.id ++ rest)) :=
        Or.inr ⟨rfl, 64, _, rfl, by decide⟩
      obtain ⟨s1, h1, hp1, hN1⟩ := read_at (follow_rel hr hS) hp hN hL
      obtain ⟨s2, h2, hp2, hN2⟩ := read_at (follow_ref hid hA.cont) hp1 hN1 hNF
      obtain ⟨s3, h3, hp3, _⟩ := read_at hA.follow hp2 hN2 hNF
      refine ⟨s1, .rel r, { sc := s3, cur := tok' }, h1, ?_, rfl, hp3⟩
      unfold parseTerm
      simp only
      unfold parseRel
      rw [read_ok (l := { sc := s1, cur := .rel r }) h2]
      simp only
      rw [readOk_ok (l := { sc := s2, cur := .val (.ref rv.id none) }) h3]
      rfl
  | some x =>
    have hx : SymSeg x := ht x rfl
    cases ref with
    | none =>
      have htxt : printTerm (.rel r (some x) none) ++ rest = segBytes r ++ 63 :: (32 :: (94 :: (segBytes x ++ rest))) := by
        simp [printTerm, hr.enc, hx.1.enc]
      rw [htxt] at hp hN
      have hS : Sp (32 :: (94 :: (segBytes x ++ rest))) (94 :: (segBytes x ++ rest)) :=
        Or.inr ⟨rfl, 94, _, rfl, by decide⟩
      obtain ⟨s1, h1, hp1, hN1⟩ := read_at (follow_rel hr hS) hp hN hL
      obtain ⟨s2, h2, hp2, hN2⟩ := read_at (follow_sym hx hA.cont.sp) hp1 hN1 hNF
      obtain ⟨s3, h3, hp3, _⟩ := read_at hA.follow hp2 hN2 hNF
      refine ⟨s1, .rel r, { sc := s3, cur := tok' }, h1, ?_, rfl, hp3⟩
      unfold parseTerm
      simp only
      unfold parseRel
      rw [read_ok (l := { sc := s1, cur := .rel r }) h2]
      simp only
      rw [read_ok (l := { sc := s2, cur := .val (.sym x) }) h3]
      cases tok' with
      | val v => exact absurd rfl (hnv v)
      | _ => rfl
    | some rv =>
      have hid : RefSeg rv.id := hrf rv rfl
      have htxt : printTerm (.rel r (some x) (some rv)) ++ rest =
          segBytes r ++ 63 :: (32 :: (94 :: (segBytes x ++ (32 :: (64 :: (segBytes rv.id ++ rest)))))) := by
        simp [printTerm, hr.enc, hx.1.enc, printRef, hid.enc]
      rw [htxt] at hp hN
      have hS : Sp (32 :: (94 :: (segBytes x ++ (32 :: (64 :: (segBytes rv.id ++ rest))))))
          (94 :: (segBytes x ++ (32 :: (64 :: (segBytes rv.id ++ rest))))) := Or.inr ⟨rfl, 94, _, rfl, by decide⟩
      have hS2 : Sp (32 :: (64 :: (segBytes rv.id ++ rest))) (64 :: (segBytes rv.id ++ rest)) :=
        Or.inr ⟨rfl, 64, _, rfl, by decide⟩
      obtain ⟨s1, h1, hp1, hN1⟩ := read_at (follow_rel hr hS) hp hN hL
      obtain ⟨s2, h2, hp2, hN2⟩ := read_at (follow_sym hx hS2) hp1 hN1 hNF
      obtain ⟨s3, h3, hp3, hN3⟩ := read_at (follow_ref hid hA.cont) hp2 hN2 hNF
      obtain ⟨s4, h4, hp4, _⟩ := read_at hA.follow hp3 hN3 hNF
      refine ⟨s1, .rel r, { sc := s4, cur := tok' }, h1, ?_, rfl, hp4⟩
      unfold parseTerm
      simp only
      unfold parseRel
      rw [read_ok (l := { sc := s1, cur := .rel r }) h2]
      simp only
      rw [read_ok (l := { sc := s2, cur := .val (.sym x) }) h3]
      simp only
      rw [readOk_ok (l := { sc := s3, cur := .val (.ref rv.id none) }) h4]
      rfl

theorem parens_ok {o io : Ors} (hhead : okHead (printOrs o)) {rest T T' : List UInt8} {tok' : FTok}
    (hA : After rest T tok' T') (ih : OrsR o io (32 :: 41 :: rest) T .rparen) :
    TermR (.parens o) (.parens io) rest T' tok' := by
  intro d fuelL fuelP N s hp hd hN hL hP
  have htxt : printTerm (.parens o) ++ rest = 40 :: 32 :: (printOrs o ++ (32 :: 41 :: rest)) := by
    simp [printTerm]
  rw [htxt] at hp hN
  simp only [costT] at hP
  obtain ⟨F, rfl, hPo, hNF⟩ := group_fuel hP
  have hd' : d + 1 + nestO o ≤ 64 ∧ ¬ (maxNestingDepth ≤ d) := by
    simp only [nestT, maxNestingDepth] at hd ⊢; omega
  obtain ⟨s1, h1, hp1, hN1⟩ := read_at (follow_lparen _ (okHead_append hhead).nonWs) hp hN hL
  obtain ⟨s2, tok2, l2, h2, h3, hcur, hp2⟩ := ih (d + 1) F F N s1 hp1 hd'.1 hN1 hNF hPo
  have hT : T.length + 8 ≤ N := len_later (Nat.le_trans hA.len (Nat.le_add_right _ 2)) hN1
  obtain ⟨s3, h4, hp3, _⟩ := read_at hA.follow hp2 hT hNF
  refine ⟨s1, .lparen, { sc := s3, cur := tok' }, h1, ?_, rfl, hp3⟩
  have hdd := hd'.2
  unfold parseTerm
  simp only
  unfold parseParens
  simp only [ge_iff_le, hdd, if_false]
  rw [read_ok (l := { sc := s1, cur := .lparen }) h2]
  simp only [h3, hcur, FTok.isRParen, Bool.not_true, Bool.false_eq_true, if_false]
  rw [readOk_ok h4]

/-! ### the loops -/
/-- `parse_and`: the first term (followed by `rest2`: the end of the list, or ` and ` and the other operands),
then `and_loop` on the others, entered where the term's parse ends (`ihA`: `AndTail ts its rest T' tok'` at a
list `ts` whose shape is known) -/
theorem ands_step {t it : Term} {ts its : Ands} {rest rest2 T' T2' : List UInt8} {tok' tok2' : FTok}
    (htxt : printAnds (.cons t ts) ++ rest = printTerm t ++ rest2)
    (hlen : (printAnds ts ++ rest).length ≤ rest2.length) (ihT : TermR t it rest2 T2' tok2')
    (ihA : ∀ (d fuelP N : Nat) (l : FLex), At l tok2' T2' → d + nestA ts ≤ 64 →
      (printAnds ts ++ rest).length + 8 ≤ N → costA ts + N ≤ fuelP →
      ∃ l', andLoop fuelP d l = .ok (its, l') ∧ At l' tok' T') : AndsR (.cons t ts) (.cons it its) rest T' tok' := by
  intro d fuelL fuelP N s hp hd hN hL hP
  simp only [costA] at hP
  simp only [nestA] at hd
  obtain ⟨F, rfl, hPt, hPa⟩ := step_fuel hP
  rw [htxt] at hp hN
  obtain ⟨s1, tok1, l1, h1, h2, h3⟩ := ihT d fuelL F N s hp (depth_max hd).1 hN hL hPt
  obtain ⟨l2, h4, h5⟩ := ihA d F N l1 h3 (depth_max hd).2 (len_later hlen hN) hPa
  refine ⟨s1, tok1, l2, h1, ?_, h5⟩
  unfold parseAnd
  simp only [h2, h4]

theorem andTail_nil {rest T' : List UInt8} {tok' : FTok} (hk : notKw tok' kwAnd) : AndTail .nil .nil rest T' tok' := by
  intro d fuelP N l hAt _ _ hP
  obtain ⟨F, rfl, _⟩ := leaf_fuel hP
  refine ⟨l, ?_, hAt⟩
  have : l.cur.isPath kwAnd = false := by rw [hAt.1]; exact hk
  unfold andLoop
  simp [this]

/-- `and_loop` on the keyword reads the next token and then does what `parse_and` does -/
theorem andTail_of {u : Term} {us img : Ands} {rest T' : List UInt8} {tok' : FTok}
    (hhead : okHead (printAnds (.cons u us))) (h : AndsR (.cons u us) img rest T' tok') :
    AndTail (.cons u us) img rest T' tok' := by
  intro d fuelP N l hAt hd hN hP
  obtain ⟨F, rfl, hNF⟩ : ∃ F, fuelP = F + 1 ∧ N ≤ F := by
    simp only [costA] at hP; exact ⟨fuelP - 1, by omega⟩
  have hAt' : At l (.path kwAnd) (printAnds (.cons u us) ++ rest) := hAt
  have heof := hAt'.eof_false (okHead_append hhead)
  obtain ⟨s1, tok1, l', h1, h2, h3⟩ := h d F (F + 1) N l.sc hAt'.2 hd hN hNF hP
  refine ⟨l', ?_, h3⟩
  unfold parseAnd at h2
  unfold andLoop
  simp only [hAt'.1, FTok.isPath, beq_self_eq_true, if_true, heof, Bool.false_eq_true, if_false]
  rw [read_ok h1]
  exact h2

theorem ors_step {a ia : Ands} {as ias : Ors} {rest rest1 T' T1' : List UInt8} {tok' tok1' : FTok}
    (htxt : printOrs (.cons a as) ++ rest = printAnds a ++ rest1)
    (hlen : (printOrs as ++ rest).length ≤ rest1.length) (ihA : AndsR a ia rest1 T1' tok1')
    (ihO : ∀ (d fuelP N : Nat) (l : FLex), At l tok1' T1' → d + nestO as ≤ 64 →
      (printOrs as ++ rest).length + 8 ≤ N → costO as + N ≤ fuelP →
      ∃ l', orLoop fuelP d l = .ok (ias, l') ∧ At l' tok' T') : OrsR (.cons a as) (.cons ia ias) rest T' tok' := by
  intro d fuelL fuelP N s hp hd hN hL hP
  simp only [costO] at hP
  simp only [nestO] at hd
  obtain ⟨F, rfl, hPa, hPo⟩ := step_fuel hP
  rw [htxt] at hp hN
  obtain ⟨s1, tok1, l1, h1, h2, h3⟩ := ihA d fuelL F N s hp (depth_max hd).1 hN hL hPa
  obtain ⟨l2, h4, h5⟩ := ihO d F N l1 h3 (depth_max hd).2 (len_later hlen hN) hPo
  refine ⟨s1, tok1, l2, h1, ?_, h5⟩
  unfold parseOr
  simp only [h2, h4]

theorem orTail_nil {rest T' : List UInt8} {tok' : FTok} (hk : notKw tok' kwOr) : OrTail .nil .nil rest T' tok' := by
  intro d fuelP N l hAt _ _ hP
  obtain ⟨F, rfl, _⟩ := leaf_fuel hP
  refine ⟨l, ?_, hAt⟩
  have : l.cur.isPath kwOr = false := by rw [hAt.1]; exact hk
  unfold orLoop
  simp [this]

theorem orTail_of {a : Ands} {as img : Ors} {rest T' : List UInt8} {tok' : FTok}
    (hhead : okHead (printOrs (.cons a as))) (h : OrsR (.cons a as) img rest T' tok') :
    OrTail (.cons a as) img rest T' tok' := by
  intro d fuelP N l hAt hd hN hP
  obtain ⟨F, rfl, hNF⟩ : ∃ F, fuelP = F + 1 ∧ N ≤ F := by
    simp only [costO] at hP; exact ⟨fuelP - 1, by omega⟩
  have hAt' : At l (.path kwOr) (printOrs (.cons a as) ++ rest) := hAt
  have heof := hAt'.eof_false (okHead_append hhead)
  obtain ⟨s1, tok1, l', h1, h2, h3⟩ := h d F (F + 1) N l.sc hAt'.2 hd hN hNF hP
  refine ⟨l', ?_, h3⟩
  unfold parseOr at h2
  unfold orLoop
  simp only [hAt'.1, FTok.isPath, beq_self_eq_true, if_true, heof, Bool.false_eq_true, if_false]
  rw [read_ok h1]
  exact h2

end Hs.FText

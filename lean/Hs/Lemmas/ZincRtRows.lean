/-
  C01 ladder, grids: the row iterator (`consume_end`, `RowIterator::next`, collected by
  `rowsLoop`) on row lines followed by the grid's end.  The iterator sees a row only through what `rowLoop` does on its
  line (`LineOk`), so it is followed once over lines in any spelling (`Lines`: blanks and LF, CRLF or CR after each
  line; `>>`, the end of the input or blank lines after the last); the writer's rows are the case without blanks,
  with LF, and one blank line at top level (`RowOk.line`, `RowsOk.lines`).
-/
import Hs.Lemmas.ZincRtRow
namespace Hs.Zinc
open Hs Hs.Scan

section
open Hs.Spell

/-! ### `consume_end` -/

theorem consumeEnd_noop (g : Nat) (p : PS) (nested ne : Bool) (h10 : PS.isChar p 10 = false)
    (h62 : PS.isChar p 62 = false) :
    consumeEnd (g + 1) { p := p, nestedStart := nested, nestedEnd := ne }
      = .ok { p := p, nestedStart := nested, nestedEnd := ne } := by
  rw [consumeEnd]
  simp [h10, h62]

theorem consumeEnd_next (g : Nat) (p2 q : PS) (nested : Bool) (text : List UInt8) (ht2 : p2.tok = .ch 10)
    (h2 : At p2.sc text) (hfo : FirstOk text) (eq : lexRead g p2.sc = .ok q) (hq : PS.isChar q 62 = false) :
    consumeEnd (g + 1) { p := p2, nestedStart := nested, nestedEnd := false }
      = .ok { p := q, nestedStart := nested, nestedEnd := false } := by
  have hp2_10 : PS.isChar p2 10 = true := by unfold PS.isChar; rw [ht2]; rfl
  have heof : p2.sc.eof = false := by
    obtain ⟨b, r, rfl, _⟩ := hfo; exact h2.eof
  rw [consumeEnd]
  simp [hp2_10, cws_none h2 hfo, PS.isEof, heof, PS.read, eq, hq]

theorem consumeEnd_top (g : Nat) (p2 : PS) (ht2 : p2.tok = .ch 10) (h2 : At p2.sc [10]) :
    consumeEnd (g + 1) { p := p2, nestedStart := false, nestedEnd := false }
      = .ok { p := { sc := p2.sc.advance, tok := p2.tok }, nestedStart := false, nestedEnd := false } := by
  have hp2_10 : PS.isChar p2 10 = true := by unfold PS.isChar; rw [ht2]; rfl
  have := h2.advance
  rw [consumeEnd]
  simp [hp2_10, cws_last_nl h2, PS.isEof, this.eof_nil]

/-! ### the end of a grid -/

theorem consumeEnd_last {nested : Bool} {tail final : List UInt8} (hE : GridEnd nested tail final) (g : Nat) (p2 : PS)
    (ht2 : p2.tok = .ch 10) (h2 : At p2.sc tail) (hs2 : p2.sc.stash = []) (hfu : nested = false → tail.length ≤ g) :
    ∃ r3 : RowState, consumeEnd (g + 3) { p := p2, nestedStart := nested, nestedEnd := false } = .ok r3 ∧
      (r3.p.isEof || r3.nestedEnd) = true ∧ At r3.p.sc final ∧ r3.p.sc.stash = [] := by
  have hp2_10 : PS.isChar p2 10 = true := by unfold PS.isChar; rw [ht2]; rfl
  cases nested with
  | true =>
    cases hE with
    | nested =>
      have hfo : FirstOk (62 :: 62 :: final) := (firstW_cons 62 _ (by decide)).ok
      refine ⟨{ p := { sc := p2.sc.advance.advance, tok := .ch 62 }, nestedStart := true, nestedEnd := true }, ?_,
        by simp, h2.advance.advance, advN_stash_nil 2 _ hs2⟩
      rw [consumeEnd]
      simp [hp2_10, cws_none h2 hfo, PS.isEof, h2.eof, PS.read, lexRead_special h2 (by decide) (by decide) (g + 1),
        isChar_ch, lexRead_special h2.advance (by decide) (by decide) (g + 1)]
  | false =>
    obtain ⟨hW, rfl⟩ := hE.white
    obtain ⟨s', e, h', hs'⟩ := cws_white tail hW [] (Or.inl rfl) p2.sc (g + 3) (by simpa using h2) hs2
      (by have := hfu rfl; omega)
    refine ⟨{ p := { p2 with sc := s' }, nestedStart := false, nestedEnd := false }, ?_, ?_, h', hs'⟩
    · rw [consumeEnd]
      simp [hp2_10, e, PS.isEof, h'.eof_nil]
    · simp [PS.isEof, h'.eof_nil]

theorem lexRead_nl_white (w nl trail : List UInt8) (hw : Blanks w) (hn : Nl nl) (ht : White trail) (s : Scan)
    (h : At s (w ++ (nl ++ trail))) (hs : s.stash = []) (fuel : Nat) (hf : w.length + 2 ≤ fuel) :
    ∃ s' t', lexRead fuel s = .ok { sc := s', tok := .ch 10 } ∧ At s' t' ∧ White t' ∧ t'.length ≤ trail.length ∧
      s'.stash = [] := by
  by_cases hc : nl = [13] ∧ trail.head? = some 10
  · obtain ⟨rfl, h10⟩ := hc
    cases trail with
    | nil => simp at h10
    | cons x t =>
      simp only [List.head?_cons, Option.some.injEq] at h10
      subst h10
      obtain ⟨s', e, h', hs'⟩ := lexRead_nlW w hw [13, 10] Nl.crlf s t (Pre.of_clean (by simpa using h) hs)
        (fun e => by cases e) fuel hf
      exact ⟨s', t, e, h', White.tail ht, by simp, hs'⟩
  · have hno : NoLF nl trail := by
      intro e; intro h10; exact hc ⟨e, h10⟩
    obtain ⟨s', e, h', hs'⟩ := lexRead_nlW w hw nl hn s trail (Pre.of_clean h hs) hno fuel hf
    exact ⟨s', trail, e, h', ht, Nat.le_refl _, hs'⟩

/-! ### the row iterator over row lines in any spelling -/

structure LineOk (names : List (List Char)) (r : Tags) (line w nl : List UInt8) : Prop where
  read : ∀ (depth f1 f2 : Nat) (sc : Scan) (rest : List UInt8), NoLF nl rest →
    depth + nestT r ≤ 64 → At sc (line ++ (w ++ (nl ++ rest))) → sc.stash = [] →
    4 * line.length + w.length + 14 ≤ f1 → 4 * line.length + w.length + 14 ≤ f2 →
    ∃ p p', lexRead f1 sc = .ok p ∧ rowLoop f2 depth p names 0 [] = .ok (cellsOf r names, p') ∧
      p'.tok = .ch 10 ∧ At p'.sc rest ∧ p'.sc.stash = [] ∧
      p.sc.eof = false ∧ PS.isChar p 10 = false ∧ PS.isChar p 62 = false
  first : ∀ x, FirstOk (line ++ x)
  sorted : keysSorted r.keys = true
  sub : ∀ k ∈ r.keys, k ∈ names

inductive Lines (names : List (List Char)) (tlf : Bool) : Rows → List UInt8 → Prop
  | nil : Lines names tlf .nil []
  | cons (r : Tags) (rs : Rows) (line w nl rest : List UInt8) (hr : LineOk names r line w nl) (hw : Blanks w)
      (hn : Nl nl) (hcr : CrOk nl rest tlf) (t : Lines names tlf rs rest) :
      Lines names tlf (.cons r rs) (line ++ w ++ nl ++ rest)

theorem Lines.head_ne {names : List (List Char)} {tlf : Bool} {rows : Rows} {body : List UInt8}
    (h : Lines names tlf rows body) (hne : body ≠ []) (x : List UInt8) : (body ++ x).head? ≠ some 10 := by
  cases h with
  | nil => exact absurd rfl hne
  | cons r rs line w nl rest hr hw hn hcr t =>
    rw [show line ++ w ++ nl ++ rest ++ x = line ++ (w ++ nl ++ rest ++ x) by simp]
    exact FirstW.head_ne (hr.first _)

/-- the line ending before `body` is not a lone CR followed by LF: `body` starts with a cell or a comma, and where it
is empty `CrOk` and `htl` speak about `tail` -/
theorem Lines.noLF {names : List (List Char)} {tlf : Bool} {rows : Rows} {nl body tail : List UInt8}
    (h : Lines names tlf rows body) (hcr : CrOk nl body tlf)
    (htl : tlf = false → tail.head? ≠ some 10) : NoLF nl (body ++ tail) := by
  intro e
  by_cases hr : body = []
  · subst hr; simpa using htl (hcr e rfl)
  · exact h.head_ne hr tail

theorem rowNext_line {names : List (List Char)} {r : Tags} {line w nl : List UInt8} (hrow : LineOk names r line w nl)
    (nested : Bool) (depth f1 g : Nat) (sc : Scan) (rest : List UInt8) (hcr : NoLF nl rest)
    (hdep : depth + nestT r ≤ 64) (hat : At sc (line ++ (w ++ (nl ++ rest)))) (hs : sc.stash = [])
    (hf1 : 4 * line.length + w.length + 14 ≤ f1) (hg : 4 * line.length + w.length + 14 ≤ g + 1) :
    ∃ p p2, lexRead f1 sc = .ok p ∧ p.sc.eof = false ∧ PS.isChar p 10 = false ∧ PS.isChar p 62 = false ∧
      p2.tok = .ch 10 ∧ At p2.sc rest ∧ p2.sc.stash = [] ∧
      rowNext (g + 2) depth { p := p, nestedStart := nested, nestedEnd := false } names =
        (match consumeEnd (g + 1) { p := p2, nestedStart := nested, nestedEnd := false } with
          | .ok r3 => .ok (some (lexImgT r), r3)
          | .err => .err | .panic => .panic | .diverge => .diverge | .depth => .depth) := by
  obtain ⟨p, p2, e1, e2, ht2, h2, hs2, heof, h10, h62⟩ := hrow.read depth f1 (g + 1) sc rest hcr hdep hat hs hf1 hg
  refine ⟨p, p2, e1, heof, h10, h62, ht2, h2, hs2, ?_⟩
  rw [rowNext]
  simp only [PS.isEof, heof, Bool.or_false, Bool.false_eq_true, if_false]
  rw [consumeEnd_noop g p nested false h10 h62]
  simp only [heof, Bool.or_false, Bool.false_eq_true, if_false, e2, dictOf_cellsOf_gen r names hrow.sub hrow.sorted]
  rfl

theorem rowNext_done (f d : Nat) (st : RowState) (names : List (List Char))
    (h : (st.p.isEof || st.nestedEnd) = true) : rowNext (f + 1) d st names = .ok (Option.none, st) := by
  rw [rowNext]; simp [h]

theorem rowsLoop_done (f d : Nat) (st : RowState) (names : List (List Char)) (acc : List Tags)
    (h : (st.p.isEof || st.nestedEnd) = true) : rowsLoop (f + 2) d st names acc = .ok (acc, st) := by
  rw [rowsLoop, rowNext_done f d st names h]

theorem rowsLoop_lines (names : List (List Char)) (nested tlf : Bool) (tail final : List UInt8)
    (hE : GridEnd nested tail final) (htl : tlf = false → tail.head? ≠ some 10)
    (depth : Nat) (rows : Rows) (body : List UInt8) (hok : Lines names tlf rows body) :
    ∀ (r : Tags) (rs : Rows), rows = .cons r rs → depth + nestR rows ≤ 64 →
    ∀ (f1 f2 : Nat) (sc : Scan) (acc : List Tags), At sc (body ++ tail) → sc.stash = [] →
    4 * body.length + 20 ≤ f1 → 4 * body.length + 20 ≤ f2 → (nested = false → 4 * body.length + tail.length + 20 ≤ f2) →
    ∃ p r', lexRead f1 sc = .ok p ∧ p.sc.eof = false ∧ PS.isChar p 10 = false ∧ PS.isChar p 62 = false ∧
      rowsLoop f2 depth { p := p, nestedStart := nested, nestedEnd := false } names acc
        = .ok (acc ++ (lexImgR rows).toList, r') ∧
      At r'.p.sc final ∧ r'.p.sc.stash = [] := by
  -- one call of the iterator per line (`rowNext_line`); its `consume_end` then reads the first token of the next
  -- line, which the induction hypothesis starts from (`consumeEnd_next`), or meets the grid's end (`consumeEnd_last`)
  induction hok with
  | nil => intro r rs e; cases e
  | cons r0 rs0 line w nl rest hrow hw hn hcr hrest ih =>
    intro r rs e hdep f1 f2 sc acc hat hs hf1 hf2 hfu
    cases e
    simp only [nestR] at hdep
    simp only [List.append_assoc, List.length_append] at hat hf1 hf2 hfu
    have hnl : 1 ≤ nl.length := by cases hn <;> simp
    obtain ⟨g, rfl⟩ : ∃ g, f2 = g + 5 := ⟨f2 - 5, by omega⟩
    obtain ⟨p, p2, e1, heof, h10, h62, ht2, h2, hs2, hnext⟩ := rowNext_line hrow nested depth f1 (g + 2) sc (rest ++ tail)
      (hrest.noLF hcr htl) (by omega) hat hs (by omega) (by omega)
    cases hrest with
    | cons r2 rs2 line2 w2 nl2 rest2 hrow2 hw2 hn2 hcr2 hrest2 =>
      have hfo : FirstOk (line2 ++ w2 ++ nl2 ++ rest2 ++ tail) := by
        have := hrow2.first (w2 ++ nl2 ++ rest2 ++ tail)
        simpa using this
      obtain ⟨q, r', eq, hqe, hq10, hq62, eloop, hfin, hsfin⟩ := ih r2 rs2 rfl (by omega) (g + 2) (g + 4) p2.sc
        (acc ++ [lexImgT r0]) h2 hs2 (by omega) (by omega) (fun h => by have := hfu h; omega)
      refine ⟨p, r', e1, heof, h10, h62, ?_, hfin, hsfin⟩
      rw [rowsLoop, hnext, consumeEnd_next (g + 2) p2 q nested _ ht2 h2 hfo eq hq62]
      simp only [eloop, lexImgR_toList_cons]
      simp
    | nil =>
      simp only [List.nil_append] at h2
      obtain ⟨r3, e3, hend, h3, hs3⟩ := consumeEnd_last hE g p2 ht2 h2 hs2 (fun h => by have := hfu h; omega)
      refine ⟨p, r3, e1, heof, h10, h62, ?_, h3, hs3⟩
      rw [rowsLoop, hnext, e3]
      simp only []
      rw [rowsLoop_done (g + 2) depth r3 names _ hend]
      simp [lexImgR, Rows.toList]

theorem rows_all_lines (names : List (List Char)) (nested tlf : Bool) (tail final : List UInt8)
    (hE : GridEnd nested tail final) (htl : tlf = false → tail.head? ≠ some 10)
    (depth : Nat) (rows : Rows) (body : List UInt8) (hok : Lines names tlf rows body)
    (hdep : depth + nestR rows ≤ 64) (g : Nat) (sc6 : Scan) (hat : At sc6 (body ++ tail)) (hs : sc6.stash = [])
    (hf : 4 * body.length + 20 ≤ g) (hfu : nested = false → 4 * body.length + tail.length + 20 ≤ g + 1) :
    ∃ p6 r', lexRead g sc6 = .ok p6 ∧
      rowsLoop (g + 1) depth { p := p6, nestedStart := nested, nestedEnd := false } names []
        = .ok ((lexImgR rows).toList, r') ∧
      At r'.p.sc final ∧ r'.p.sc.stash = [] := by
  -- with rows, `rowsLoop_lines`; without, the first call of the iterator stands at the grid's end itself: one case
  -- per form of `GridEnd`
  cases hok with
  | cons r rs line w nl rest hr hw hn hcr t =>
    obtain ⟨p, r', e1, _, _, _, e2, h', hs'⟩ := rowsLoop_lines names nested tlf tail final hE htl depth _ _
      (Lines.cons r rs line w nl rest hr hw hn hcr t) r rs rfl hdep g (g + 1) sc6 [] hat hs hf (by omega) hfu
    exact ⟨p, r', e1, by simpa using e2, h', hs'⟩
  | nil =>
    simp only [List.nil_append] at hat
    obtain ⟨g', rfl⟩ : ∃ g', g = g' + 3 := ⟨g - 3, by omega⟩
    cases hE with
    | top =>
      refine ⟨{ sc := sc6, tok := .none }, { p := { sc := sc6, tok := .none }, nestedStart := false, nestedEnd := false },
        lexRead_eof hat _, ?_, hat, hs⟩
      rw [rowsLoop_done _ depth _ names [] (by simp [PS.isEof, hat.eof_nil])]
      simp [lexImgR, Rows.toList]
    | topNl w nl trail hw hn ht =>
      have hfu' := hfu rfl
      simp only [List.length_append, List.length_nil] at hfu'
      obtain ⟨s', t', e, h', hwt, hlt, hs'⟩ := lexRead_nl_white w nl trail hw hn ht sc6 hat hs (g' + 3) (by omega)
      by_cases he : s'.eof = true
      · refine ⟨{ sc := s', tok := .ch 10 }, { p := { sc := s', tok := .ch 10 }, nestedStart := false, nestedEnd := false },
          e, ?_, ?_, hs'⟩
        · rw [rowsLoop_done _ depth _ names [] (by simp [PS.isEof, he])]
          simp [lexImgR, Rows.toList]
        · cases t' with
          | nil => exact h'
          | cons b r => rw [h'.eof] at he; cases he
      · obtain ⟨s2, e2, h2, hs2⟩ := cws_white t' hwt [] (Or.inl rfl) s' (g' + 2) (by simpa using h') hs' (by omega)
        refine ⟨{ sc := s', tok := .ch 10 }, { p := { sc := s2, tok := .ch 10 }, nestedStart := false, nestedEnd := false },
          e, ?_, h2, hs2⟩
        rw [rowsLoop, rowNext]
        simp only [PS.isEof, he, Bool.or_false, Bool.false_eq_true, if_false]
        rw [consumeEnd]
        simp [isChar_ch, e2, PS.isEof, h2.eof_nil, lexImgR, Rows.toList]
    | nested =>
      refine ⟨{ sc := sc6.advance, tok := .ch 62 },
        { p := { sc := sc6.advance.advance, tok := .ch 62 }, nestedStart := true, nestedEnd := true },
        lexRead_special hat (by decide) (by decide) _, ?_, hat.advance.advance, advN_stash_nil 2 _ hs⟩
      rw [rowsLoop, rowNext]
      simp only [PS.isEof, hat.advance.eof, Bool.or_false, Bool.false_eq_true, if_false]
      rw [consumeEnd]
      simp [isChar_ch, PS.read, lexRead_special hat.advance (by decide) (by decide) g', lexImgR, Rows.toList]

end

/-! ### the writer's rows: no blanks, every line ended by LF -/

structure RowOk (r : Tags) (names : List (List Char)) (single : Bool) : Prop where
  cells : CellsOk r names single
  first : ∀ n ∈ names, ∀ v, r.get? n = some v → FirstOk (enc v true)
  sorted : keysSorted r.keys = true
  sub : ∀ k ∈ r.keys, k ∈ names

def RowsOk (names : List (List Char)) (single : Bool) : Rows → Prop
  | .nil => True
  | .cons r rs => RowOk r names single ∧ RowsOk names single rs

theorem two_or_single {names : List (List Char)} {single : Bool} (hne : names ≠ [])
    (hsingle : names.length = 1 → single = true) : 2 ≤ names.length ∨ single = true := by
  cases names with
  | nil => exact absurd rfl hne
  | cons n ns =>
    cases ns with
    | nil => exact Or.inr (hsingle rfl)
    | cons _ _ => left; simp

theorem RowOk.line {names : List (List Char)} {single : Bool} {r : Tags} (hne : names ≠ [])
    (hsingle : names.length = 1 → single = true) (hrow : RowOk r names single) :
    LineOk names r (rowBytes r names single) [] [10] := by
  refine ⟨fun depth f1 f2 sc rest _ hdep hat hs hf1 hf2 => ?_, fun x => ?_, hrow.sorted, hrow.sub⟩
  · obtain ⟨p, p2, e1, e2, ht2, h2, hs2, hfirst⟩ := rowLoop_rt r names single names 0 hne rfl depth f1 f2 sc [] rest
      hrow.cells hdep (by simpa using hat) hs (by omega) (by omega)
    exact ⟨p, p2, e1, by simpa using e2, ht2, h2, hs2, hfirst (two_or_single hne hsingle)⟩
  · -- the line is not empty: its first byte is not LF
    obtain ⟨b, rr, e, hb⟩ := firstOk_row r names single [] hne hsingle hrow.first
      (fun h n hn => (hrow.cells n hn).2 h)
    cases hx : rowBytes r names single with
    | nil => rw [hx] at e; cases e; exact absurd rfl hb.2.2.2
    | cons c cs => rw [hx] at e; cases e; exact ⟨b, cs ++ x, rfl, hb⟩

theorem RowsOk.lines {names : List (List Char)} {single : Bool} (hne : names ≠ [])
    (hsingle : names.length = 1 → single = true) :
    ∀ {rows : Rows}, RowsOk names single rows → Lines names true rows (encRows rows names single)
  | .nil, _ => Lines.nil
  | .cons r rs, ⟨hrow, hrest⟩ => by
    have := Lines.cons r rs _ [] [10] _ (hrow.line hne hsingle) Blanks.nil Spell.Nl.lf (fun e => by cases e)
      (RowsOk.lines hne hsingle hrest)
    rw [encRows_cons]
    simpa using this

end Hs.Zinc

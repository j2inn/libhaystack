/-
  C01 and C04 read direction: `parse_decimal` and `parse_number` on a number text: a decimal, an optional exponent,
  an optional unit.  The decimal `bs` may carry `_` separators, which the reader drops (`DecText lex bs`); the writer's
  text is the case `bs = lex`, and never has an exponent (`Display for f64` prints none).  What follows the token
  enters only through `Stop isNumMoreB rest`, which every notion of delimiter provides.
-/
import Hs.Lemmas.ClassLoop
import Hs.Lemmas.ZincSpellDecimal
namespace Hs.Zinc
open Hs Hs.Scan Hs.Spell

/-! ### the decimal text -/

theorem parseDecimal_sp (bs : List UInt8) (hbs : ∀ b ∈ bs, isDecB b = true)
    (hvalid : validDecimal (bs.filter (· != 95)) = true)
    (s : Scan) (rest : List UInt8) (fuel : Nat) (h : At s (bs ++ rest)) (hst : Stop isDecB rest)
    (hf : bs.length < fuel) :
    parseDecimal fuel s = .ok (bs.filter (· != 95), advN bs.length s) := by
  unfold parseDecimal
  rw [decimalLoop_eq, classLoop_run hbs h hst hf, flatMap_keep]
  simp [hvalid]

theorem DecText.parse {lex bs : List UInt8} (hsh : DecText lex bs)
    (s : Scan) (rest : List UInt8) (fuel : Nat) (h : At s (bs ++ rest)) (hst : Stop isDecB rest)
    (hf : bs.length < fuel) :
    parseDecimal fuel s = .ok (lex, advN bs.length s) := by
  have := parseDecimal_sp bs hsh.cls (by rw [hsh.filt]; exact hsh.valid) s rest fuel h hst hf
  rw [hsh.filt] at this
  exact this

theorem DecText.parse_clean {lex bs : List UInt8} (hsh : DecText lex bs) {s : Scan} {rest : List UInt8} {fuel : Nat}
    (h : Clean s (bs ++ rest)) (hst : Stop isDecB rest) (hf : bs.length < fuel) :
    ∃ s', parseDecimal fuel s = .ok (lex, s') ∧ Clean s' rest :=
  ⟨_, hsh.parse s rest fuel h.here hst hf, h.advN⟩

/-! ### `parse_number` in stages -/

def afterExpF (fuel : Nat) (s1 : Scan) : Res (Option (List UInt8 × List UInt8) × Scan) :=
  if !s1.eof && (s1.cur == 101 || s1.cur == 69) then
    match s1.peek with
    | (Option.none, _) => .err
    | (some nx, s2) =>
      if nx == 43 || nx == 45 || isDigitB nx then
        match parseExponent fuel s2 with
        | .ok (e, s3) => .ok (some e, s3)
        | .err => .err | .panic => .panic | .diverge => .diverge | .depth => .depth
      else .ok (Option.none, s2)
  else .ok (Option.none, s1)

def afterUnitF (fuel : Nat) (s3 : Scan) : Res (Option (List Char) × Scan) :=
  if !s3.eof && isUnitChar s3 then
    match unitLoop fuel s3 [] with
    | .ok (ub, s4) =>
      match unitSymbol (lossy ub) with
      | some sym => .ok (some sym, s4)
      | Option.none => .err
    | .err => .err | .panic => .panic | .diverge => .diverge | .depth => .depth
  else .ok (Option.none, s3)

theorem parseNumber_eq (fuel : Nat) (s : Scan) : parseNumber fuel s =
    (match parseDecimal fuel s with
     | .ok (dec, s1) =>
       match afterExpF fuel s1 with
       | .ok (exp, s3) =>
         match afterUnitF fuel s3 with
         | .ok (unit, s4) =>
           match exp with
           | some (sign, ex) => if exponentOk sign ex then .ok (mkNum dec exp unit, s4) else .err
           | Option.none => .ok (mkNum dec exp unit, s4)
         | .err => .err | .panic => .panic | .diverge => .diverge | .depth => .depth
       | .err => .err | .panic => .panic | .diverge => .diverge | .depth => .depth
     | .err => .err | .panic => .panic | .diverge => .diverge | .depth => .depth) := rfl

theorem e_isUnitB {b : UInt8} (h : (b == 101 || b == 69) = true) : isUnitB b = true := by
  simp only [Bool.or_eq_true, beq_iff_eq] at h
  rcases h with rfl | rfl <;> decide

/-- a unit starting with `e`/`E` costs one peek -/
theorem afterExp_noexp (uo : Option (List Char)) (hu : unitOk uo = true) (rest : List UInt8)
    (hd : Stop isNumMoreB rest) (fuel : Nat) (s1 : Scan) (h : At s1 (unitBytes uo ++ rest)) (hs : s1.stash = []) :
    ∃ s2, afterExpF fuel s1 = .ok (Option.none, s2) ∧ At s2 (unitBytes uo ++ rest) ∧
      s2.stash.length ≤ (unitBytes uo).length := by
  cases uo with
  | none =>
    simp only [unitBytes, List.nil_append, List.length_nil] at h ⊢
    refine ⟨s1, ?_, h, by simp [hs]⟩
    cases rest with
    | nil => simp [afterExpF, At.eof_nil h]
    | cons b r =>
      have hb : (b == 101 || b == 69) = false := by
        cases hx : (b == 101 || b == 69) with
        | false => rfl
        | true => have := hd.unit b r rfl; rw [e_isUnitB hx] at this; cases this
      simp [afterExpF, h.eof, h.cur, hb]
  | some u =>
    obtain ⟨b0, ub', hub, hb0, _, hall, hnext, _⟩ := unitOk_some hu
    simp only [unitBytes] at h ⊢
    have h' := h
    rw [hub, List.cons_append] at h'
    by_cases hee : (b0 == 101 || b0 == 69) = true
    · obtain ⟨y, ys, rfl⟩ := hnext hee
      simp only [List.cons_append] at h'
      obtain ⟨s2, e2, hat2, hs2, _, _⟩ := h'.peek0' hs
      have hy : isUnitB y = true := hall y (by rw [hub]; simp)
      have hxn : (y == 43 || y == 45 || isDigitB y) = false := by
        simp [unit_not_digit hy, ne_of_class hy (k := 43) (by decide), ne_of_class hy (k := 45) (by decide)]
      refine ⟨s2, ?_, by rw [hub]; simpa using hat2, by rw [hs2, hub]; simp⟩
      simp [afterExpF, h'.eof, h'.cur, hee, e2, hxn]
    · simp only [Bool.not_eq_true] at hee
      refine ⟨s1, ?_, h, by simp [hs]⟩
      simp [afterExpF, h'.eof, h'.cur, hee]

theorem afterUnit_rt (uo : Option (List Char)) (hu : unitOk uo = true) (rest : List UInt8)
    (hd : Stop isNumMoreB rest) (fuel : Nat) (s3 : Scan) (h : At s3 (unitBytes uo ++ rest))
    (hf : (unitBytes uo).length < fuel) :
    afterUnitF fuel s3 = .ok (uo, advN (unitBytes uo).length s3) := by
  cases uo with
  | none =>
    simp only [unitBytes, List.nil_append, List.length_nil, advN] at h ⊢
    cases rest with
    | nil => simp [afterUnitF, At.eof_nil h]
    | cons b r =>
      have := hd.unit b r rfl
      simp [afterUnitF, h.eof, isUnitChar_eq, h.cur, this]
  | some u =>
    obtain ⟨b0, ub', hub, hb0, _, hall, _, hsym⟩ := unitOk_some hu
    simp only [unitBytes] at h hf ⊢
    have e : unitLoop fuel s3 [] = .ok (encChars u, advN (encChars u).length s3) := by
      rw [unitLoop_eq, classLoop_run hall h hd.unit hf, List.flatMap_singleton', List.nil_append]
    have h' := h
    rw [hub, List.cons_append] at h'
    have hc : isUnitChar s3 = true := by rw [isUnitChar_eq, h'.cur]; exact hb0
    simp [afterUnitF, h'.eof, hc, e, lossy_encChars, hsym]

/-! ### the exponent stage on an exponent -/

theorem validDecimal_digits (ex : List UInt8) (h : ∀ d ∈ ex, isDigitB d = true) (hne : ex ≠ []) :
    validDecimal ex = true := by
  cases ex with
  | nil => exact absurd rfl hne
  | cons d r =>
    rw [validDecimal_pos _ _ (digit_ne_45 (h d (by simp)))]
    exact vbody_int _ h hne

theorem integralDecimal_digits (ex : List UInt8) (h : ∀ d ∈ ex, isDigitB d = true) (hne : ex ≠ []) :
    integralDecimal ex = true := by
  obtain ⟨_, d⟩ := (Stop_nil isDigitB).takeWhile (run := ex) h
  simp only [List.append_nil] at d
  cases ex with
  | nil => exact absurd rfl hne
  | cons d0 r =>
    have h45 : d0 ≠ 45 := digit_ne_45 (h d0 (by simp))
    have : integralDecimal (d0 :: r) =
        (match (d0 :: r).dropWhile isDigitB with
         | [] => true
         | 46 :: fr => fr.all (· == 48)
         | _ => false) := by
      unfold integralDecimal
      split
      · rename_i heq; cases heq; exact absurd rfl h45
      · rfl
    rw [this, d]

theorem exponentOk_digits (sg ex : List UInt8) (h : ∀ d ∈ ex, isDigitB d = true) (hne : ex ≠ []) :
    exponentOk sg ex = true := by
  unfold exponentOk exponentPrintsIntegral
  rw [integralDecimal_digits ex h hne]
  cases ex with
  | nil => exact absurd rfl hne
  | cons d0 r =>
    have h45 : d0 ≠ 45 := digit_ne_45 (h d0 (by simp))
    simp [h45]

theorem parseDecimal_digits (ex exS : List UInt8) (hx : Digits ex exS)
    (s : Scan) (rest : List UInt8) (fuel : Nat) (h : At s (exS ++ rest)) (hst : Stop isDecB rest)
    (hf : exS.length < fuel) :
    parseDecimal fuel s = .ok (ex, advN exS.length s) := by
  obtain ⟨d, r, e⟩ := hx.head'
  have hne : ex ≠ [] := by rw [e.1]; simp
  have := parseDecimal_sp exS hx.dec (by rw [hx.filt]; exact validDecimal_digits ex hx.digits hne) s rest fuel h hst hf
  rw [hx.filt] at this
  exact this

theorem afterExp_exp (e : UInt8) (he : e = 101 ∨ e = 69) (sg : List UInt8) (hsg : ExpSign sg)
    (ex exS : List UInt8) (hx : Digits ex exS) (U : List UInt8) (hst : Stop isDecB U)
    (fuel : Nat) (s1 : Scan) (h : At s1 (e :: (sg ++ (exS ++ U)))) (hs : s1.stash = [])
    (hf : exS.length < fuel) :
    ∃ s3, afterExpF fuel s1 = .ok (some (sg, ex), s3) ∧ At s3 U ∧ s3.stash = [] := by
  obtain ⟨d0, r0, e0, hd0, _⟩ := hx.head
  have hee : (e == 101 || e == 69) = true := by rcases he with rfl | rfl <;> decide
  have hd43 : (d0 == 43) = false := beq_eq_false_iff_ne.mpr (ne_of_class hd0 (by decide))
  have hd45 : (d0 == 45) = false := digit_ne_minus hd0
  rcases hsg with rfl | hsg
  · simp only [List.nil_append] at h
    have h' := h
    rw [e0, List.cons_append] at h'
    obtain ⟨s2, e2, hat2, hs2, _, _⟩ := h'.peek0' hs
    have hat2' : At s2 (e :: (exS ++ U)) := by rw [e0]; exact hat2
    have ha := hat2'.advance
    have ha' := hat2.advance
    have hsa : s2.advance.stash = [] := advance_stash_nil (by omega)
    have ed := parseDecimal_digits ex exS hx s2.advance U fuel ha hst hf
    refine ⟨advN exS.length s2.advance, ?_, ha.advN, advN_stash_nil _ _ hsa⟩
    simp [afterExpF, h'.eof, h'.cur, hee, e2, hd0, parseExponent, hat2.cur, ha'.cur, hd43, hd45, ed]
  · obtain ⟨c, rfl, hc⟩ : ∃ c, sg = [c] ∧ (c == 43 || c == 45) = true := by
      rcases hsg with rfl | rfl <;> exact ⟨_, rfl, by decide⟩
    simp only [List.cons_append, List.nil_append] at h
    obtain ⟨s2, e2, hat2, hs2, _, _⟩ := h.peek0' hs
    have ha := hat2.advance
    have hsa : s2.advance.stash = [] := advance_stash_nil (by omega)
    have ha' := ha
    rw [e0, List.cons_append] at ha'
    have hb := ha.advance
    have hsb : s2.advance.advance.stash = [] := advance_clean hsa
    have ed := parseDecimal_digits ex exS hx s2.advance.advance U fuel hb hst hf
    refine ⟨advN exS.length s2.advance.advance, ?_, hb.advN, advN_stash_nil _ _ hsb⟩
    simp [afterExpF, h.eof, h.cur, hee, e2, parseExponent, hat2.cur, ha.cur, hc, ha'.readQ, ed]

/-! ### `parse_number` on a number text -/

/-- the exponent part of a number text and what the reader makes of it -/
inductive ExpPart : Option (List UInt8 × List UInt8) → List UInt8 → Prop
  | none : ExpPart none []
  | some (e : UInt8) (he : e = 101 ∨ e = 69) (sg : List UInt8) (hsg : ExpSign sg) (ex exS : List UInt8)
      (hx : Digits ex exS) : ExpPart (some (sg, ex)) (e :: (sg ++ exS))

theorem ExpPart.after {xo : Option (List UInt8 × List UInt8)} {X : List UInt8} (hX : ExpPart xo X)
    (uo : Option (List Char)) (hu : unitOk uo = true) (rest : List UInt8) (hd : Stop isNumMoreB rest) :
    Stop isDecB (X ++ (unitBytes uo ++ rest)) ∧ AfterDec (X ++ (unitBytes uo ++ rest)) := by
  cases hX with
  | none => exact ⟨stop_dec_unit_rest uo hu rest hd, afterDec_unit_rest uo hu rest hd⟩
  | some e he sg hsg ex exS hx =>
    refine ⟨Stop_cons (by rcases he with rfl | rfl <;> decide), fun x r hx => ?_⟩
    cases hx
    rcases he with rfl | rfl <;> decide

theorem afterExp_any {xo : Option (List UInt8 × List UInt8)} {X : List UInt8} (hX : ExpPart xo X)
    (uo : Option (List Char)) (hu : unitOk uo = true) (rest : List UInt8) (hd : Stop isNumMoreB rest)
    (fuel : Nat) (s1 : Scan) (h : At s1 (X ++ (unitBytes uo ++ rest))) (hs : s1.stash = []) (hf : X.length ≤ fuel) :
    ∃ s3, afterExpF fuel s1 = .ok (xo, s3) ∧ At s3 (unitBytes uo ++ rest) ∧ s3.stash.length ≤ (unitBytes uo).length ∧
      ∀ sg ex, xo = some (sg, ex) → exponentOk sg ex = true := by
  cases hX with
  | none =>
    obtain ⟨s2, e2, h2, hs2⟩ := afterExp_noexp uo hu rest hd fuel s1 h hs
    exact ⟨s2, e2, h2, hs2, nofun⟩
  | some e he sg hsg ex exS hx =>
    simp only [List.cons_append, List.append_assoc, List.length_cons, List.length_append] at h hf
    obtain ⟨s3, e2, h3, hs3⟩ := afterExp_exp e he sg hsg ex exS hx _ (stop_dec_unit_rest uo hu rest hd) fuel s1 h hs
      (by omega)
    obtain ⟨d, r, ed, _⟩ := hx.head'
    refine ⟨s3, e2, h3, by simp [hs3], ?_⟩
    rintro _ _ ⟨rfl, rfl⟩
    exact exponentOk_digits sg ex hx.digits (by rw [ed]; simp)

theorem parseNumber_sp (lex bs : List UInt8) (hsh : DecShape lex bs) {xo : Option (List UInt8 × List UInt8)}
    {X : List UInt8} (hX : ExpPart xo X) (uo : Option (List Char)) (hu : unitOk uo = true) (s : Scan)
    (rest : List UInt8) (fuel : Nat) (h : At s (bs ++ (X ++ (unitBytes uo ++ rest)))) (hs : s.stash.length ≤ bs.length)
    (hd : Stop isNumMoreB rest) (hf : bs.length + X.length + (unitBytes uo).length + 1 ≤ fuel) :
    ∃ s', parseNumber fuel s = .ok (mkNum lex xo uo, s') ∧ At s' rest ∧ s'.stash = [] := by
  have hs1 : (advN bs.length s).stash = [] := by
    rw [advN_stash]; exact List.drop_eq_nil_of_le hs
  have e1 := hsh.parse s _ fuel h (hX.after uo hu rest hd).1 (by omega)
  obtain ⟨s3, e2, h3, hs3, eo⟩ := afterExp_any hX uo hu rest hd fuel _ h.advN hs1 (by omega)
  have e3 := afterUnit_rt uo hu rest hd fuel s3 h3 (by omega)
  refine ⟨advN (unitBytes uo).length s3, ?_, h3.advN, by rw [advN_stash]; exact List.drop_eq_nil_of_le hs3⟩
  rw [parseNumber_eq, e1]
  simp only [e2, e3]
  cases xo with
  | none => rfl
  | some p => simp only [eo p.1 p.2 rfl, if_true]

end Hs.Zinc

/-
  Hs.Lemmas.NsCacheSys — the concurrent system of Hs.Model.NsCache, for threads started with arbitrary programs
  (`initP`); `init`, which starts them with query lists, is the case of `GInv`.

  Without any invariant: a thread that is not enabled does not move, so `Stuck` states are fixed points
  of every step, hence deadlocks; a thread that is alone never finishes once it is stuck.  The invariants:
  * `AInv`  (answers): `Inv` + every thread's remaining program is `Good`.  Preserved by every step of every
    thread WHATEVER guards are held.
  * `SInv`  (guards): every thread obeys `Safe`.  Preserved by every step, needs no hypothesis on the caches;
    gives deadlock freedom.
-/
import Hs.Model.NsCacheCaller
import Hs.Lemmas.NsCacheLib
namespace Hs.NsCache
open Hs Hs.Ns

/-! ### one thread changes per step -/

variable {cfg : Cfg}

theorem forall_thr_set {P : Nat → Thread → Prop} {thr : List Thread}
    (h : ∀ u th, thr[u]? = some th → P u th) {t : Nat} {th' : Thread} (h' : P t th') :
    ∀ u th, (thr.set t th')[u]? = some th → P u th := by
  intro u th hu
  rw [List.getElem?_set] at hu
  split at hu
  · subst t
    split at hu
    · cases hu; exact h'
    · cases hu
  · exact h u th hu

theorem forall_thr_initP {P : Nat → Thread → Prop} {c0 : Caches} {progs : List (Prog (List Ans))}
    (h : ∀ t p, progs[t]? = some p → P t { prog := p, held := [] }) :
    ∀ t th, (initP c0 progs).thr[t]? = some th → P t th := by
  intro t th ht
  simp only [initP, List.getElem?_map, Option.map_eq_some_iff] at ht
  obtain ⟨p, hp, rfl⟩ := ht
  exact h t p hp

theorem init_eq (cfg : Cfg) (c0 : Caches) (qss : List (List Query)) :
    init cfg c0 qss = initP c0 (qss.map (runQs cfg)) := by
  simp [init, initP, List.map_map, Function.comp_def]

/-! ### `step`, thread by thread -/

theorem step_idle {s : State} {t : Nat} (h : enabled cfg s t = false) : step cfg s t = s := by
  unfold enabled finished blocked at h
  unfold step
  cases ht : s.thr[t]? with
  | none => rfl
  | some th =>
    rw [ht] at h
    cases hp : th.prog <;> simp_all [Prog.isRet]

theorem step_eq_set (s : State) (t : Nat) :
    step cfg s t = s ∨ ∃ cs' th', step cfg s t = { c := cs', thr := s.thr.set t th' } := by
  unfold step
  cases s.thr[t]? with
  | none => exact .inl rfl
  | some th =>
    dsimp only
    cases th.prog with
    | ret a => exact .inl rfl
    | ins c k v cont => dsimp only; split <;> first | exact .inl rfl | exact .inr ⟨_, _, rfl⟩
    | _ => exact .inr ⟨_, _, rfl⟩

theorem step_length (s : State) (t : Nat) : (step cfg s t).thr.length = s.thr.length := by
  rcases step_eq_set (cfg := cfg) s t with h | ⟨_, _, h⟩ <;> rw [h]
  exact List.length_set

theorem run_length (sched : List Nat) : ∀ s : State, (run cfg s sched).thr.length = s.thr.length := by
  induction sched with
  | nil => intro s; rfl
  | cons t sched ih => intro s; exact (ih (step cfg s t)).trans (step_length s t)

theorem step_thr_other (s : State) {t u : Nat} (h : u ≠ t) : (step cfg s u).thr[t]? = s.thr[t]? := by
  rcases step_eq_set (cfg := cfg) s u with h' | ⟨_, _, h'⟩ <;> rw [h']
  exact List.getElem?_set_ne h

theorem run_append (s : State) (a b : List Nat) : run cfg s (a ++ b) = run cfg (run cfg s a) b := by
  simp [run, List.foldl_append]

theorem run_finished_tail (s : State) (a b : List Nat) (h : b.all (finished (run cfg s a)) = true) :
    run cfg s (a ++ b) = run cfg s a := by
  rw [run_append]
  generalize run cfg s a = s' at h ⊢
  induction b with
  | nil => rfl
  | cons t b ih =>
    rw [List.all_cons, Bool.and_eq_true] at h
    show run cfg (step cfg s' t) b = s'
    rw [step_idle (by simp [enabled, h.1])]
    exact ih h.2

/-! ### stuck states -/

theorem stuck_no_enabled {s : State} (h : Stuck cfg s) (u : Nat) : enabled cfg s u = false := by
  unfold enabled
  cases hf : finished s u with
  | true => rfl
  | false => rw [h.2 u hf]; rfl

theorem stuck_run {s : State} (h : Stuck cfg s) (sched : List Nat) : run cfg s sched = s := by
  induction sched with
  | nil => rfl
  | cons t sched ih =>
    show run cfg (step cfg s t) sched = s
    rw [step_idle (stuck_no_enabled h t)]; exact ih

theorem stuck_deadlock {s : State} (h : Stuck cfg s) : Deadlock cfg s := fun sched => by
  rw [stuck_run h sched]; exact h

theorem deadlock_stuck {s : State} (h : Deadlock cfg s) : Stuck cfg s := h []

theorem finished_absent {s : State} {t : Nat} (h : s.thr.length ≤ t) : finished s t = true := by
  unfold finished
  rw [List.getElem?_eq_none h]

theorem stuckB_sound {s : State} (h : stuckB cfg s = true) : Stuck cfg s := by
  unfold stuckB at h
  rw [Bool.and_eq_true] at h
  obtain ⟨h1, h2⟩ := h
  constructor
  · obtain ⟨t, _, ht⟩ := List.any_eq_true.1 h1
    exact ⟨t, by simpa using ht⟩
  · intro t hf
    by_cases hlt : t < s.thr.length
    · have := List.all_eq_true.1 h2 t (List.mem_range.2 hlt)
      rw [hf] at this
      simpa using this
    · rw [finished_absent (Nat.le_of_not_lt hlt)] at hf; cases hf

/-! ### a thread that is alone -/

theorem run_single (sched : List Nat) : ∀ s : State, s.thr.length = 1 →
    run cfg s sched = run cfg s (List.replicate (sched.count 0) 0) := by
  induction sched with
  | nil => intro s _; rfl
  | cons t sched ih =>
    intro s hlen
    by_cases ht : t = 0
    · subst ht
      rw [List.count_cons_self]
      exact ih (step cfg s 0) ((step_length s 0).trans hlen)
    · have hnone : s.thr[t]? = none := List.getElem?_eq_none (by omega)
      show run cfg (step cfg s t) sched = _
      rw [step_idle (by simp [enabled, finished, hnone]), List.count_cons_of_ne ht]
      exact ih s hlen

theorem never_finishes_single {s : State} (hlen : s.thr.length = 1) (N : Nat)
    (hpre : ∀ n, n ≤ N → finished (run cfg s (List.replicate n 0)) 0 = false)
    (hst : Stuck cfg (run cfg s (List.replicate N 0))) (sched : List Nat) :
    finished (run cfg s sched) 0 = false := by
  rw [run_single sched s hlen]
  by_cases hn : sched.count 0 ≤ N
  · exact hpre _ hn
  · have : sched.count 0 = N + (sched.count 0 - N) := by omega
    rw [this, ← List.replicate_append_replicate, run_append, stuck_run hst]
    exact hpre N (Nat.le_refl N)

/-! ### answers: the invariant that ignores guards -/

structure AInv (cfg : Cfg) (post : Nat → List Ans → Prop) (s : State) : Prop where
  inv  : Inv cfg s.c
  good : ∀ (t : Nat) (th : Thread), s.thr[t]? = some th → Good cfg (post t) s.c th.prog

theorem ainv_update {post : Nat → List Ans → Prop} {s : State} (h : AInv cfg post s)
    (t : Nat) (th' : Thread) (cs' : Caches) (hle : Le s.c cs') (hinv : Inv cfg cs')
    (hg : Good cfg (post t) cs' th'.prog) :
    AInv cfg post { c := cs', thr := s.thr.set t th' } :=
  ⟨hinv, forall_thr_set (P := fun u th => Good cfg (post u) cs' th.prog)
    (fun u th hu => good_mono (h.good u th hu) cs' hle) hg⟩

theorem ainv_step_le {post : Nat → List Ans → Prop} {s : State} (h : AInv cfg post s) (t : Nat) :
    AInv cfg post (step cfg s t) ∧ Le s.c (step cfg s t).c := by
  unfold step
  cases ht : s.thr[t]? with
  | none => exact ⟨h, le_refl _⟩
  | some th =>
    obtain ⟨prog, held⟩ := th
    have hg : Good cfg (post t) s.c prog := h.good t _ ht
    cases hg with
    | ret _ => exact ⟨h, le_refl _⟩
    | get hk | has hk => exact ⟨ainv_update h t _ s.c (le_refl _) h.inv (hk s.c (le_refl _) h.inv), le_refl _⟩
    | ins hc hk =>
      dsimp only
      split
      · exact ⟨h, le_refl _⟩
      · exact ⟨ainv_update h t _ _ (le_put h.inv hc) (inv_put h.inv hc) (hk _ (le_refl _) (inv_put h.inv hc)),
          le_put h.inv hc⟩
    | drop hk => exact ⟨ainv_update h t _ s.c (le_refl _) h.inv hk, le_refl _⟩

theorem ainv_step {post : Nat → List Ans → Prop} {s : State} (h : AInv cfg post s) (t : Nat) :
    AInv cfg post (step cfg s t) := (ainv_step_le h t).1

theorem ainv_run {post : Nat → List Ans → Prop} (sched : List Nat) :
    ∀ s : State, AInv cfg post s → AInv cfg post (run cfg s sched) := by
  induction sched with
  | nil => intro s h; exact h
  | cons t sched ih => intro s h; exact ih _ (ainv_step h t)

theorem ainv_initP {post : Nat → List Ans → Prop} {c0 : Caches} (h0 : Inv cfg c0)
    {progs : List (Prog (List Ans))} (hg : ∀ t p, progs[t]? = some p → Good cfg (post t) c0 p) :
    AInv cfg post (initP c0 progs) :=
  ⟨h0, forall_thr_initP (P := fun t th => Good cfg (post t) c0 th.prog) hg⟩

theorem ainv_initP_map {σ : Type} (f : σ → Prog (List Ans)) (ans : σ → List Ans) (d : σ)
    (hg : ∀ x, Returns cfg (f x) (ans x)) {c0 : Caches} (h0 : Inv cfg c0) (xs : List σ) :
    AInv cfg (fun t as => as = ans (xs.getD t d)) (initP c0 (xs.map f)) := by
  refine ainv_initP h0 fun t p hp => ?_
  rw [List.getElem?_map, Option.map_eq_some_iff] at hp
  obtain ⟨x, hx, rfl⟩ := hp
  have hxs : xs.getD t d = x := by simp [List.getD_eq_getElem?_getD, hx]
  rw [hxs]
  exact hg x c0

theorem ainv_answer {post : Nat → List Ans → Prop} {s : State} (h : AInv cfg post s) {t : Nat} {th : Thread}
    {as : List Ans} (ht : s.thr[t]? = some th) (hp : th.prog = .ret as) : post t as := by
  have hg := h.good t th ht
  rw [hp] at hg
  cases hg with
  | ret h => exact h

theorem ainv_insert {post : Nat → List Ans → Prop} {s : State} (h : AInv cfg post s) {t : Nat} {th : Thread}
    {c : CacheId} {k : Name} {v : V} {cont : Prog (List Ans)} (ht : s.thr[t]? = some th)
    (hp : th.prog = .ins c k v cont) : Correct cfg c k v := by
  have hg := h.good t th ht
  rw [hp] at hg
  cases hg with
  | ins hc _ => exact hc

/-! ### guards: the discipline alone -/

def SInv (s : State) : Prop :=
  ∀ (t : Nat) (th : Thread), s.thr[t]? = some th → Safe (!th.held.isEmpty) th.prog ∧ th.held.length ≤ 1

theorem held_cases {prog : Prog (List Ans)} {held : List (CacheId × Name)}
    (h : Safe (!held.isEmpty) prog ∧ held.length ≤ 1) :
    (held = [] ∧ Safe false prog) ∨ ∃ x cont, held = [x] ∧ prog = .drop cont ∧ Safe false cont :=
  match held, h with
  | [], ⟨hs, _⟩ => .inl ⟨rfl, hs⟩
  | [x], ⟨hs, _⟩ => by
    have hs : Safe true prog := hs
    cases hs with
    | drop s0 => exact .inr ⟨x, _, rfl, rfl, s0⟩
  | _ :: _ :: _, ⟨_, hl⟩ => by simp at hl

theorem sinv_step {s : State} (h : SInv s) (t : Nat) : SInv (step cfg s t) := by
  unfold step
  cases ht : s.thr[t]? with
  | none => exact h
  | some th =>
    obtain ⟨prog, held⟩ := th
    rcases held_cases (h t _ ht) with ⟨rfl, hs⟩ | ⟨x, cont, rfl, rfl, hs⟩
    · cases hs with
      | ret => exact h
      | get s0 s1 =>
        refine forall_thr_set h ?_
        cases look _ _ s.c with
        | none => exact ⟨s0, Nat.zero_le _⟩
        | some v => exact ⟨s1 v, Nat.le_refl _⟩
      | has s0 => exact forall_thr_set h ⟨s0 _, Nat.zero_le _⟩
      | ins s0 =>
        dsimp only
        split
        · exact h
        · exact forall_thr_set h ⟨s0, Nat.zero_le _⟩
    · exact forall_thr_set h ⟨hs, Nat.zero_le _⟩

theorem sinv_run (sched : List Nat) : ∀ s : State, SInv s → SInv (run cfg s sched) := by
  induction sched with
  | nil => intro s h; exact h
  | cons t sched ih => intro s h; exact ih _ (sinv_step h t)

theorem sinv_initP (c0 : Caches) {progs : List (Prog (List Ans))} (hs : ∀ p ∈ progs, Safe false p) :
    SInv (initP c0 progs) :=
  forall_thr_initP fun _ p hp => ⟨hs p (List.mem_of_getElem? hp), Nat.zero_le _⟩

theorem sinv_one_guard {s : State} (h : SInv s) {t : Nat} {th : Thread} (ht : s.thr[t]? = some th) :
    th.held.length ≤ 1 := (h t th ht).2

theorem sinv_holder_drops {s : State} (h : SInv s) {t : Nat} {th : Thread} (ht : s.thr[t]? = some th)
    (hh : th.held ≠ []) : ∃ cont, th.prog = .drop cont := by
  rcases held_cases (h t th ht) with ⟨h0, _⟩ | ⟨_, cont, _, hp, _⟩
  · exact absurd h0 hh
  · exact ⟨cont, hp⟩

theorem sinv_holder_enabled {s : State} (h : SInv s) {t : Nat} {th : Thread} (ht : s.thr[t]? = some th)
    (hh : th.held ≠ []) : enabled cfg s t = true := by
  obtain ⟨cont, hp⟩ := sinv_holder_drops h ht hh
  simp [enabled, finished, blocked, ht, hp, Prog.isRet]

theorem blocked_at_ins {s : State} {t : Nat} (hb : blocked cfg s t = true) :
    ∃ th c k v cont, s.thr[t]? = some th ∧ th.prog = .ins c k v cont := by
  unfold blocked at hb
  cases ht : s.thr[t]? with
  | none => rw [ht] at hb; cases hb
  | some th =>
    rw [ht] at hb
    cases hp : th.prog with
    | ins c k v cont => exact ⟨th, c, k, v, cont, rfl, hp⟩
    | _ => simp [hp] at hb

theorem blocked_some_holder {s : State} {t : Nat} (hb : blocked cfg s t = true) :
    ∃ (u : Nat) (tu : Thread), s.thr[u]? = some tu ∧ tu.held ≠ [] := by
  obtain ⟨th, c, k, v, cont, ht, hp⟩ := blocked_at_ins hb
  simp only [blocked, ht, hp, shardHeld] at hb
  obtain ⟨tu, hu, hany⟩ := List.any_eq_true.1 hb
  obtain ⟨u, hu⟩ := List.mem_iff_getElem?.1 hu
  exact ⟨u, tu, hu, fun hnil => by simp [hnil] at hany⟩

theorem sinv_blocked_holds_nothing {s : State} (h : SInv s) {t : Nat} (hb : blocked cfg s t = true) :
    ∃ th, s.thr[t]? = some th ∧ th.held = [] := by
  obtain ⟨th, c, k, v, cont, ht, hp⟩ := blocked_at_ins hb
  rcases held_cases (h t th ht) with ⟨h0, _⟩ | ⟨_, _, _, hp', _⟩
  · exact ⟨th, ht, h0⟩
  · rw [hp] at hp'; cases hp'

/-- the guard that blocks a thread is held by a thread that is enabled -/
theorem sinv_some_enabled {s : State} (h : SInv s) (t : Nat) (hf : finished s t = false) :
    ∃ u, enabled cfg s u = true := by
  by_cases hb : blocked cfg s t = true
  · obtain ⟨u, tu, hu, hh⟩ := blocked_some_holder hb
    exact ⟨u, sinv_holder_enabled h hu hh⟩
  · exact ⟨t, by simp [enabled, hf, hb]⟩

/-! ### threads that run query lists: both invariants -/

def postOf (cfg : Cfg) (qss : List (List Query)) (t : Nat) (as : List Ans) : Prop :=
  as = (qss.getD t []).map (pureAns cfg)

structure GInv (cfg : Cfg) (qss : List (List Query)) (s : State) : Prop where
  inv  : Inv cfg s.c
  good : ∀ (t : Nat) (th : Thread), s.thr[t]? = some th → Good cfg (postOf cfg qss t) s.c th.prog
  safe : ∀ (t : Nat) (th : Thread), s.thr[t]? = some th → Safe (!th.held.isEmpty) th.prog ∧ th.held.length ≤ 1

variable {qss : List (List Query)}

theorem GInv.ainv {s : State} (h : GInv cfg qss s) : AInv cfg (postOf cfg qss) s := ⟨h.inv, h.good⟩

theorem GInv.sinv {s : State} (h : GInv cfg qss s) : SInv s := h.safe

theorem ginv_of {s : State} (ha : AInv cfg (postOf cfg qss) s) (hs : SInv s) : GInv cfg qss s :=
  ⟨ha.inv, ha.good, hs⟩

theorem ginv_run (sched : List Nat) (s : State) (h : GInv cfg qss s) : GInv cfg qss (run cfg s sched) :=
  ginv_of (ainv_run sched s h.ainv) (sinv_run sched s h.sinv)

theorem sinv_init (cfg : Cfg) (c0 : Caches) (qss : List (List Query)) : SInv (init cfg c0 qss) := by
  rw [init_eq]
  refine sinv_initP c0 fun p hp => ?_
  obtain ⟨qs, _, rfl⟩ := List.mem_map.1 hp
  exact (lib_runQs qs).1

theorem ginv_init (cfg : Cfg) (c0 : Caches) (h0 : Inv cfg c0) (qss : List (List Query)) :
    GInv cfg qss (init cfg c0 qss) :=
  ginv_of (init_eq cfg c0 qss ▸ ainv_initP_map (runQs cfg) (fun qs => qs.map (pureAns cfg)) []
    (fun qs => (lib_runQs qs).2) h0 qss) (sinv_init cfg c0 qss)

end Hs.NsCache

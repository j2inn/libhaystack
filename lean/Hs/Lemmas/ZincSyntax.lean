/-
  The parameters of the composite readers' statements: separator and terminator of a run of tags (`SepTerm`, `TagSyn`,
  `TermC`), a row line with any blanks after its commas (`RowLineB`), what follows the last row (`GridEnd`, `tailR`,
  `CrOk`), the header's fixed text (`verBytes`, `gridText`), `nodupB`.
-/
import Hs.Lemmas.ZincFollow

namespace Hs.Zinc
open Hs Hs.Scan Hs.Spell

/-! ### tags -/

/-- the two cases of `TagSyn` below that `dictParts` reads: a dict (`st_dict`) and grid meta (`st_meta`) -/
structure SepTerm (sep term : UInt8) : Prop where
  sep : sep = 44 ∨ sep = 32
  term : term = 125 ∨ term = 10

/-- separator and terminator of a run of tags: `,` … `}` in a dict, ` ` … newline in grid meta, ` ` … `,` or
newline in column meta -/
structure TagSyn (sep term : UInt8) : Prop where
  sep : sep = 44 ∨ sep = 32
  term : term = 44 ∨ term = 125 ∨ term = 10

theorem st_dict : SepTerm 44 125 := ⟨Or.inl rfl, Or.inl rfl⟩

theorem st_meta : SepTerm 32 10 := ⟨Or.inr rfl, Or.inr rfl⟩

theorem SepTerm.syn {sep term : UInt8} (st : SepTerm sep term) : TagSyn sep term :=
  ⟨st.sep, st.term.elim (fun h => Or.inr (Or.inl h)) (fun h => Or.inr (Or.inr h))⟩

theorem TagSyn.term_facts {sep term : UInt8} (sy : TagSyn sep term) :
    isLitB term = false ∧ isSpecial term = true ∧ term ≠ 13 ∧ term ≠ 32 ∧ (term == 58) = false := by
  rcases sy.term with h | h | h <;> rw [h] <;> decide

/-- terminator of a column's meta: `,` (more columns) or newline (last column) -/
def TermC (term : UInt8) : Prop := term = 44 ∨ term = 10

theorem TermC.syn {term : UInt8} (st : TermC term) : TagSyn 32 term :=
  ⟨Or.inr rfl, st.elim Or.inl (fun h => Or.inr (Or.inr h))⟩

/-! ### rows and the end of a grid -/

inductive RowLineB (B : List UInt8 → Prop) : List (List Char × List UInt8) → List (List Char) → List UInt8 → Prop
  | one (cells : List (List Char × List UInt8)) (n : List Char) : RowLineB B cells [n] (cellText cells n)
  | cons (cells : List (List Char × List UInt8)) (n n2 : List Char) (ns : List (List Char)) (w rest : List UInt8)
      (hw : B w) (t : RowLineB B cells (n2 :: ns) rest) :
      RowLineB B cells (n :: n2 :: ns) (cellText cells n ++ 44 :: (w ++ rest))

/-- the end of the rows: `>>` and the following text, or the blank line that ends a top-level grid -/
def tailR (nested : Bool) (rest : List UInt8) : List UInt8 := if nested then 62 :: 62 :: rest else [10]

/-- where the scanner is left -/
def finalR (nested : Bool) (rest : List UInt8) : List UInt8 := if nested then rest else []

/-- `GridEnd nested tail final`: what follows the last row's line ending, and where the scanner is left -/
inductive GridEnd : Bool → List UInt8 → List UInt8 → Prop
  | nested (rest : List UInt8) : GridEnd true (62 :: 62 :: rest) rest
  | top : GridEnd false [] []
  | topNl (w nl trail : List UInt8) (hw : Blanks w) (hn : Nl nl) (ht : White trail) : GridEnd false (w ++ (nl ++ trail)) []

theorem GridEnd.white {tail final : List UInt8} (h : GridEnd false tail final) : White tail ∧ final = [] := by
  cases h with
  | top => exact ⟨White.nil, rfl⟩
  | topNl w nl trail hw hn ht => exact ⟨White.append (Blanks.white hw) (White.append (Nl.white hn) ht), rfl⟩

theorem gridEnd_tailR (nested : Bool) (rest : List UInt8) : GridEnd nested (tailR nested rest) (finalR nested rest) := by
  cases nested
  · exact GridEnd.topNl [] [10] [] Blanks.nil Spell.Nl.lf White.nil
  · exact GridEnd.nested rest

/-- a lone CR that is the last byte of the grid text: then the text after the grid does not start with LF
(`tlf = false`) -/
def CrOk (nl rest : List UInt8) (tlf : Bool) : Prop := nl = [13] → rest = [] → tlf = false

/-! ### the grid header -/

/-- `ver:"3.0"` -/
def verBytes : List UInt8 := [118, 101, 114, 58, 34, 51, 46, 48, 34]

theorem isIdent_ver : isIdent ['v', 'e', 'r'] = true := by decide

theorem encChars_ver : encChars ['v', 'e', 'r'] = [118, 101, 114] := by decide

def gridText (m w1 nl1 cl w2 nl2 rw : List UInt8) : List UInt8 :=
  [118, 101, 114, 58, 34, 51, 46, 48, 34] ++ m ++ w1 ++ nl1 ++ cl ++ w2 ++ nl2 ++ rw

theorem gridText_eq (m w1 nl1 cl w2 nl2 rw : List UInt8) :
    gridText m w1 nl1 cl w2 nl2 rw = verBytes ++ (m ++ (w1 ++ (nl1 ++ (cl ++ (w2 ++ (nl2 ++ rw)))))) := by
  simp [gridText, verBytes]

def nodupB : List (List Char) → Bool
  | [] => true
  | k :: ks => !ks.contains k && nodupB ks

theorem nodupB_nodup : ∀ ks : List (List Char), nodupB ks = true → ks.Nodup
  | [], _ => List.Pairwise.nil
  | k :: ks, h => by
    simp only [nodupB, Bool.and_eq_true, Bool.not_eq_eq_eq_not, Bool.not_true] at h
    refine List.nodup_cons.mpr ⟨?_, nodupB_nodup ks h.2⟩
    intro hm
    have : ks.contains k = true := by simpa using hm
    rw [this] at h; exact absurd h.1 (by decide)

end Hs.Zinc

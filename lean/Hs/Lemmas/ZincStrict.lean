/-
  The grammar's decimal `["-"] digits ["." digits]` as a predicate on texts (`strictDec`) and on every finite number
  and coordinate inside a value (`strictV`): what Rust's `Display for f64` prints.  Both directions of C04 assume it of
  the writer's input; no reader function is mentioned.
-/
import Hs.Lemmas.ZincRtUtf8
import Hs.Model.ZincEnc
namespace Hs.Spec
open Hs Hs.Zinc Hs.Scan

def strictBody (body : List UInt8) : Bool :=
  !(body.takeWhile isDigitB).isEmpty &&
    (match body.dropWhile isDigitB with
     | [] => true
     | 46 :: fr => !fr.isEmpty && fr.all isDigitB
     | _ => false)

def strictDec (tb : List UInt8) : Bool :=
  match tb with
  | 45 :: r => strictBody r
  | r => strictBody r

def strictText (txt : List Char) : Bool := strictDec (txt.map byteOf)

def strictNum (n : Num) : Bool :=
  Flt.isNaNBits n.v.bits || Flt.isInfBits n.v.bits || strictText n.v.txt

mutual
/-- `wfV` alone also allows `5.` and `.5`, which `f64::from_str` accepts and the grammar does not -/
def strictV : Val → Bool
  | .num n => strictNum n
  | .coord a b => strictText a.txt && strictText b.txt
  | .list xs => strictVs xs
  | .dict d => strictT d
  | .grid md cols rows _ => strictO md && strictC cols && strictR rows
  | _ => true
def strictVs : Vals → Bool
  | .nil => true
  | .cons v vs => strictV v && strictVs vs
def strictT : Tags → Bool
  | .nil => true
  | .cons _ v t => strictV v && strictT t
def strictO : OTags → Bool
  | .none => true
  | .some t => strictT t
def strictC : Cols → Bool
  | .nil => true
  | .cons _ md c => strictO md && strictC c
def strictR : Rows → Bool
  | .nil => true
  | .cons r rs => strictT r && strictR rs
end

def DecParts (body : List UInt8) : Prop :=
  ∃ (b : UInt8) (ip fp : List UInt8), body = b :: ip ++ fp ∧ (∀ x ∈ b :: ip, isDigitB x = true) ∧
    (fp = [] ∨ ∃ c fr, fp = 46 :: c :: fr ∧ ∀ x ∈ c :: fr, isDigitB x = true)

theorem strictBody_parts {body : List UInt8} (h : strictBody body = true) : DecParts body := by
  simp only [strictBody, Bool.and_eq_true, Bool.not_eq_eq_eq_not, Bool.not_true, List.isEmpty_eq_false_iff] at h
  obtain ⟨h1, h2⟩ := h
  have hsplit : body = body.takeWhile isDigitB ++ body.dropWhile isDigitB := (List.takeWhile_append_dropWhile).symm
  have hall : ∀ x ∈ body.takeWhile isDigitB, isDigitB x = true := by
    have := List.all_takeWhile (p := isDigitB) (l := body)
    rw [List.all_eq_true] at this
    exact this
  cases hip : body.takeWhile isDigitB with
  | nil => exact absurd hip h1
  | cons b ip =>
    rw [hip] at hall hsplit
    refine ⟨b, ip, body.dropWhile isDigitB, hsplit, hall, ?_⟩
    split at h2
    · rename_i heq; exact Or.inl heq
    · rename_i fr heq
      simp only [Bool.and_eq_true, Bool.not_eq_eq_eq_not, Bool.not_true, List.isEmpty_eq_false_iff,
        List.all_eq_true] at h2
      cases fr with
      | nil => exact absurd rfl h2.1
      | cons c fr' => exact Or.inr ⟨c, fr', heq, h2.2⟩
    · simp at h2

end Hs.Spec

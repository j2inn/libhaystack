/-
  C11, decoder image invariant: the vocabulary of the parser's part.  What holds of the token under the cursor
  (`PSok`), of a value returned at depth `d` (`ValOk`; `CollOk` for a collection entered one level down), of the
  entries, columns and cells a loop has collected, and what `Vals.ofList`, `dictOf`, `Cols.ofList`, `Rows.ofList` make
  of such parts.

  Depth: a value returned by `parseValue f d p` satisfies `d + nestV v ≤ 64` (`nestV` counts a tag as one level even
  when its value is the implicit Marker, which the parser reads without a recursive call: that is why the bound is
  `≤ 64` and not `< 64`).
-/
import Hs.Lemmas.ZincImageLeaf
namespace Hs.Zinc
open Hs Hs.Scan

def PSok (p : PS) : Prop := tokInv p.tok

theorem PSok_sc {p : PS} (h : PSok p) (sc : Scan) : PSok { p with sc := sc } := h

theorem PSok_id {p : PS} {key : List Char} (hp : PSok p) (hk : p.tok = .id key) : isIdent key = true := by
  unfold PSok at hp; rwa [hk] at hp

theorem PSok_val {p : PS} {v : Val} (hp : PSok p) (hk : p.tok = .val v) : Scalar v = true ∧ decV v = true := by
  unfold PSok at hp; rwa [hk] at hp

def ValOk (D : Nat) (v : Val) : Prop := decV v = true ∧ D + nestV v ≤ 64

def KV (D : Nat) (kvs : List (List Char × Val)) : Prop := ∀ q ∈ kvs, isIdent q.1 = true ∧ ValOk D q.2

/-- `parse_list`, `parse_dict`, `parse_grid`: `parse_value` calls them with the incremented counter `D = d + 1`, hence
`≤ 65` here where `ValOk d` says `≤ 64` -/
def CollOk (D : Nat) (v : Val) : Prop := decV v = true ∧ D + nestV v ≤ 65

theorem CollOk.val {d : Nat} {v : Val} (h : CollOk (d + 1) v) : ValOk d v := ⟨h.1, by have := h.2; omega⟩

def MetaOk (D : Nat) (md : OTags) : Prop := metaShape md = true ∧ decO md = true ∧ D + nestO md ≤ 65

def ColsInv (D : Nat) (cols : List (List Char × OTags)) : Prop := ∀ c ∈ cols, isIdent c.1 = true ∧ MetaOk D c.2

def RowKV (D : Nat) (cols : List (List Char)) (kvs : List (List Char × Val)) : Prop :=
  ∀ q ∈ kvs, q.1 ∈ cols ∧ ValOk D q.2

def RowInv (D : Nat) (cols : List (List Char)) (row : Tags) : Prop :=
  rowDec cols row = true ∧ decT row = true ∧ D + nestT row ≤ 65

theorem nestV_scalar : ∀ v : Val, Scalar v = true → nestV v = 0
  | .list _, h | .dict _, h | .grid _ _ _ _, h => by simp [Scalar] at h
  | .null, _ | .remove, _ | .marker, _ | .na, _ | .bool _, _ | .num _, _ | .str _, _ | .uri _, _ | .ref _ _, _
  | .sym _, _ | .date _, _ | .time _, _ | .dateTime _, _ | .coord _ _, _ | .xstr _ _, _ => rfl

theorem decVs_ofList : ∀ l : List Val, (∀ x ∈ l, decV x = true) → decVs (Vals.ofList l) = true
  | [], _ => rfl
  | x :: l, h => by
    simp only [Vals.ofList, decVs, Bool.and_eq_true]
    exact ⟨h x (by simp), decVs_ofList l (fun y hy => h y (by simp [hy]))⟩

theorem nestVs_ofList_le (n : Nat) : ∀ l : List Val, (∀ x ∈ l, nestV x + 1 ≤ n) → nestVs (Vals.ofList l) ≤ n
  | [], _ => by simp [Vals.ofList, nestVs]
  | x :: l, h => by
    simp only [Vals.ofList, nestVs]
    have h1 := h x (by simp)
    have h2 := nestVs_ofList_le n l (fun y hy => h y (by simp [hy]))
    omega

/-- every loop of the parser collects into an accumulator by `acc ++ [a]` -/
theorem forall_mem_snoc {α : Type} {P : α → Prop} {acc : List α} {a : α} (h : ∀ x ∈ acc, P x) (ha : P a) :
    ∀ x ∈ acc ++ [a], P x := by
  intro x hx
  rcases List.mem_append.mp hx with hx | hx
  · exact h x hx
  · rw [List.mem_singleton.mp hx]; exact ha

theorem KV_snoc {D : Nat} {acc : List (List Char × Val)} (h : KV D acc) {k : List Char} {v : Val}
    (hk : isIdent k = true) (hv : ValOk D v) : KV D (acc ++ [(k, v)]) :=
  forall_mem_snoc h ⟨hk, hv⟩

theorem ValOk_marker {D : Nat} (h : D ≤ 64) : ValOk D .marker := ⟨rfl, by simp [nestV]; exact h⟩

theorem dict_of_KV {D : Nat} (hD : D ≤ 64) {kvs : List (List Char × Val)} (h : KV D kvs) :
    keysIdent (dictOf kvs) = true ∧ keysSorted (dictOf kvs).keys = true ∧ decT (dictOf kvs) = true ∧
      D + nestT (dictOf kvs) ≤ 65 := by
  refine ⟨keysIdent_of_mem _ (fun p hp => (h p (dictOf_mem kvs p hp)).1), dictOf_sorted kvs,
    decT_of_mem _ (fun p hp => (h p (dictOf_mem kvs p hp)).2.1), ?_⟩
  have := nestT_le_of_mem (65 - D) (dictOf kvs) (fun p hp => by
    have := (h p (dictOf_mem kvs p hp)).2.2
    omega)
  omega

theorem ValOk_scalar {d : Nat} (hd : d ≤ 64) {v : Val} (h : Scalar v = true ∧ decV v = true) : ValOk d v :=
  ⟨h.2, by rw [nestV_scalar v h.1]; exact hd⟩

theorem list_ok {D : Nat} (hD : D ≤ 64) {acc : List Val} (h : ∀ x ∈ acc, ValOk D x) :
    CollOk D (.list (Vals.ofList acc)) := by
  refine ⟨by simp only [decV]; exact decVs_ofList acc (fun x hx => (h x hx).1), ?_⟩
  simp only [nestV]
  have := nestVs_ofList_le (65 - D) acc (fun x hx => by have := (h x hx).2; omega)
  omega

theorem dict_ok {D : Nat} (hD : D ≤ 64) {kvs : List (List Char × Val)} (h : KV D kvs) :
    CollOk D (.dict (dictOf kvs)) := by
  obtain ⟨a, b, c, d⟩ := dict_of_KV hD h
  exact ⟨by simp [decV, a, b, c], by simpa [nestV] using d⟩

/-! ### meta dicts, columns, rows -/

theorem meta_of_KV {D : Nat} (hD : D ≤ 64) {kvs : List (List Char × Val)} (h : KV D kvs)
    (hne : kvs.isEmpty = false) : MetaOk D (.some (dictOf kvs)) := by
  obtain ⟨a, b, c, d⟩ := dict_of_KV hD h
  refine ⟨?_, by simpa [decO] using c, by simpa [nestO] using d⟩
  simp [metaShape, a, b, dictOf_nonempty kvs hne]

theorem ColsInv_snoc {D : Nat} {acc : List (List Char × OTags)} (h : ColsInv D acc) {n : List Char} {md : OTags}
    (hn : isIdent n = true) (hm : MetaOk D md) : ColsInv D (acc ++ [(n, md)]) :=
  forall_mem_snoc h ⟨hn, hm⟩

theorem meta_none (D : Nat) (hD : D ≤ 64) : MetaOk D .none := ⟨rfl, rfl, by simp [nestO]; omega⟩

/-- the grid's meta as `parse_grid_content` makes it of the tags after `ver` -/
theorem meta_ok {D : Nat} (hD : D ≤ 64) {kvs : List (List Char × Val)} (h : KV D kvs) {md : OTags}
    (e : md = if kvs.isEmpty then .none else .some (dictOf kvs)) : MetaOk D md := by
  by_cases c : kvs.isEmpty = true
  · rw [e, if_pos c]; exact meta_none D hD
  · rw [e, if_neg c]; exact meta_of_KV hD h (by simpa using c)

theorem row_of_RowKV {D : Nat} (hD : D ≤ 64) {cols : List (List Char)} {kvs : List (List Char × Val)}
    (h : RowKV D cols kvs) : RowInv D cols (dictOf kvs) := by
  refine ⟨?_, decT_of_mem _ (fun p hp => (h p (dictOf_mem kvs p hp)).2.1), ?_⟩
  · simp only [rowDec, Bool.and_eq_true]
    exact ⟨dictOf_sorted kvs, keysAll_of_mem cols _ (fun p hp => (h p (dictOf_mem kvs p hp)).1)⟩
  · have := nestT_le_of_mem (65 - D) (dictOf kvs) (fun p hp => by
      have := (h p (dictOf_mem kvs p hp)).2.2
      omega)
    omega

theorem colsNE_ofList (l : List (List Char × OTags)) (h : l ≠ []) : colsNE (Cols.ofList l) = true := by
  cases l with
  | nil => exact absurd rfl h
  | cons c l => obtain ⟨n, md⟩ := c; rfl

theorem cols_ofList {D : Nat} (hD : D ≤ 64) : ∀ l : List (List Char × OTags), ColsInv D l →
    colsShapeAux (Cols.ofList l) = true ∧ decC (Cols.ofList l) = true ∧ D + nestC (Cols.ofList l) ≤ 65
  | [], _ => ⟨rfl, rfl, by simp [Cols.ofList, nestC]; omega⟩
  | (n, md) :: l, h => by
    obtain ⟨a, b, c⟩ := cols_ofList hD l (fun x hx => h x (by simp [hx]))
    obtain ⟨h1, h2, h3, h4⟩ := h (n, md) (by simp)
    simp only at h1 h2 h3 h4
    refine ⟨by simp [Cols.ofList, colsShapeAux, h1, h2, a], by simp [Cols.ofList, decC, h3, b], ?_⟩
    simp only [Cols.ofList, nestC]
    omega

theorem rows_ofList {D : Nat} (hD : D ≤ 64) (names : List (List Char)) : ∀ l : List Tags, (∀ x ∈ l, RowInv D names x) →
    rowsDec names (Rows.ofList l) = true ∧ decR (Rows.ofList l) = true ∧ D + nestR (Rows.ofList l) ≤ 65
  | [], _ => ⟨rfl, rfl, by simp [Rows.ofList, nestR]; omega⟩
  | r :: l, h => by
    obtain ⟨a, b, c⟩ := rows_ofList hD names l (fun x hx => h x (by simp [hx]))
    obtain ⟨h1, h2, h3⟩ := h r (by simp)
    refine ⟨by simp [Rows.ofList, rowsDec, h1, a], by simp [Rows.ofList, decR, h2, b], ?_⟩
    simp only [Rows.ofList, nestR]
    omega

theorem grid_ok {D : Nat} (hD : D ≤ 64) {md : OTags} {cols : List (List Char × OTags)} {rows : List Tags}
    {ver : List Char} (hm : MetaOk D md) (hcs : ColsInv D cols)
    (hne : cols ≠ []) (hrows : ∀ x ∈ rows, RowInv D (cols.map (·.1)) x) :
    CollOk D (.grid md (Cols.ofList cols) (Rows.ofList rows) ver) := by
  obtain ⟨c1, c2, c3⟩ := cols_ofList hD cols hcs
  obtain ⟨r1, r2, r3⟩ := rows_ofList hD _ rows hrows
  refine ⟨decV_grid_iff.mpr ⟨hm.1, colsNE_ofList cols hne, c1, ?_, hm.2.1, c2, r2⟩, ?_⟩
  · rw [Cols.names_ofList]
    exact r1
  · simp only [nestV]
    have := hm.2.2
    omega

end Hs.Zinc

/-
  C08: the well-formedness predicate of the full property as an executable check.  `wfO f` evaluates
  `AllO2 f` (every term well formed, literals `OkLit2`), so `WF2 f` is decidable and can be
  established for a concrete tree by evaluation.
-/
import Hs.Lemmas.FilterRtParse
namespace Hs.FText
open Hs Hs.Scan Hs.Zinc

instance (p : Path) : Decidable (WFPath p) := by unfold WFPath; exact inferInstance

def Ors.isNil : Ors → Bool
  | .nil => true
  | _ => false
def Ands.isNil : Ands → Bool
  | .nil => true
  | _ => false

theorem Ors.isNil_iff (o : Ors) : o.isNil = false ↔ o ≠ .nil := by cases o <;> simp [Ors.isNil]
theorem Ands.isNil_iff (a : Ands) : a.isNil = false ↔ a ≠ .nil := by cases a <;> simp [Ands.isNil]

mutual
def wfT : Term → Bool
  | .parens o => !o.isNil && wfO o
  | .has p => decide (WFPath p ∧ p ≠ kwNot)
  | .missing p => decide (WFPath p)
  | .isA s => decide (SymSeg s)
  | .weq p r => decide ((WFPath p ∧ p ≠ kwNot) ∧ RefSeg r.id)
  | .rel r t ref =>
    decide (IdSeg r) &&
      (match t with
       | some x => decide (SymSeg x)
       | Option.none => true) &&
      (match ref with
       | some rv => decide (RefSeg rv.id)
       | Option.none => true)
  | .cmp p _ v => decide ((WFPath p ∧ p ≠ kwNot) ∧ OkLit2 v)
def wfA : Ands → Bool
  | .nil => true
  | .cons t ts => wfT t && wfA ts
def wfO : Ors → Bool
  | .nil => true
  | .cons a as => (!a.isNil && wfA a) && wfO as
end

mutual
theorem wfT_iff : (t : Term) → (wfT t = true ↔ OkT2 t)
  | .parens o => by
    simp only [wfT, OkT2, Bool.and_eq_true, Bool.not_eq_eq_eq_not, Bool.not_true, Ors.isNil_iff, wfO_iff o]
  | .has p => by simp [wfT, OkT2]
  | .missing p => by simp [wfT, OkT2]
  | .isA s => by simp [wfT, OkT2]
  | .weq p r => by simp [wfT, OkT2]
  | .rel r t ref => by
    cases t <;> cases ref <;> simp [wfT, OkT2, and_assoc]
  | .cmp p _ v => by simp [wfT, OkT2]
theorem wfA_iff : (a : Ands) → (wfA a = true ↔ AllA2 a)
  | .nil => by simp [wfA, AllA2]
  | .cons t ts => by simp only [wfA, AllA2, Bool.and_eq_true, wfT_iff t, wfA_iff ts]
theorem wfO_iff : (o : Ors) → (wfO o = true ↔ AllO2 o)
  | .nil => by simp [wfO, AllO2]
  | .cons a as => by
    simp only [wfO, AllO2, Bool.and_eq_true, Bool.not_eq_eq_eq_not, Bool.not_true, Ands.isNil_iff, wfA_iff a,
      wfO_iff as]
end

instance (t : Term) : Decidable (OkT2 t) := decidable_of_iff _ (wfT_iff t)
instance (a : Ands) : Decidable (AllA2 a) := decidable_of_iff _ (wfA_iff a)
instance (o : Ors) : Decidable (AllO2 o) := decidable_of_iff _ (wfO_iff o)

/-- the well-formedness predicate of the property: a non-empty `Or` of non-empty `And`s of well-formed
terms, at most 64 nested groups -/
def WF2 (f : Ors) : Prop := f ≠ .nil ∧ AllO2 f ∧ nestO f ≤ 64

instance (f : Ors) : Decidable (WF2 f) :=
  decidable_of_iff (f.isNil = false ∧ AllO2 f ∧ nestO f ≤ 64) (by simp [WF2, Ors.isNil_iff])

end Hs.FText

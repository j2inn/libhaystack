/-
  C01 ladder, grids: the grid header (`<<`, `ver:"3.0"`, meta, column line) and `parse_grid`.  The reads from the `:`
  after `ver` to the line end after the column line and then through the rows are proved for any spelling; what they
  establish is a statement of its own (`GridReads`; its first part, `HeaderReads`, is what `gridHeader` needs, for the lazy
  reader too: `gridHeader_of_reads`), from which `parse_grid` is followed once for both ways of entering it (on `<<`, or
  on `ver` at top level).  The writer's text is the case without blanks, every line ended by LF.
-/
import Hs.Lemmas.ZincRtCols
import Hs.Lemmas.ZincRtRows
namespace Hs.Zinc
open Hs Hs.Scan

/-- `:"3.0"`: what follows the name `ver` in `verBytes` -/
def verArg : List UInt8 := verBytes.drop 3

def MetaOkG : OTags → Prop
  | .none => True
  | .some t => t.isEmpty = false ∧ keysIdent t = true ∧ keysSorted t.keys = true ∧ RdTags 32 10 t

theorem MetaOkG.spelled {md : OTags} (hmd : MetaOkG md) :
    MetaOkD (RdTagsD (EndRt 10) 9 dictParts 10) md (metaPart md) := by
  cases md with
  | none => exact .none
  | some t =>
    obtain ⟨hne, hki, hks, hrt⟩ := hmd
    cases t with
    | nil => simp [Tags.isEmpty] at hne
    | cons k v t' => exact .some k v t' [32] _ blanks_one (by simp) hks (RdLoop.spelled (loop := dictParts) st_meta.syn hki hrt)

section
open Hs.Spell

theorem header_metaD {D : List UInt8 → Prop} {E : List UInt8 → List UInt8 → Prop} {K : Nat} (h10 : Ends D 10 E)
    {md : OTags} {m : List UInt8} (hmd : MetaOkD (RdTagsD E K dictParts 10) md m)
    (depth g : Nat) (s0 : Scan) (ending after : List UInt8) (hE : E ending after) (hne : after ≠ [])
    (hat : At s0 (verArg ++ (m ++ ending))) (hs : s0.stash = [])
    (hf : 4 * m.length + (ending.length - after.length) + K + 12 ≤ g) (hd : depth + nestO md ≤ 64) :
    ∃ (sQ : Scan) (p3 p4 : PS) (mkvs : List (List Char × Val)),
      lexRead g s0 = .ok { sc := s0.advance, tok := .ch 58 } ∧
      lexRead g s0.advance = .ok { sc := sQ, tok := .val (.str ['3', '.', '0']) } ∧
      lexRead g sQ = .ok p3 ∧
      dictParts g depth p3 false [] = .ok (mkvs, p4) ∧ p4.tok = .ch 10 ∧
      (if mkvs.isEmpty then OTags.none else OTags.some (dictOf mkvs)) = lexImgO md ∧
      At p4.sc after ∧ p4.sc.stash = [] := by
  obtain ⟨g', rfl⟩ : ∃ g', g = g' + 2 := ⟨g - 2, by omega⟩
  have h1 := hat.advance
  have hs1 : s0.advance.stash = [] := advance_clean hs
  have hq : encQuoted ['3', '.', '0'] = [34, 51, 46, 48, 34] := by decide
  obtain ⟨sQ, eQ, hQ, hsQ⟩ := lexRead_str ['3', '.', '0'] _ (quoted_encQuoted _) s0.advance (m ++ ending)
    (g' + 2) (by rw [hq]; simpa using h1) hs1 (by rw [hq]; simp; omega)
  refine ⟨sQ, ?_⟩
  have e1 := lexRead_special hat (by decide) (by decide) (g' + 1)
  cases hmd with
  | none =>
    simp only [List.nil_append, List.length_nil] at hQ hf
    obtain ⟨s', e, h', hs'⟩ := h10.lex hE sQ (Post.of_clean hQ hsQ) (g' + 2) (by omega)
    refine ⟨{ sc := s', tok := .ch 10 }, { sc := s', tok := .ch 10 }, [], e1, eQ, e, ?_, rfl, by simp [lexImgO], h', hs'⟩
    rw [dictParts]
    simp [isEof_mk, h'.eof_of_ne_nil hne]
  | some k v t' w body hw hwne hks hrt =>
    simp only [List.length_append] at hf
    obtain ⟨s2, p4, e2, e4, ht4, h4, hs4, _⟩ := hrt.enter hw depth (g' + 2) (g' + 2) sQ false [] hE
      (Pre.of_clean (by simpa using hQ) hsQ) (by omega) (by omega) (by simpa [nestO] using hd)
    have hdict : dictOf (lexImgT (.cons k v t')).toList = lexImgT (.cons k v t') :=
      dictOf_toList _ (by rw [lexImgT_keys]; exact hks)
    refine ⟨_, p4, _, e1, eQ, e2, by simpa using e4, ht4, ?_, h4, hs4⟩
    have hdict' : dictOf ((k, lexImg v) :: (lexImgT t').toList) = Tags.cons k (lexImg v) (lexImgT t') := by
      simpa [lexImgT, Tags.toList] using hdict
    simp [lexImgT, Tags.toList, lexImgO, hdict']

/-- what `gridHeader` reads from the `:` after `ver` to the line end after the column line, on which it leaves `p5`:
the version string, the meta, the column line -/
def HeaderReads (md : OTags) (cols : Cols) (depth g : Nat) (s0 : Scan) (p5 : PS) : Prop :=
  ∃ (sQ : Scan) (p3 p4 : PS) (mkvs : List (List Char × Val)),
    lexRead g s0 = .ok { sc := s0.advance, tok := .ch 58 } ∧
    lexRead g s0.advance = .ok { sc := sQ, tok := .val (.str ['3', '.', '0']) } ∧
    lexRead g sQ = .ok p3 ∧
    dictParts g depth p3 false [] = .ok (mkvs, p4) ∧ p4.tok = .ch 10 ∧
    (if mkvs.isEmpty then OTags.none else OTags.some (dictOf mkvs)) = lexImgO md ∧
    gridColumns g depth p4 [] = .ok ((lexImgC cols).toList, p5) ∧ p5.tok = .ch 10

/-- `e1` is the line end after the meta `m`, `e2` the one after the column line `cl` -/
theorem header_chainD {D : List UInt8 → Prop} {E : UInt8 → List UInt8 → List UInt8 → Prop} {K : Nat} (L : LineEnds D E)
    {md : OTags} {cols : Cols} {m cl e1 e2 region : List UInt8}
    (hmd : MetaOkD (RdTagsD (E 10) K dictParts 10) md m)
    (hcok : ColsOkD (fun term => RdTagsD (E term) K colMetaL term) cols cl)
    (hE1 : E 10 e1 (cl ++ e2)) (hE2 : E 10 e2 region) (hcl : cl ≠ []) (depth g : Nat) (s0 : Scan)
    (hat : At s0 (verArg ++ (m ++ e1))) (hs : s0.stash = [])
    (hf : 4 * (m.length + cl.length) + (e1.length - (cl ++ e2).length) + (e2.length - region.length) + K + 12 ≤ g)
    (hd : depth + nestO md ≤ 64 ∧ depth + nestC cols ≤ 64) :
    ∃ p5 : PS, HeaderReads md cols depth g s0 p5 ∧ At p5.sc region ∧ p5.sc.stash = [] := by
  obtain ⟨sQ, p3, p4, mkvs, e1', e2', e3, e4, ht4, hmdeq, h4, hs4⟩ := header_metaD L.nl hmd depth g s0 e1 (cl ++ e2) hE1
    (by simp [hcl]) hat hs (by simp only [List.length_append] at hf ⊢; omega) hd.1
  obtain ⟨p5, e5, ht5, h5, hs5⟩ := gridColumnsD L hcok depth g p4 [] e2 region [] hE2 Blanks.nil
    (Pre.of_clean (by simpa using h4) hs4)
    (by simp only [List.length_append, List.length_nil] at hf ⊢; omega) hd.2
  exact ⟨p5, ⟨sQ, p3, p4, mkvs, e1', e2', e3, e4, ht4, hmdeq, by simpa using e5, ht5⟩, h5, hs5⟩

end

theorem header_chain (md : OTags) (hmd : MetaOkG md)
    (n : List Char) (cm : OTags) (c : Cols) (hcok : ColsOk (.cons n cm c))
    (depth g : Nat) (s0 : Scan) (region : List UInt8)
    (hat : At s0 (58 :: 34 :: 51 :: 46 :: 48 :: 34 :: (metaPart md ++ 10 :: (encCols (.cons n cm c) ++ 10 :: region))))
    (hs : s0.stash = []) (hf : 4 * ((metaPart md).length + colsLen (.cons n cm c)) + 40 ≤ g)
    (hd : depth + nestO md ≤ 64 ∧ depth + nestC (.cons n cm c) ≤ 64) :
    ∃ p5 : PS, HeaderReads md (.cons n cm c) depth g s0 p5 ∧ At p5.sc region ∧ p5.sc.stash = [] := by
  have := encCols_length n cm c
  exact header_chainD LineEnds.writer hmd.spelled (ColsOk.spelled n cm c hcok) (e1 := 10 :: (encCols (.cons n cm c) ++ 10 :: region)) rfl rfl
    (encCols_ne_nil hcok.1) depth g s0 (by simpa [verArg, verBytes] using hat) hs (by simp; omega) hd

theorem rowsLoop_all (names : List (List Char)) (single nested : Bool) (rest : List UInt8)
    (hne : names ≠ []) (hsingle : names.length = 1 → single = true) (depth : Nat)
    (rows : Rows) (hok : RowsOk names single rows) (hdep : depth + nestR rows ≤ 64)
    (g : Nat) (sc6 : Scan) (hat : At sc6 (encRows rows names single ++ tailR nested rest)) (hs : sc6.stash = [])
    (hf : 4 * (encRows rows names single).length + 20 ≤ g) :
    ∃ p6 r', lexRead g sc6 = .ok p6 ∧
      rowsLoop (g + 1) depth { p := p6, nestedStart := nested, nestedEnd := false } names []
        = .ok ((lexImgR rows).toList, r') ∧
      At r'.p.sc (finalR nested rest) ∧ r'.p.sc.stash = [] :=
  rows_all_lines names nested true _ _ (gridEnd_tailR nested rest) (fun h => by cases h) depth rows _
    (hok.lines hne hsingle) hdep g sc6 hat hs hf (fun h => by subst h; simp only [tailR]; simp; omega)

structure GridOkG (md : OTags) (cols : Cols) (rows : Rows) (ver : List Char) : Prop where
  okVer : ver = ['3', '.', '0']
  okMeta : MetaOkG md
  okCols : ColsOk cols
  okRows : RowsOk cols.names (cols.length == 1) rows

/-- what `parse_grid` does from the `:` after `ver` on: the header, the first token of the rows, and the rows up to the
end of the grid, where the scanner is left at `final` -/
def GridReads (md : OTags) (cols : Cols) (rows : Rows) (nested : Bool) (depth g : Nat) (s0 : Scan) (final : List UInt8) :
    Prop :=
  ∃ (p5 p6 : PS) (r' : RowState), HeaderReads md cols depth g s0 p5 ∧ lexRead g p5.sc = .ok p6 ∧
    rowsLoop (g + 1) depth { p := p6, nestedStart := nested, nestedEnd := false } cols.names []
      = .ok ((lexImgR rows).toList, r') ∧
    At r'.p.sc final ∧ r'.p.sc.stash = []

section
open Hs.Spell

theorem parseGrid_tailD {D : List UInt8 → Prop} {E : UInt8 → List UInt8 → List UInt8 → Prop} {K : Nat} (L : LineEnds D E)
    {md : OTags} {cols : Cols} {rows : Rows} {m cl rw e1 e2 tail final : List UInt8} {tlf nested : Bool}
    (hmd : MetaOkD (RdTagsD (E 10) K dictParts 10) md m)
    (hcok : ColsOkD (fun term => RdTagsD (E term) K colMetaL term) cols cl)
    (hrows : Lines cols.names tlf rows rw)
    (hE1 : E 10 e1 (cl ++ e2)) (hE2 : E 10 e2 (rw ++ tail)) (hcl : cl ≠ [])
    (hE : GridEnd nested tail final) (htl : tlf = false → tail.head? ≠ some 10) (depth g : Nat) (s0 : Scan)
    (hat : At s0 (verArg ++ (m ++ e1))) (hs : s0.stash = [])
    (hf : 4 * (m.length + cl.length + rw.length) + (e1.length - (cl ++ e2).length) + (e2.length - (rw ++ tail).length)
      + K + 24 ≤ g)
    (hfu : nested = false → 4 * rw.length + tail.length + 20 ≤ g)
    (hd : depth + nestO md ≤ 64 ∧ depth + nestC cols ≤ 64 ∧ depth + nestR rows ≤ 64) :
    GridReads md cols rows nested depth g s0 final := by
  obtain ⟨p5, hh, h5, hs5⟩ := header_chainD L hmd hcok hE1 hE2 hcl depth g s0 hat hs (by omega) ⟨hd.1, hd.2.1⟩
  obtain ⟨p6, r', e6, e7, h7, hs7⟩ := rows_all_lines cols.names nested tlf tail final hE htl depth rows rw hrows hd.2.2 g
    p5.sc h5 hs5 (by omega) (fun h => by have := hfu h; omega)
  exact ⟨p5, p6, r', hh, e6, e7, h7, hs7⟩

end

theorem parseGrid_tail (md : OTags) (n : List Char) (cm : OTags) (c : Cols) (rows : Rows) (ver : List Char)
    (hok : GridOkG md (.cons n cm c) rows ver) (nested : Bool) (rest : List UInt8) (depth g : Nat) (s0 : Scan)
    (hat : At s0 (verArg ++ (metaPart md ++ 10 :: (encCols (.cons n cm c) ++ 10 ::
      (encRows rows (Cols.names (.cons n cm c)) (Cols.length (.cons n cm c) == 1) ++ tailR nested rest)))))
    (hs : s0.stash = [])
    (hf : 4 * ((metaPart md).length + colsLen (.cons n cm c)
      + (encRows rows (Cols.names (.cons n cm c)) (Cols.length (.cons n cm c) == 1)).length) + 40 ≤ g)
    (hd : depth + nestV (.grid md (.cons n cm c) rows ver) ≤ 64) :
    GridReads md (.cons n cm c) rows nested depth g s0 (finalR nested rest) := by
  simp only [nestV] at hd
  have hne : Cols.names (.cons n cm c) ≠ [] := by simp [Cols.names]
  have hlen := encCols_length n cm c
  exact parseGrid_tailD LineEnds.writer hok.okMeta.spelled (ColsOk.spelled n cm c hok.okCols) (hok.okRows.lines hne (cols_singleW _))
    (e1 := 10 :: (encCols (.cons n cm c) ++ 10 :: _)) rfl rfl (encCols_ne_nil hok.okCols.1) (gridEnd_tailR nested rest) (fun h => by cases h) depth g s0
    (by simpa using hat) hs (by simp; omega)
    (fun h => by subst h; simp only [tailR]; simp; omega) ⟨by omega, by omega, by omega⟩

section
open Hs.Spell

/-- `gridHeader` on such a header, entered on `ver` (top level) or on `<<`; `p6` is the first token after the column
line, which the row iterator starts on -/
theorem gridHeader_of_reads {md : OTags} {cols : Cols} {nested : Bool} {depth g : Nat} {s0 : Scan} {p5 p6 : PS}
    (hr : HeaderReads md cols depth g s0 p5) (e6 : lexRead g p5.sc = .ok p6) (p : PS)
    (hp : (nested = false ∧ p = { sc := s0, tok := .id ['v', 'e', 'r'] }) ∨
      (nested = true ∧ p.tok = .ch 60 ∧ ∃ s2 s3, lexRead g p.sc = .ok { sc := s2, tok := .ch 60 } ∧
        consumeWhiteSpaces (g + 1) s2 = .ok s3 ∧ lexRead g s3 = .ok { sc := s0, tok := .id ['v', 'e', 'r'] })) :
    gridHeader (g + 1) depth p = .ok ((lexImgO md, (lexImgC cols).toList, ['3', '.', '0']),
      { p := p6, nestedStart := nested, nestedEnd := false }) := by
  obtain ⟨sQ, p3, p4, mkvs, e1, e2, e3, e4, ht4, hmd, e5, ht5⟩ := hr
  have i4 : PS.isChar p4 10 = true := by unfold PS.isChar; rw [ht4]; rfl
  have i5 : PS.isChar p5 10 = true := by unfold PS.isChar; rw [ht5]; rfl
  rw [gridHeader]
  generalize hst : (if p.isChar 60 = true then _ else (Res.ok (false, p) : Res (Bool × PS))) = start
  have hstart : start = .ok (nested, { sc := s0, tok := .id ['v', 'e', 'r'] }) := by
    rcases hp with ⟨rfl, rfl⟩ | ⟨rfl, ht, s2, s3, a, b, c⟩
    · exact hst.symm
    · have c1 : PS.isChar p 60 = true := by unfold PS.isChar; rw [ht]; rfl
      have c2 : PS.isChar { sc := s2, tok := .ch 60 } 60 = true := rfl
      rw [← hst]
      simp only [c1, if_true, PS.read, a, c2, Bool.not_true, Bool.false_eq_true, if_false, b, c]
  have c4 : ∀ sc : Scan, PS.isChar { sc := sc, tok := .ch 58 } 58 = true := fun _ => rfl
  simp only [hstart, PS.read, e1, e2, e3, e4, i4, e5, i5, e6, hmd, c4]
  simp

theorem parseGrid_of_reads {md : OTags} {cols : Cols} {rows : Rows} {ver : List Char} {nested : Bool} {depth g : Nat}
    {s0 : Scan} {final : List UInt8} (hver : ver = ['3', '.', '0'])
    (hr : GridReads md cols rows nested depth g s0 final) (p : PS)
    (hp : (nested = false ∧ p = { sc := s0, tok := .id ['v', 'e', 'r'] }) ∨
      (nested = true ∧ p.tok = .ch 60 ∧ ∃ s2 s3, lexRead g p.sc = .ok { sc := s2, tok := .ch 60 } ∧
        consumeWhiteSpaces (g + 1) s2 = .ok s3 ∧ lexRead g s3 = .ok { sc := s0, tok := .id ['v', 'e', 'r'] })) :
    ∃ p' : PS, parseGrid (g + 2) depth p = .ok (lexImg (.grid md cols rows ver), p') ∧ At p'.sc final ∧
      p'.sc.stash = [] := by
  obtain ⟨p5, p6, r', hh, e6, e7, h7, hs7⟩ := hr
  refine ⟨r'.p, ?_, h7, hs7⟩
  rw [parseGrid, gridHeader_of_reads hh e6 p hp]
  simp [lexImgC_names, e7, lexImg, Cols.ofList_toList, Rows.ofList_toList, hver]

theorem RdD_grid (D' : List UInt8 → Prop) {md : OTags} {cols : Cols} {rows : Rows} {ver : List Char}
    {w nl body : List UInt8} (hver : ver = ['3', '.', '0']) (hw : Blanks w) (hn : Nl nl)
    (htail : ∀ (rest : List UInt8) (depth g : Nat) (s0 : Scan),
      At s0 (verArg ++ (body ++ 62 :: 62 :: rest)) → s0.stash = [] → 4 * body.length + 50 ≤ g →
      depth + nestV (.grid md cols rows ver) ≤ 64 → GridReads md cols rows true depth g s0 rest) :
    RdD D' (60 :: 60 :: (w ++ nl ++ (verBytes ++ body) ++ [62, 62])) (lexImg (.grid md cols rows ver))
      (nestV (.grid md cols rows ver)) := by
  intro depth f1 f2 s rest hat hs _ hf1 hf2 hn'
  have hnl : 1 ≤ nl.length := by cases hn <;> simp
  simp only [verBytes, List.length_cons, List.length_append, List.length_nil] at hf1 hf2
  obtain ⟨g1, rfl⟩ : ∃ g, f1 = g + 1 := ⟨f1 - 1, by omega⟩
  obtain ⟨g, rfl⟩ : ∃ g, f2 = g + 3 := ⟨f2 - 3, by omega⟩
  have hndp : ¬ (depth ≥ maxNestingDepth) := by unfold maxNestingDepth; omega
  have hat' : At s (60 :: 60 :: ((w ++ nl) ++ (118 :: 101 :: 114 :: 58 :: 34 :: 51 :: 46 :: 48 :: 34 ::
      (body ++ 62 :: 62 :: rest)))) := by
    simpa [verBytes] using hat
  have h1 := hat'.advance
  have h2 := h1.advance
  have hs2 : s.advance.advance.stash = [] := advN_stash_nil 2 s hs
  obtain ⟨s3, hcw, h3, hs3⟩ := cws_white (w ++ nl) (White.append (Blanks.white hw) (Nl.white hn)) _
    (Or.inr (firstW_cons 118 _ (by decide)).ok) s.advance.advance (g + 1) h2 hs2
    (by simp only [List.length_append]; omega)
  obtain ⟨e0, h0⟩ := lexRead_id ['v', 'e', 'r'] isIdent_ver s3 _ g
    (by rw [encChars_ver]; exact h3) (Stop_cons (by decide)) (by simp; omega)
  simp only [List.length_cons, List.length_nil] at e0 h0
  have hsp1 : lexRead g s.advance = .ok { sc := s.advance.advance, tok := .ch 60 } := by
    obtain ⟨g', rfl⟩ : ∃ g', g = g' + 1 := ⟨g - 1, by omega⟩
    exact lexRead_special h1 (by decide) (by decide) g'
  obtain ⟨p', e, h7, hs7⟩ := parseGrid_of_reads hver
    (htail rest (depth + 1) g _ h0 (advN_stash_nil _ _ hs3) (by omega) (by omega)) { sc := s.advance, tok := .ch 60 }
    (Or.inr ⟨rfl, rfl, _, s3, hsp1, hcw, e0⟩)
  refine ⟨{ sc := s.advance, tok := .ch 60 }, p', lexRead_special hat' (by decide) (by decide) g1,
    fun _ => h1.eof, Or.inr (Or.inr rfl), ?_, Post.of_clean h7 hs7⟩
  rw [parseValue]
  simp only [hndp, if_false]
  exact e

theorem fromBytes_grid_of {md : OTags} {cols : Cols} {rows : Rows} {ver : List Char} {lead body tail : List UInt8}
    (hver : ver = ['3', '.', '0']) (hl : Blanks lead)
    (htail : ∀ (g : Nat) (s0 : Scan), At s0 (verArg ++ (body ++ tail)) → s0.stash = [] →
      4 * body.length + tail.length + 50 ≤ g → GridReads md cols rows false 1 g s0 []) :
    fromBytes (lead ++ (verBytes ++ body) ++ tail) = .ok (lexImg (.grid md cols rows ver)) := by
  unfold fromBytes
  generalize hfu : fuelFor (lead ++ (verBytes ++ body) ++ tail).length = fuel
  have hfuel : 8 * (lead.length + (9 + body.length) + tail.length) + 64 = fuel := by
    rw [← hfu]; simp [fuelFor, verBytes]; omega
  obtain ⟨g, rfl⟩ : ∃ g, fuel = g + 3 := ⟨fuel - 3, by omega⟩
  have hat : At (Scan.make (lead ++ (verBytes ++ body) ++ tail)) (lead ++ (verBytes ++ body) ++ tail) := At_make_all _
  have hs : (Scan.make (lead ++ (verBytes ++ body) ++ tail)).stash = [] := by
    cases hx : lead ++ (verBytes ++ body) ++ tail <;> rfl
  generalize Scan.make (lead ++ (verBytes ++ body) ++ tail) = s at hat hs
  have hat' : At s (lead ++ (encChars ['v', 'e', 'r'] ++ (58 :: 34 :: 51 :: 46 :: 48 :: 34 :: (body ++ tail)))) := by
    rw [encChars_ver]; simpa [verBytes] using hat
  obtain ⟨s0, e0, h0, hs0⟩ := lexRead_idW lead hl ['v', 'e', 'r'] isIdent_ver s _ (Pre.of_clean hat' hs)
    (Stop_cons (by decide)) (g + 3) (by simp; omega)
  obtain ⟨p', e, _, _⟩ := parseGrid_of_reads hver (htail g _ h0 hs0 (by omega)) _ (Or.inl ⟨rfl, rfl⟩)
  have hndp : ¬ (0 ≥ maxNestingDepth) := by unfold maxNestingDepth; omega
  simp only [e0]
  rw [parseValue]
  simp only [hndp, if_false, e]

end

/-! ### the writer's grids -/

/-- behind `C01.rt_grid` -/
theorem RdVal_grid (md : OTags) (n : List Char) (cm : OTags) (c : Cols) (rows : Rows) (ver : List Char)
    (hok : GridOkG md (.cons n cm c) rows ver) : RdVal (.grid md (.cons n cm c) rows ver) := by
  have := RdD_grid Delim (w := []) (nl := [10]) hok.okVer Blanks.nil Spell.Nl.lf
    (body := metaPart md ++ 10 :: (encCols (.cons n cm c) ++ 10 ::
      encRows rows (Cols.names (.cons n cm c)) (Cols.length (.cons n cm c) == 1)))
    (fun rest depth g s0 hat hs hf hd => by
      rw [gridBody_length] at hf
      exact parseGrid_tail md n cm c rows ver hok true rest depth g s0 (by simpa [tailR] using hat) hs (by omega) hd)
  have e : enc (.grid md (.cons n cm c) rows ver) true = 60 :: 60 :: ([] ++ [10] ++ (verBytes ++ (metaPart md ++ 10 ::
      (encCols (.cons n cm c) ++ 10 :: encRows rows (Cols.names (.cons n cm c)) (Cols.length (.cons n cm c) == 1))))
      ++ [62, 62]) := by
    have := enc_grid_nested md n cm c rows ver []
    simpa [gridBody, tailR] using this
  show RdD Delim (enc (.grid md (.cons n cm c) rows ver) true) _ _
  rw [e]
  exact this

theorem fromBytes_grid (md : OTags) (n : List Char) (cm : OTags) (c : Cols) (rows : Rows) (ver : List Char)
    (hok : GridOkG md (.cons n cm c) rows ver) (hn : nestV (.grid md (.cons n cm c) rows ver) < 64) :
    fromBytes (encode (.grid md (.cons n cm c) rows ver)) = .ok (lexImg (.grid md (.cons n cm c) rows ver)) := by
  have := fromBytes_grid_of (lead := []) (tail := [10]) hok.okVer Blanks.nil
    (body := metaPart md ++ 10 :: (encCols (.cons n cm c) ++ 10 ::
      encRows rows (Cols.names (.cons n cm c)) (Cols.length (.cons n cm c) == 1)))
    (fun g s0 hat hs hf => by
      rw [gridBody_length] at hf
      exact parseGrid_tail md n cm c rows ver hok false [] 1 g s0 (by simpa [tailR] using hat) hs (by omega)
        (by omega))
  unfold encode
  rw [enc_grid_top]
  simpa [gridBody, tailR] using this

end Hs.Zinc

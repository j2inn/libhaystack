/-
  C08, literals: the filter lexer on every literal kind the grammar admits — Str, Uri and Ref display names over ALL
  characters, finite Numbers with a unit of the table, Dates, Times and DateTimes.  The scalar readers are the ones the
  Zinc lexer calls; their framing lemmas (`Hs/Lemmas/ZincRt*.lean`) are stated over `Hs.At` and ask what follows the
  token only for a stop class or `ZoneEnd`, which what follows a literal in filter text provides (`GDelim`,
  `Cont2.zoneEnd`); here they are transported to the `Views` / `Pos` vocabulary of the filter proofs.
-/
import Hs.Lemmas.FilterParse
import Hs.Lemmas.ZincRtLex
import Hs.Lemmas.ZincRtDate
import Hs.Lemmas.ZincRtDateTime
namespace Hs.FText
open Hs Hs.Scan Hs.Zinc

/-! ### continuations -/

/-- what follows a literal in printed filter text: nothing or a space -/
def GDelim (rest : List UInt8) : Prop := rest = [] ∨ ∃ r, rest = 32 :: r

theorem GDelim.stop {P : UInt8 → Bool} {rest : List UInt8} (h : GDelim rest) (hP : P 32 = false) : Stop P rest := by
  rcases h with rfl | ⟨r, rfl⟩
  · exact Stop_nil _
  · exact Stop_cons hP

theorem Cont.gdelim {rest T : List UInt8} (h : Cont rest T) : GDelim rest := by
  rcases h with ⟨h, _⟩ | ⟨h, _⟩
  · exact Or.inl h
  · exact Or.inr ⟨T, h⟩

theorem Cont2.zoneEnd {rest T : List UInt8} (h : Cont2 rest T) : ZoneEnd rest := by
  obtain ⟨hC, hU⟩ := h
  rcases hC with ⟨rfl, _⟩ | ⟨rfl, c, r, rfl, _⟩
  · exact ⟨Stop_nil _, Or.inl rfl⟩
  · exact ⟨Stop_cons (by decide), Or.inr (Or.inr ⟨c, r, rfl, hU c r rfl⟩)⟩

/-! ### Str, Uri, Ref display names: all characters -/

theorem lexRead_strLit (cs : List Char) (rest : List UInt8) (F : Nat) (s : Scan)
    (hs : Views s (encQuoted cs ++ rest)) (hf : (encQuoted cs).length ≤ F) :
    ∃ s', lexRead (F + 1) s = .ok s' (.val (.str cs)) ∧ Views s' rest := by
  obtain ⟨hat, hst⟩ := hs.clean
  obtain ⟨s', h1, h', hs'⟩ := parseStr_rt cs s rest F hat hf
  refine ⟨s', ?_, Clean.views ⟨h', hs' hst⟩⟩
  have hs' : Views s (34 :: (cs.flatMap encStrChar ++ [34] ++ rest)) := by simpa [encQuoted] using hs
  rw [lexRead_quote F s (Views.cons_eof hs') (Views.cons_cur hs'), h1]

theorem lexRead_uriLit (cs : List Char) (rest : List UInt8) (F : Nat) (s : Scan)
    (hs : Views s (encUri cs ++ rest)) (hf : (encUri cs).length ≤ F) :
    ∃ s', lexRead (F + 1) s = .ok s' (.val (.uri cs)) ∧ Views s' rest := by
  obtain ⟨hat, hst⟩ := hs.clean
  obtain ⟨s', h1, h2, h3⟩ := parseUri_rt cs s rest F hat hst hf
  refine ⟨s', ?_, Clean.views ⟨h2, h3⟩⟩
  have hs' : Views s (96 :: (cs.flatMap encUriChar ++ [96] ++ rest)) := by simpa [encUri] using hs
  rw [lexRead_backtick F s (Views.cons_eof hs') (Views.cons_cur hs'), h1]

theorem lexRead_refDis (id dis : List Char) (hid : RefSeg id) (rest : List UInt8)
    (F : Nat) (s : Scan) (hs : Views s (64 :: (segBytes id ++ 32 :: (encQuoted dis ++ rest))))
    (hf : (segBytes id).length + (encQuoted dis).length + 2 ≤ F) :
    ∃ s', lexRead (F + 1) s = .ok s' (.val (.ref id (some dis))) ∧ Views s' rest := by
  obtain ⟨hat, hst⟩ := hs.clean
  obtain ⟨s', e, h', hs'⟩ := parseRef_dis id hid.allB hid.ne dis s rest F (by simpa [hid.enc] using hat) hst
    (by simp [segBytes] at hf; omega)
  exact ⟨s', by rw [lexRead_at F s hat.eof hat.cur, e], Clean.views ⟨h', hs'⟩⟩

/-! ### Number, Date, Time, DateTime -/

theorem date_head {d : Date} (h : dateOk d = true) : ∃ b r, encChars d.txt = b :: r ∧ isDigitB b = true := by
  obtain ⟨y0, _, _, _, _, _, _, _, heq, hdg, _⟩ := dateOk_elim h
  exact ⟨y0, _, heq, hdg.y0⟩

theorem time_head {t : Time} (h : timeOk t = true) : ∃ b r, encChars t.txt = b :: r ∧ isDigitB b = true := by
  obtain ⟨h0, _, _, _, _, _, _, heq, htg, _⟩ := timeInv_canon t h
  exact ⟨h0, _, heq, htg.h0⟩

/-- the arm of `Lexer::read` that a digit or `-` selects -/
theorem lexRead_digit {s : Scan} {b : UInt8} {r : List UInt8} (h : Hs.At s (b :: r))
    (hb : (isDigitB b || b == 45) = true) (fuel : Nat) :
    lexRead (fuel + 1) s =
      (match parseNumberDateTime fuel s with
       | .ok (v, s') =>
         (match v with
          | .num n => if numIsInf n then TokR.err s' else .ok s' (.val v)
          | _ => .ok s' (.val v))
       | .err => .err (ndtErr fuel s) | .panic => .panic | .diverge => .diverge | .depth => .depth) := by
  have hd := num_dispatch b
  simp only [hb, Bool.not_true, Bool.false_or, Bool.and_eq_true, bne_iff_ne, ne_eq, Bool.not_eq_eq_eq_not,
    isSpecial, Bool.or_eq_false_iff, beq_eq_false_iff_ne] at hd
  -- `hd`: `b` is none of space, tab, `"`, `` ` ``, `@`, `^`, nor one of the bytes of `isSpecial` (CR and LF among them)
  unfold lexRead
  simp [h.eof, h.cur, hd, hb]
  rfl

/-- On a byte that starts a number, date or time both lexers call `parse_number_date_time`: a value the Zinc
lexer reads there is what the filter lexer reads, unless it is a number that rounds to infinity. -/
theorem lexRead_of_zinc {s s' : Scan} {b : UInt8} {r : List UInt8} (h : Hs.At s (b :: r))
    (hb : (isDigitB b || b == 45) = true) {fuel : Nat} {v : Val}
    (e : Zinc.lexRead (fuel + 1) s = .ok { sc := s', tok := .val v })
    (hv : ∀ n, v = .num n → numIsInf n = false) : lexRead (fuel + 1) s = .ok s' (.val v) := by
  rw [Zinc.lexRead_ndt h hb] at e
  rw [lexRead_digit h hb]
  cases hp : parseNumberDateTime fuel s with
  | ok p =>
    rw [hp] at e
    obtain ⟨v', s''⟩ := p
    simp only [Res.ok.injEq, Lex.mk.injEq, Tok.val.injEq] at e
    obtain ⟨rfl, rfl⟩ := e
    cases v' <;> simp [hv]
  | _ => rw [hp] at e; cases e

theorem lexRead_numLit (n : Num) (hn : finiteNumOk n = true) (hfin : lexIsInf n.v.txt = false)
    (rest : List UInt8) (hd : GDelim rest) (F : Nat) (s : Scan)
    (hs : Views s (encNum n ++ rest)) (hf : (encNum n).length + 1 ≤ F) :
    ∃ s', lexRead (F + 1) s = .ok s' (.val (.num (lexNumI n))) ∧ Views s' rest := by
  obtain ⟨hnan, hinf, henc, htxt, hnb, hu⟩ := finiteNumOk_elim hn
  rw [henc, List.append_assoc] at hs
  rw [henc, List.length_append] at hf
  obtain ⟨hat, hst⟩ := hs.clean
  have hsh := decShape_of_numBytesOk hnb
  obtain ⟨s', e, h', hs'⟩ := lexRead_dec _ _ hsh n.unit hu s rest (F + 1) hat hst (hd.stop (by decide))
    (by omega)
  refine ⟨s', ?_, Clean.views ⟨h', hs'⟩⟩
  obtain ⟨b0, r0, hb0, hfst⟩ := hsh.first'
  rw [hb0] at hat
  have hv : mkNum (n.v.txt.map byteOf) Option.none n.unit = .num (lexNumI n) := by
    simp [mkNum, lexNumI, hnan, hinf, htxt]
  rw [hv] at e
  exact lexRead_of_zinc hat hfst e (fun m hm => by cases hm; simpa [numIsInf, lexNumI, hnan, hinf] using hfin)

theorem lexRead_dateLit (d : Date) (hok : dateOk d = true) (rest : List UInt8) (hd : GDelim rest) (F : Nat)
    (s : Scan) (hs : Views s (encChars d.txt ++ rest)) (hf : 1 ≤ F) :
    ∃ s', lexRead (F + 1) s = .ok s' (.val (.date d)) ∧ Views s' rest := by
  obtain ⟨hat, hst⟩ := hs.clean
  obtain ⟨s', e, h', hs'⟩ := lexRead_date_of_stop d hok s rest (F + 1) hat hst (hd.stop (by decide)) (by omega)
  refine ⟨s', ?_, Clean.views ⟨h', hs'⟩⟩
  obtain ⟨b0, r0, hb0, hd0⟩ := date_head hok
  rw [hb0] at hat
  exact lexRead_of_zinc hat (by simp [hd0]) e (fun _ hm => by cases hm)

theorem lexRead_timeLit (t : Time) (hok : timeOk t = true) (rest : List UInt8) (hd : GDelim rest) (F : Nat)
    (s : Scan) (hs : Views s (encChars t.txt ++ rest)) (hf : (encChars t.txt).length + 1 ≤ F) :
    ∃ s', lexRead (F + 1) s = .ok s' (.val (.time t)) ∧ Views s' rest := by
  obtain ⟨hat, hst⟩ := hs.clean
  obtain ⟨s', e, h', hs'⟩ := lexRead_time_of_stop t _ (timeInv_canon t hok) s rest (F + 1) hat hst (hd.stop (by decide))
    (by omega)
  refine ⟨s', ?_, Clean.views ⟨h', hs'⟩⟩
  obtain ⟨b0, r0, hb0, hd0⟩ := time_head hok
  rw [hb0] at hat
  exact lexRead_of_zinc hat (by simp [hd0]) e (fun _ hm => by cases hm)

/-- the zone reader may have peeked one byte past the space that follows -/
theorem lexRead_dateTimeLit (t : DateTime) (hok : dtOk t = true) (rest : List UInt8) (hd : ZoneEnd rest) (fuel : Nat)
    (s : Scan) (hs : Views s (encDateTime t ++ rest)) (hf : (encDateTime t).length + 2 ≤ fuel) :
    ∃ s', lexRead fuel s = .ok s' (.val (lexImg (.dateTime t))) ∧ Post s' rest := by
  obtain ⟨F, rfl⟩ : ∃ F, fuel = F + 1 := ⟨fuel - 1, by omega⟩
  obtain ⟨henc, htxt, hok⟩ := dtOk_elim hok
  rw [henc] at hs hf
  obtain ⟨hat, hst⟩ := hs.clean
  obtain ⟨s', e, hp⟩ := lexRead_datetime_of_zoneEnd _ hok s rest (F + 1) hat hst hd hf
  refine ⟨s', ?_, hp⟩
  obtain ⟨b0, r0, hb0, hy0⟩ := dtBytesOk_head hok
  have hfst : (isDigitB b0 || b0 == 45) = true := by simp [hy0]
  rw [hb0] at hat
  rw [htxt] at e
  exact lexRead_of_zinc hat hfst e (fun _ hm => by cases hm)

/-! ### `Follow` for a Ref with display name and for a DateTime -/

theorem follow_refDis {id : List Char} (hid : RefSeg id) (dis : List Char) {rest T : List UInt8} (h : Sp rest T) :
    Follow (64 :: (segBytes id ++ 32 :: (encQuoted dis ++ rest))) (.val (.ref id (some dis))) T := by
  have := follow_of_read (X := 64 :: (segBytes id ++ 32 :: encQuoted dis)) h fun F s hv hf =>
    lexRead_refDis id dis hid rest F s (by simpa using hv) (by simp at hf; omega)
  simpa using this

theorem follow_dateTime (t : DateTime) (hok : dtOk t = true) {rest T : List UInt8} (h : Cont2 rest T) :
    Follow (encDateTime t ++ rest) (.val (lexImg (.dateTime t))) T := by
  refine ⟨by have := h.1.len; simp; omega, ?_⟩
  intro fuel s hv hf
  obtain ⟨s', h1, h2⟩ := lexRead_dateTimeLit t hok rest h.zoneEnd fuel s hv (by simp at hf; omega)
  exact ⟨s', h1, pos_of_post h.1.sp h2⟩

/-! ### every literal of the property -/

/-- The literals the syntax admits (the property's list): Bool; Symbol and Ref over the id alphabet, a Ref
with any display name; any Str; any Uri; a finite Number whose text is a decimal `f64::from_str` accepts
(what `Display for f64` prints), which does not round to infinity, with no unit or a unit of the table;
Date, Time and DateTime whose texts chrono accepts, the zone name resolvable through the zone table. -/
def OkLit2 : Val → Prop
  | .bool _ => True
  | .sym s => SymSeg s
  | .ref id _ => RefSeg id
  | .str _ => True
  | .uri _ => True
  | .num n => finiteNumOk n = true ∧ lexIsInf n.v.txt = false
  | .date d => dateOk d = true
  | .time t => timeOk t = true
  | .dateTime t => dtOk t = true
  | _ => False

instance : (v : Val) → Decidable (OkLit2 v)
  | .bool _ => isTrue trivial
  | .sym s => inferInstanceAs (Decidable (SymSeg s))
  | .ref id _ => inferInstanceAs (Decidable (RefSeg id))
  | .str _ => isTrue trivial
  | .uri _ => isTrue trivial
  | .num n => inferInstanceAs (Decidable (finiteNumOk n = true ∧ lexIsInf n.v.txt = false))
  | .date d => inferInstanceAs (Decidable (dateOk d = true))
  | .time t => inferInstanceAs (Decidable (timeOk t = true))
  | .dateTime t => inferInstanceAs (Decidable (dtOk t = true))
  | .null => isFalse id
  | .remove => isFalse id
  | .marker => isFalse id
  | .na => isFalse id
  | .coord _ _ => isFalse id
  | .xstr _ _ => isFalse id
  | .list _ => isFalse id
  | .dict _ => isFalse id
  | .grid _ _ _ _ => isFalse id

/-- the token a printed literal is read as: its lexical image (`true` / `false` are read as one-segment paths) -/
def litTok : Val → FTok
  | .bool true => .path kwTrue
  | .bool false => .path kwFalse
  | v => .val (lexImg v)

/-- Only the zone reader of a DateTime looks at the byte after the space that ends the literal. -/
theorem follow_lit : (v : Val) → OkLit2 v → ∀ {rest T : List UInt8}, Cont2 rest T →
    Follow (printVal v ++ rest) (litTok v) T
  | .bool true, _, rest, T, ⟨hC, _⟩ => by
    have := follow_path (p := kwTrue) ⟨by simp [kwTrue], by simpa [kwTrue] using kwTrue_seg⟩ hC
    simpa [printVal, true_eq, pathBytes, kwTrue, litTok] using this
  | .bool false, _, rest, T, ⟨hC, _⟩ => by
    have := follow_path (p := kwFalse) ⟨by simp [kwFalse], by simpa [kwFalse] using kwFalse_seg⟩ hC
    simpa [printVal, false_eq, pathBytes, kwFalse, litTok] using this
  | .sym s, h, rest, T, ⟨hC, _⟩ => by
    have hs : SymSeg s := h
    have := follow_sym hs hC.sp
    simpa [printVal, encode, enc, hs.1.enc, litTok, lexImg] using this
  | .ref id Option.none, h, rest, T, ⟨hC, _⟩ => by
    have hid : RefSeg id := h
    have := follow_ref hid hC
    simpa [printVal, encode, enc, hid.enc, litTok, lexImg] using this
  | .ref id (some d), h, rest, T, ⟨hC, _⟩ => by
    have hid : RefSeg id := h
    have := follow_refDis hid d hC.sp
    simpa [printVal, encode, enc, hid.enc, litTok, lexImg] using this
  | .str cs, _, rest, T, ⟨hC, _⟩ => by
    have := follow_of_read hC.sp (fun F s hv hf => lexRead_strLit cs rest F s hv (by omega))
    simpa [printVal, encode, enc, litTok, lexImg] using this
  | .uri cs, _, rest, T, ⟨hC, _⟩ => by
    have := follow_of_read hC.sp (fun F s hv hf => lexRead_uriLit cs rest F s hv (by omega))
    simpa [printVal, encode, enc, litTok, lexImg] using this
  | .num n, h, rest, T, ⟨hC, _⟩ => by
    have := follow_of_read hC.sp (fun F s hv hf => lexRead_numLit n h.1 h.2 rest hC.gdelim F s hv (by omega))
    simpa [printVal, encode, enc, litTok, lexImg] using this
  | .date d, h, rest, T, ⟨hC, _⟩ => by
    have := follow_of_read hC.sp (fun F s hv hf => lexRead_dateLit d h rest hC.gdelim F s hv (by omega))
    simpa [printVal, encode, enc, litTok, lexImg] using this
  | .time t, h, rest, T, ⟨hC, _⟩ => by
    have := follow_of_read hC.sp (fun F s hv hf => lexRead_timeLit t h rest hC.gdelim F s hv (by omega))
    simpa [printVal, encode, enc, litTok, lexImg] using this
  | .dateTime t, h, rest, T, hC => by
    have := follow_dateTime t h hC
    simpa [printVal, encode, enc, litTok] using this
  | .null, h, _, _, _ | .remove, h, _, _, _ | .marker, h, _, _, _ | .na, h, _, _, _
  | .coord _ _, h, _, _, _ | .xstr _ _, h, _, _, _ | .list _, h, _, _, _ | .dict _, h, _, _, _
  | .grid _ _ _ _, h, _, _, _ => h.elim

theorem nonWs_of_firstOk {bs : List UInt8} (h : FirstOk bs) : nonWs bs := by
  obtain ⟨b, r, rfl, h1, h2, h3, h4⟩ := h
  exact ⟨b, r, rfl, by simp [isWsB, h1, h2, h3, h4]⟩

theorem lit_head (v : Val) (h : OkLit2 v) : nonWs (printVal v) := by
  cases v <;> simp [OkLit2] at h
  case bool b =>
    cases b
    · exact ⟨102, [97, 108, 115, 101], by simp [printVal, bytesOfAscii], by decide⟩
    · exact ⟨116, [114, 117, 101], by simp [printVal, bytesOfAscii], by decide⟩
  case sym s => exact ⟨94, encChars s, by simp [printVal, encode, enc], by decide⟩
  case str cs => exact ⟨34, cs.flatMap encStrChar ++ [34], by simp [printVal, encode, enc, encQuoted], by decide⟩
  case uri cs => exact ⟨96, cs.flatMap encUriChar ++ [96], by simp [printVal, encode, enc, encUri], by decide⟩
  case ref id dis =>
    cases dis with
    | none => exact ⟨64, encChars id, by simp [printVal, encode, enc], by decide⟩
    | some d => exact ⟨64, encChars id ++ [32] ++ encQuoted d, by simp [printVal, encode, enc], by decide⟩
  case num n =>
    obtain ⟨_, _, henc, _, hnb, _⟩ := finiteNumOk_elim h.1
    obtain ⟨b, r, hx, hb⟩ := (decShape_of_numBytesOk hnb).first'
    have := nonWs_of_firstOk (FirstW.of_head (P := fun b => isDigitB b || b == 45) (by decide) hb (r ++ unitBytes n.unit)).ok
    simpa [printVal, encode, enc, henc, hx] using this
  case date d =>
    have := nonWs_of_firstOk (firstW_date d h).ok
    simpa [printVal, encode, enc] using this
  case time t =>
    obtain ⟨b, r, e, hb⟩ := time_head h
    have := nonWs_of_firstOk (bs := encChars t.txt) (e ▸ (firstW_of_digit b r hb).ok)
    simpa [printVal, encode, enc] using this
  case dateTime t =>
    have := nonWs_of_firstOk (firstW_datetime t h).ok
    simpa [printVal, encode, enc] using this

theorem parseCmp_lit (v : Val) (h : OkLit2 v) (F : Nat) (l : FLex) (s' : Scan) (p : Path) (op : CmpOp)
    (hr : lexRead F l.sc = .ok s' (litTok v)) :
    parseCmp F l p op = .ok (.cmp p op (lexImg v), { sc := s', cur := litTok v }) := by
  unfold parseCmp
  rw [read_ok hr]
  cases v <;> simp [OkLit2] at h <;> try (simp [litTok]; done)
  case bool b => cases b <;> simp [litTok, kwTrue, kwFalse, lexImg]

end Hs.FText

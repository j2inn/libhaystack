/-
  The lexer (`lexRead`), one lemma per token kind.  Str, Uri and the display name of a Ref are read in any spelling;
  what has to follow a token is asked for as a stop class (`Stop`, `RefEnd`), which the text after a value provides
  both in writer output (`Delim`) and in any sentence of the grammar (`DelimW`).  A token that starts with a letter
  reaches its arm of `Lexer::read` because the earlier first-byte tests fail on a letter (`upper_dispatch`,
  `lower_dispatch`).
-/
import Hs.Lemmas.ZincRtIds
import Hs.Lemmas.ZincRtUri
namespace Hs.Zinc
open Hs Hs.Scan

/-! ### Str, Uri, Ref, Symbol -/

theorem lexRead_str (cs : List Char) (q : List UInt8) (hq : Spell.Quoted cs q) (s : Scan) (rest : List UInt8) (fuel : Nat)
    (h : At s (q ++ rest)) (hs : s.stash = []) (hf : q.length + 1 ≤ fuel) :
    ∃ s', lexRead fuel s = .ok { sc := s', tok := .val (.str cs) } ∧ At s' rest ∧ s'.stash = [] := by
  obtain ⟨f, rfl⟩ : ∃ f, fuel = f + 1 := ⟨fuel - 1, by omega⟩
  obtain ⟨s', e, h', hs'⟩ := parseStr_sp cs q hq s rest f h (by omega)
  refine ⟨s', ?_, h', hs' hs⟩
  obtain ⟨t, rfl⟩ := quoted_shape hq
  simp only [List.cons_append] at h
  rw [lexRead]
  simp [h.eof, h.cur, e]

theorem lexRead_uri (cs : List Char) (body : List UInt8) (hb : Spell.UriBody cs body) (s : Scan) (rest : List UInt8)
    (fuel : Nat) (h : At s (96 :: (body ++ 96 :: rest))) (hs : s.stash = []) (hf : body.length + 3 ≤ fuel) :
    ∃ s', lexRead fuel s = .ok { sc := s', tok := .val (.uri cs) } ∧ At s' rest ∧ s'.stash = [] := by
  obtain ⟨f, rfl⟩ : ∃ f, fuel = f + 1 := ⟨fuel - 1, by omega⟩
  obtain ⟨s', e, h'⟩ := parseUri_sp cs body hb s rest f ⟨h, hs⟩ (by omega)
  refine ⟨s', ?_, h'.here, h'.stash⟩
  rw [lexRead]
  simp [h.eof, h.cur, e]

theorem lexRead_ref_nodis (id : List Char) (hid : AllB isRefB id = true) (hne : id ≠ [])
    (s : Scan) (rest : List UInt8) (fuel : Nat) (h : At s (64 :: encChars id ++ rest)) (hs : s.stash = [])
    (hd : RefEnd rest) (hf : id.length + 2 ≤ fuel) :
    ∃ s', lexRead fuel s = .ok { sc := s', tok := .val (.ref id none) } ∧ Post s' rest := by
  obtain ⟨f, rfl⟩ : ∃ f, fuel = f + 1 := ⟨fuel - 1, by omega⟩
  obtain ⟨s', e, hp⟩ := parseRef_nodis id hid hne s rest f h hs hd (by omega)
  refine ⟨s', ?_, hp⟩
  simp only [List.cons_append] at h
  rw [lexRead]
  simp [h.eof, h.cur, e]

theorem lexRead_ref_dis (id : List Char) (hid : AllB isRefB id = true) (hne : id ≠ []) (dis : List Char)
    (q : List UInt8) (hq : Spell.Quoted dis q) (s : Scan) (rest : List UInt8) (fuel : Nat)
    (h : At s (64 :: (encChars id ++ 32 :: (q ++ rest)))) (hs : s.stash = [])
    (hf : id.length + q.length + 2 ≤ fuel) :
    ∃ s', lexRead fuel s = .ok { sc := s', tok := .val (.ref id (some dis)) } ∧ At s' rest ∧ s'.stash = [] := by
  obtain ⟨f, rfl⟩ : ∃ f, fuel = f + 1 := ⟨fuel - 1, by omega⟩
  obtain ⟨s', e, h', hs'⟩ := parseRef_disS id hid hne dis q hq s rest f h hs (by omega)
  refine ⟨s', ?_, h', hs'⟩
  rw [lexRead]
  simp [h.eof, h.cur, e]

theorem lexRead_sym (cs : List Char) (hcs : isSymBody cs = true)
    (s : Scan) (rest : List UInt8) (fuel : Nat) (h : At s (94 :: encChars cs ++ rest)) (hs : s.stash = [])
    (hd : Stop isRefB rest) (hf : cs.length + 2 ≤ fuel) :
    ∃ s', lexRead fuel s = .ok { sc := s', tok := .val (.sym cs) } ∧ At s' rest ∧ s'.stash = [] := by
  obtain ⟨f, rfl⟩ : ∃ f, fuel = f + 1 := ⟨fuel - 1, by omega⟩
  obtain ⟨e, h'⟩ := parseSymbol_rt cs hcs s rest f h hd (by omega)
  refine ⟨_, ?_, h', advN_stash_nil _ _ (advance_clean hs)⟩
  simp only [List.cons_append] at h
  rw [lexRead]
  simp [h.eof, h.cur, e]

/-! ### tokens that start with an upper-case letter: keywords, XStr -/

theorem not_special {P : UInt8 → Bool} {b : UInt8} (h : P b = true)
    (hP : P 44 = false ∧ P 13 = false ∧ P 10 = false ∧ P 123 = false ∧ P 125 = false ∧ P 58 = false ∧ P 91 = false ∧
      P 93 = false ∧ P 60 = false ∧ P 62 = false) : isSpecial b = false := by
  simp [isSpecial, ne_of_class h hP.1, ne_of_class h hP.2.1, ne_of_class h hP.2.2.1, ne_of_class h hP.2.2.2.1,
    ne_of_class h hP.2.2.2.2.1, ne_of_class h hP.2.2.2.2.2.1, ne_of_class h hP.2.2.2.2.2.2.1,
    ne_of_class h hP.2.2.2.2.2.2.2.1, ne_of_class h hP.2.2.2.2.2.2.2.2.1, ne_of_class h hP.2.2.2.2.2.2.2.2.2]

theorem upper_dispatch {b : UInt8} (h : isUpperB b = true) :
    b ≠ 32 ∧ b ≠ 9 ∧ b ≠ 34 ∧ b ≠ 96 ∧ b ≠ 64 ∧ b ≠ 94 ∧ isSpecial b = false ∧ isDigitB b = false ∧ b ≠ 45 :=
  ⟨ne_of_class h (by decide), ne_of_class h (by decide), ne_of_class h (by decide), ne_of_class h (by decide),
    ne_of_class h (by decide), ne_of_class h (by decide), not_special h (by decide),
    range_disjoint h (Or.inr (by decide)), ne_of_class h (by decide)⟩

theorem lower_dispatch {b : UInt8} (h : isLowerB b = true) :
    b ≠ 32 ∧ b ≠ 9 ∧ b ≠ 34 ∧ b ≠ 96 ∧ b ≠ 64 ∧ b ≠ 94 ∧ isSpecial b = false ∧ isDigitB b = false ∧ b ≠ 45 ∧
      isUpperB b = false :=
  ⟨ne_of_class h (by decide), ne_of_class h (by decide), ne_of_class h (by decide), ne_of_class h (by decide),
    ne_of_class h (by decide), ne_of_class h (by decide), not_special h (by decide),
    range_disjoint h (Or.inr (by decide)), ne_of_class h (by decide), not_upper_of_lower h⟩

theorem lexRead_upper (cs : List Char) (hcs : isUpperName cs = true)
    (s : Scan) (rest : List UInt8) (fuel : Nat) (h : At s (encChars cs ++ rest)) (hst : Stop isLitB rest)
    (hf : cs.length + 1 ≤ fuel) :
    At (advN cs.length s) rest ∧
    lexRead (fuel + 1) s =
      (if (advN cs.length s).cur == 40 then
        if cs == ['C'] then
          match parseCoordBody fuel (advN cs.length s) with
          | .ok (v, s2) => .ok { sc := s2, tok := .val v }
          | .err => .err | .panic => .panic | .diverge => .diverge | .depth => .depth
        else
          match parseXStrBody fuel cs (advN cs.length s) with
          | .ok (v, s2) => .ok { sc := s2, tok := .val v }
          | .err => .err | .panic => .panic | .diverge => .diverge | .depth => .depth
      else
        match keyword cs with
        | some v => .ok { sc := advN cs.length s, tok := .val v }
        | Option.none => .err) := by
  obtain ⟨hl, hne⟩ := isUpperName_lit hcs
  obtain ⟨e, hat⟩ := parseLiteral_rt cs hl hne s rest fuel h hst (by omega)
  refine ⟨hat, ?_⟩
  obtain ⟨b, r, eb, hb⟩ := isUpperName_head hcs
  rw [eb, List.cons_append] at h
  obtain ⟨d1, d2, d3, d4, d5, d6, d7, d8, d9⟩ := upper_dispatch hb
  rw [lexRead]
  simp only [h.eof, h.cur, e]
  simp [d1, d2, d3, d4, d5, d6, d7, d8, d9, hb]
  rfl

theorem lexRead_kw (cs : List Char) (hcs : isUpperName cs = true) (v : Val) (hk : keyword cs = some v)
    (s : Scan) (rest : List UInt8) (fuel : Nat) (h : At s (encChars cs ++ rest)) (hs : s.stash = [])
    (hst : Stop isLitB rest) (hnp : ∀ r, rest ≠ 40 :: r) (hf : cs.length + 2 ≤ fuel) :
    ∃ s', lexRead fuel s = .ok { sc := s', tok := .val v } ∧ At s' rest ∧ s'.stash = [] := by
  obtain ⟨f, rfl⟩ : ∃ f, fuel = f + 1 := ⟨fuel - 1, by omega⟩
  obtain ⟨hat, e⟩ := lexRead_upper cs hcs s rest f h hst (by omega)
  refine ⟨advN cs.length s, ?_, hat, advN_stash_nil _ _ hs⟩
  have hcur : ((advN cs.length s).cur == 40) = false := by
    cases rest with
    | cons b r =>
      rw [hat.cur]
      have := hnp r
      simp only [ne_eq, List.cons.injEq, and_true] at this
      simpa using this
    | nil =>
      -- at the end of the input `cur` is stale: it is the keyword's last byte, a literal byte, so not `(`
      obtain ⟨hl, hne⟩ := isUpperName_lit hcs
      obtain ⟨e', hp⟩ := encChars_ascii hl
      rw [e', List.append_nil] at h
      have hne' : cs.map byteOf ≠ [] := by simpa using hne
      rcases List.eq_nil_or_concat (cs.map byteOf) with hnil | ⟨bs, b, hbs⟩
      · exact absurd hnil hne'
      · have hlen : cs.length = bs.length + 1 := by
          have := congrArg List.length hbs; simpa using this
        have hb : isLitB b = true := hp b (by rw [hbs]; simp)
        rw [hbs] at h
        have hc := advN_cur_last b (by simpa using h)
        rw [hlen, hc]
        simpa using ne_of_class hb (k := 40) (by decide)
  rw [e, hcur]
  simp [hk]

/-! ### punctuation, identifiers, spaces, end of input -/

theorem lexRead_special {s : Scan} {c : UInt8} {rest : List UInt8} (h : At s (c :: rest))
    (hc : isSpecial c = true) (h13 : c ≠ 13) (fuel : Nat) :
    lexRead (fuel + 1) s = .ok { sc := s.advance, tok := .ch c } := by
  have d1 : c ≠ 32 := ne_of_class hc (by decide)
  have d2 : c ≠ 9 := ne_of_class hc (by decide)
  have d3 : c ≠ 34 := ne_of_class hc (by decide)
  have d4 : c ≠ 96 := ne_of_class hc (by decide)
  have d5 : c ≠ 64 := ne_of_class hc (by decide)
  have d6 : c ≠ 94 := ne_of_class hc (by decide)
  rw [lexRead]
  simp only [h.eof, h.cur]
  cases rest with
  | nil =>
    rw [h.read_last]
    by_cases h10 : c = 10
    · subst h10; simp [show isSpecial 10 = true by decide]
    · simp [d1, d2, d3, d4, d5, d6, hc, h13, h10]
  | cons d r =>
    rw [h.read]
    by_cases h10 : c = 10
    · subst h10; simp [show isSpecial 10 = true by decide]
    · simp [d1, d2, d3, d4, d5, d6, hc, h13, h10]

theorem lexRead_id (cs : List Char) (hcs : isIdent cs = true)
    (s : Scan) (rest : List UInt8) (fuel : Nat) (h : At s (encChars cs ++ rest)) (hst : Stop isLitB rest)
    (hf : cs.length + 2 ≤ fuel) :
    lexRead fuel s = .ok { sc := advN cs.length s, tok := .id cs } ∧ At (advN cs.length s) rest := by
  obtain ⟨f, rfl⟩ : ∃ f, fuel = f + 1 := ⟨fuel - 1, by omega⟩
  obtain ⟨e, hat⟩ := parseId_rt cs hcs s rest f h hst (by omega)
  refine ⟨?_, hat⟩
  obtain ⟨b, r, eb, hb⟩ := isIdent_head hcs
  rw [eb, List.cons_append] at h
  obtain ⟨d1, d2, d3, d4, d5, d6, d7, d8, d9, d10⟩ := lower_dispatch hb
  rw [lexRead]
  simp only [h.eof, h.cur, e]
  simp [d1, d2, d3, d4, d5, d6, d7, d8, d9, d10, hb]

theorem lexRead_space {s : Scan} {b : UInt8} {r : List UInt8} (h : At s (32 :: b :: r))
    (hb : b ≠ 32 ∧ b ≠ 9) (hs : s.stash.length ≤ 1) (fuel : Nat) :
    lexRead (fuel + 2) s = lexRead (fuel + 1) s.advance ∧ At s.advance (b :: r) ∧ s.advance.stash = [] := by
  refine ⟨?_, h.advance, advance_stash_nil hs⟩
  have hsp : s.isSpace = true := by unfold Scan.isSpace; rw [h.cur]; rfl
  have hsp' : s.advance.isSpace = false := isSpace_of_cur h.advance.cur hb.1 hb.2
  rw [lexRead]
  simp only [h.eof, h.cur]
  rw [Scan.consumeSpaces]
  simp [hsp, h.read, consumeSpaces_none hsp']

theorem lexRead_eof {s : Scan} (h : At s []) (fuel : Nat) :
    lexRead (fuel + 1) s = .ok { sc := s, tok := .none } := by
  rw [lexRead]; simp [h.eof_nil]

section
open Hs.Spell

/-! ### blanks -/

/-- at most one unit of fuel is used for all the blanks -/
theorem lexRead_skip (ws : List UInt8) (hws : Blanks ws) (s : Scan) (b : UInt8) (r : List UInt8)
    (hp : Pre s ws (b :: r)) (h1 : b ≠ 32) (h2 : b ≠ 9) (fuel : Nat) (hf : ws.length + 1 ≤ fuel) :
    ∃ s' f', At s' (b :: r) ∧ s'.stash = [] ∧ fuel ≤ f' + 1 ∧ f' ≤ fuel ∧ lexRead (fuel + 1) s = lexRead (f' + 1) s' := by
  have h := hp.here
  have hs := hp.stash_le
  cases ws with
  | nil => exact ⟨s, fuel, by simpa using h, hp.stash_nil rfl, by omega, Nat.le_refl _, rfl⟩
  | cons w ws' =>
    obtain ⟨f, rfl⟩ : ∃ f, fuel = f + 1 := ⟨fuel - 1, by omega⟩
    have hat := h
    simp only [List.cons_append] at hat
    have hcs := consumeSpaces_blanks (w :: ws') hws s b r (f + 2) h h1 h2 (by simp at hf ⊢; omega)
    have hst : (advN (w :: ws').length s).stash = [] := by
      rw [advN_stash]; apply List.drop_eq_nil_of_le; simp; omega
    refine ⟨advN (w :: ws').length s, f, h.advN, hst, by omega, by omega, ?_⟩
    rw [lexRead]
    have hc : (s.cur == 32 || s.cur == 9) = true := by
      rw [hat.cur]; rcases Blanks.head hws with rfl | rfl <;> rfl
    simp only [hat.eof, Bool.false_eq_true, if_false, hc, if_true, hcs]

theorem lexRead_specialW (ws : List UInt8) (hws : Blanks ws) (s : Scan) (c : UInt8) (rest : List UInt8)
    (hp : Pre s ws (c :: rest)) (hc : isSpecial c = true) (h13 : c ≠ 13) (fuel : Nat) (hf : ws.length + 2 ≤ fuel) :
    ∃ s', lexRead fuel s = .ok { sc := s', tok := .ch c } ∧ At s' rest ∧ s'.stash = [] := by
  obtain ⟨f, rfl⟩ : ∃ f, fuel = f + 1 := ⟨fuel - 1, by omega⟩
  have hc32 : c ≠ 32 := ne_of_class hc (by decide)
  have hc9 : c ≠ 9 := ne_of_class hc (by decide)
  obtain ⟨s', f', hat', hst', _, _, e⟩ := lexRead_skip ws hws s c rest hp hc32 hc9 f (by omega)
  refine ⟨s'.advance, ?_, hat'.advance, by rw [At.advance_stash, hst']; rfl⟩
  rw [e, lexRead_special hat' hc h13 f']

theorem lexRead_idW (ws : List UInt8) (hws : Blanks ws) (cs : List Char) (hcs : isIdent cs = true)
    (s : Scan) (rest : List UInt8) (hp : Pre s ws (encChars cs ++ rest)) (hst : Stop isLitB rest)
    (fuel : Nat) (hf : ws.length + cs.length + 3 ≤ fuel) :
    ∃ s', lexRead fuel s = .ok { sc := s', tok := .id cs } ∧ At s' rest ∧ s'.stash = [] := by
  obtain ⟨f, rfl⟩ : ∃ f, fuel = f + 1 := ⟨fuel - 1, by omega⟩
  obtain ⟨b, r, ek, hb⟩ := isIdent_head hcs
  have hb32 : b ≠ 32 := ne_of_class hb (by decide)
  have hb9 : b ≠ 9 := ne_of_class hb (by decide)
  obtain ⟨s', f', hat', hst', hf1, _, e⟩ := lexRead_skip ws hws s b (r ++ rest) (hp.cast (by rw [ek]; rfl)) hb32 hb9 f
    (by omega)
  have hat'' : At s' (encChars cs ++ rest) := by rw [ek]; simpa using hat'
  obtain ⟨e2, h2⟩ := lexRead_id cs hcs s' rest (f' + 1) hat'' hst (by omega)
  exact ⟨advN cs.length s', by rw [e, e2], h2, advN_stash_nil _ _ hst'⟩

theorem lexRead_nl (nl : List UInt8) (hn : Nl nl) (s : Scan) (rest : List UInt8) (h : At s (nl ++ rest))
    (hcr : NoLF nl rest) (hs : s.stash.length ≤ 1) (fuel : Nat) :
    ∃ s', lexRead (fuel + 1) s = .ok { sc := s', tok := .ch 10 } ∧ At s' rest ∧ s'.stash = [] := by
  cases hn with
  | lf =>
    simp only [List.cons_append, List.nil_append] at h
    exact ⟨s.advance, lexRead_special h (by decide) (by decide) fuel, h.advance, advance_stash_nil hs⟩
  | crlf =>
    simp only [List.cons_append, List.nil_append] at h
    refine ⟨s.advance.advance, ?_, h.advance.advance, by
      rw [At.advance_stash, advance_stash_nil hs]; rfl⟩
    rw [lexRead]
    simp only [h.eof, h.cur, h.read]
    simp [isSpecial]
  | cr =>
    simp only [List.cons_append, List.nil_append] at h
    refine ⟨s.advance, ?_, h.advance, advance_stash_nil hs⟩
    rw [lexRead]
    simp only [h.eof, h.cur]
    cases rest with
    | nil => rw [h.read_last]; simp [isSpecial]
    | cons x r =>
      have hx : x ≠ 10 := by
        have := hcr rfl
        simpa using this
      rw [h.read]
      simp [isSpecial, hx]

theorem Post.pre_nl {s : Scan} {w nl rest : List UInt8} (hn : Nl nl) (h : Post s (w ++ (nl ++ rest))) :
    Pre s w (nl ++ rest) := by
  obtain ⟨b, r, e, hb⟩ := nl_head hn rest
  rw [e] at h ⊢
  exact h.pre (by rcases hb with rfl | rfl <;> decide)

theorem lexRead_nlW (ws : List UInt8) (hws : Blanks ws) (nl : List UInt8) (hn : Nl nl) (s : Scan) (rest : List UInt8)
    (hp : Pre s ws (nl ++ rest)) (hcr : NoLF nl rest) (fuel : Nat) (hf : ws.length + 2 ≤ fuel) :
    ∃ s', lexRead fuel s = .ok { sc := s', tok := .ch 10 } ∧ At s' rest ∧ s'.stash = [] := by
  obtain ⟨f, rfl⟩ : ∃ f, fuel = f + 1 := ⟨fuel - 1, by omega⟩
  obtain ⟨b, r, e, hb⟩ := nl_head hn rest
  have hb32 : b ≠ 32 := by rcases hb with rfl | rfl <;> decide
  have hb9 : b ≠ 9 := by rcases hb with rfl | rfl <;> decide
  obtain ⟨s1, f', h1, hs1, _, _, e1⟩ := lexRead_skip ws hws s b r (hp.cast e) hb32 hb9 f (by omega)
  obtain ⟨s', e2, h2, hs2⟩ := lexRead_nl nl hn s1 rest (by rw [e]; exact h1) hcr (by simp [hs1]) f'
  exact ⟨s', by rw [e1, e2], h2, hs2⟩

end

end Hs.Zinc

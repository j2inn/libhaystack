/-
  C11, decoder image invariant: the lexer on ARBITRARY input.  What `parse_literal` / `parse_id` / the Ref, Symbol, Date
  and decimal readers RETURN satisfies the side condition the round trip of C01 asks of it, and every token `Lexer::read`
  returns satisfies `tokInv`.  Each fact is the value part of the one statement about that reader (`ZincTotalLex`,
  `ZincTotalLexStrict`), as an implication from a successful call; the parser's specifications (`ZincParseSpec`) use
  those statements themselves, not these forms.
-/
import Hs.Lemmas.ZincTotalLexStrict
import Hs.Lemmas.ZincImageParse
namespace Hs.Zinc
open Hs Hs.Scan

theorem parseId_img (f : Nat) (s : Scan) (i : List Char) (s' : Scan)
    (h : parseId f s = .ok (i, s')) : isIdent i = true :=
  (parseId_adv f s).img h

theorem parseLiteral_upper_img (f : Nat) (s : Scan) (lit : List Char) (s' : Scan)
    (hu : isUpperB s.cur = true) (h : parseLiteral f s = .ok (lit, s')) : isUpperName lit = true :=
  ((parseLiteral_adv f s).img h).upper hu

theorem parseRef_img (f : Nat) (s : Scan) (v : Val) (s' : Scan) (h : parseRef f s = .ok (v, s')) :
    ∃ id dis, v = .ref id dis ∧ isRefId id = true :=
  (parseRef_adv f s).img h

theorem parseSymbol_img (f : Nat) (s : Scan) (v : Val) (s' : Scan) (h : parseSymbol f s = .ok (v, s')) :
    ∃ b, v = .sym b ∧ isSymBody b = true :=
  (parseSymbol_adv f s).img h

theorem parseDate_img (s : Scan) (d : Date) (s' : Scan) (h : parseDate s = .ok (d, s')) : dateOk d = true :=
  (parseDate_adv s).img h

theorem parseDecimal_img (f : Nat) (s : Scan) (acc : List UInt8) (s' : Scan) (h : parseDecimal f s = .ok (acc, s')) :
    decBytesOk acc = true :=
  (parseDecimal_adv f s).img h

theorem lexRead_img : ∀ (f : Nat) (s : Scan) (p : Lex), lexRead f s = .ok p → tokInv p.tok :=
  fun f s _ h => ((lexRead_sat f s).post h).2

theorem PSok_read {f : Nat} {p p1 : PS} (h : PS.read f p = .ok p1) : PSok p1 := lexRead_img f p.sc p1 h

end Hs.Zinc

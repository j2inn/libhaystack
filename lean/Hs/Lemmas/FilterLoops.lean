/-
  Termination of the two Ref-chasing evaluation loops (`Hs.Model.FilterLoops`): every pass that
  continues has just put a Ref that resolves — so one of the record set's ids — into the visited
  set for the first time.  Measure: ids of the record set not yet visited.  `Hs.wildLoop` (`Hs.Model.Filter`, C07)
  models `WildcardEq::eval` a second time; no theorem relates the two.
-/
import Hs.Model.FilterLoops
import Hs.Lemmas.Unseen
namespace Hs.FLoops
open Hs

theorem weqLoop_ok (recs : List RecView) (target : RefId) :
    ∀ (fuel : Nat) (visited : List RefId) (v : Val),
      unseen (viewIds recs) visited < fuel → ∃ b, weqLoop recs target fuel visited v = .ok b := by
  intro fuel
  induction fuel with
  | zero => intro visited v h; omega
  | succ n ih =>
    intro visited v h
    unfold weqLoop
    split
    · rename_i cur dis
      split
      · exact ⟨true, rfl⟩
      · split
        · exact ⟨false, rfl⟩
        · rename_i hnv
          have hv : cur ∉ visited := by simpa using hnv
          split
          · rename_i rv hrv
            have hlt := unseen_cons_lt (U := viewIds recs) (mem_keys_of_find hrv).2 hv
            split <;> apply ih <;> omega
          · exact ⟨false, rfl⟩
    · exact ⟨false, rfl⟩

/-- a pass over the subject's tags that ends in `continue 'search` has brought the measure below `b` -/
def Step.Shrinks (keys : List RefId) (b : Nat) : Step → Prop
  | .next _ q' _ => unseen keys q' < b
  | _ => True

theorem Step.Shrinks.mono {keys : List RefId} {b b' : Nat} {st : Step} (h : st.Shrinks keys b) (hb : b ≤ b') :
    st.Shrinks keys b' := by
  cases st with
  | next _ q' _ => exact Nat.lt_of_lt_of_le h hb
  | _ => exact trivial

theorem Step.Shrinks.ite_intro {keys : List RefId} {b : Nat} {c : Prop} [Decidable c] {x y : Step}
    (hx : c → x.Shrinks keys b) (hy : ¬c → y.Shrinks keys b) : (if c then x else y).Shrinks keys b := by
  split
  · exact hx ‹_›
  · exact hy ‹_›

theorem relInner_shrinks (recs : List Rec) (tr hr : Bool) (id : Option RefId) :
    ∀ (es : List Entry) (q : List RefId) (rt : Option RefId),
      (relInner recs tr hr id es q rt).Shrinks (recIds recs) (unseen (recIds recs) q) := by
  intro es
  induction es with
  | nil => intro q rt; rw [relInner]; exact trivial
  | cons e rest ih =>
    intro q rt
    unfold relInner
    -- the `let`s stay variables: inlined, each of their occurrences would be split on its own
    extract_lets useRecip relVal rt1
    clear_value relVal rt1
    -- the pass goes on with the next tag, with or without one more id in the visited set
    have stay : (relInner recs tr hr id rest q rt1).Shrinks (recIds recs) (unseen (recIds recs) q) := ih _ _
    have more : ∀ sv, (relInner recs tr hr id rest (sv :: q) rt1).Shrinks (recIds recs)
        (unseen (recIds recs) q) := fun sv => (ih _ _).mono (unseen_mono fun _ h => List.mem_cons_of_mem _ h)
    split
    · refine Step.Shrinks.ite_intro (fun _ => ?_)
        (fun _ => Step.Shrinks.ite_intro (fun _ => trivial) (fun _ => stay))
      refine Step.Shrinks.ite_intro (fun _ => trivial) (fun _ => ?_)
      refine Step.Shrinks.ite_intro (fun _ => ?_) (fun _ => stay)
      split
      · next sv _ =>
        refine Step.Shrinks.ite_intro (fun hq => ?_) (fun _ => stay)
        split
        · next new hnew =>
          -- `sv` resolves, so it is one of the ids, and it was not visited before
          exact Step.Shrinks.ite_intro
            (fun _ => unseen_cons_lt (mem_keys_of_find hnew).2 (by simpa using hq)) (fun _ => more sv)
        · exact more sv
      · exact stay
    all_goals exact stay

theorem relLoop_ok (recs : List Rec) (tr hr : Bool) :
    ∀ (fuel : Nat) (subject : Rec) (q : List RefId) (rt : Option RefId),
      unseen (recIds recs) q < fuel → ∃ b, relLoop recs tr hr fuel subject q rt = .ok b := by
  intro fuel
  induction fuel with
  | zero => intro s q rt h; omega
  | succ n ih =>
    intro s q rt h
    unfold relLoop
    split
    · exact ⟨_, rfl⟩
    · exact ⟨_, rfl⟩
    · rename_i s' q' rt' hstep
      have hlt := relInner_shrinks recs tr hr s.id s.entries q rt
      rw [hstep] at hlt
      exact ih _ _ _ (Nat.lt_of_lt_of_le hlt (Nat.le_of_lt_succ h))

theorem relLoop_terminates (recs : List Rec) (tr hr : Bool) (fuel : Nat) (subject : Rec) (q : List RefId)
    (rt : Option RefId) (h : unseen (recIds recs) q < fuel) : relLoop recs tr hr fuel subject q rt ≠ .diverge := by
  obtain ⟨b, e⟩ := relLoop_ok recs tr hr fuel subject q rt h
  rw [e]; nofun

end Hs.FLoops

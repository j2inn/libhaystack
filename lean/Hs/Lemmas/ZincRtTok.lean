/-
  C01 ladder: `TokRt` from a token read (`TokRt.of_lex`), and the token statements for finite numbers and
  coordinates, whose numerals need not be of the writer's shape (the other scalar kinds: `ZincSpellLeaf`).
-/
import Hs.Lemmas.ZincRtVal
import Hs.Lemmas.ZincRtCoord
import Hs.Lemmas.ZincRtNumLex
namespace Hs.Zinc
open Hs Hs.Scan

theorem TokRt.of_lex {v img : Val} {bs : List UInt8} (hsc : Scalar v = true) (henc : enc v true = bs)
    (himg : lexImg v = img)
    (h : ∀ (s : Scan) (rest : List UInt8) (fuel : Nat), At s (bs ++ rest) → s.stash = [] → Delim rest →
      bs.length + 3 ≤ fuel → ∃ s', lexRead fuel s = .ok { sc := s', tok := .val img } ∧ At s' rest ∧ s'.stash = []) :
    TokRt v := by
  subst henc himg
  exact ⟨hsc, TokD.of_clean (D := Delim) h⟩

theorem tok_num_finite (n : Num) (h : finiteNumOk n = true) : TokRt (.num n) := by
  obtain ⟨hnan, hinf, henc, htxt, hnb, hu⟩ := finiteNumOk_elim h
  refine TokRt.of_lex (bs := n.v.txt.map byteOf ++ unitBytes n.unit) (img := mkNum (n.v.txt.map byteOf) none n.unit)
    rfl ?_ ?_ fun s rest fuel hat hs hd hf => ?_
  · rw [enc]; exact henc
  · simp [mkNum, lexImg, lexNumI, hnan, hinf, htxt]
  · simp only [List.length_append] at hf
    exact lexRead_num _ hnb n.unit hu s rest fuel (by simpa using hat) hs hd (by omega)

theorem tok_coord (a b : Flt) (ha : decTextOk a.txt = true) (hb : decTextOk b.txt = true) : TokRt (.coord a b) := by
  obtain ⟨ea, ta, oa⟩ := decTextOk_elim ha
  obtain ⟨eb, tb, ob⟩ := decTextOk_elim hb
  refine TokRt.of_lex (bs := 67 :: 40 :: (a.txt.map byteOf ++ 44 :: (b.txt.map byteOf ++ [41])))
    (img := .coord (mkCoordFlt (a.txt.map byteOf)) (mkCoordFlt (b.txt.map byteOf))) rfl ?_ ?_
    fun s rest fuel hat hs _ hf => ?_
  · rw [enc]; simp [ea, eb]
  · simp [lexImg, mkCoordFlt, ta, tb]
  · simp only [List.length_cons, List.length_append, List.length_nil] at hf
    exact lexRead_coord _ _ oa ob s rest fuel (by simpa using hat) hs (by omega)

end Hs.Zinc

/-
  Hs.Lemmas.CmpOrd — `Val.cmp` (the model of `Ord for Value`) behaves like a total preorder at
  every NaN-free value, against all NaN-free values.  Structural induction on the first argument.
-/
import Hs.Lemmas.Ord
import Hs.Lemmas.CmpChars
import Hs.Lemmas.ValRec
namespace Hs

theorem ordAt_chars {P : List Char → Prop} (s : List Char) : OrdAt P cmpChars s :=
  OrdAt.ofLt (· < ·) cmpChars_iff List.lt_trans s

theorem ordAt_optChars {P : Option (List Char) → Prop} (s : Option (List Char)) :
    OrdAt P (cmpOpt cmpChars) s :=
  (OrdAt.opt (P := fun _ => True) (o := s) (fun a _ => ordAt_chars a)).mono
    (fun _ _ => by cases ‹Option (List Char)› <;> trivial)

theorem ordAt_keysList {P : List (List Char) → Prop} (l : List (List Char)) :
    OrdAt P (cmpList cmpChars) l :=
  ((OrdAt.list (P := fun _ => True) l (fun x _ => ordAt_chars x)).mono (fun _ _ _ _ => trivial))

theorem Flt.flt_of (x y : Flt) (hx : x.isNaN = false) (hy : y.isNaN = false) :
    x.flt y = decide (x.key < y.key) := by simp [Flt.flt, hx, hy]
theorem Flt.feq_of (x y : Flt) (hx : x.isNaN = false) (hy : y.isNaN = false) :
    x.feq y = decide (x.key = y.key) := by simp [Flt.feq, hx, hy]
theorem Flt.pcmp_of (x y : Flt) (hx : x.isNaN = false) (hy : y.isNaN = false) :
    x.pcmp y = some (compare x.key y.key) := by simp [Flt.pcmp, hx, hy]

theorem Num.cmp_of (a b : Num) (ha : a.v.isNaN = false) (hb : b.v.isNaN = false) :
    a.cmp b = (compare a.v.key b.v.key).then (cmpOpt cmpChars a.unit b.unit) := by
  unfold Num.cmp
  rw [Flt.flt_of _ _ ha hb, Flt.feq_of _ _ ha hb]
  rcases Int.lt_trichotomy a.v.key b.v.key with h | h | h
  · simp [h, Int.compare_eq_lt.2 h, Ordering.then]
  · simp [h, Ordering.then]
  · have h1 : ¬ a.v.key < b.v.key := by omega
    have h2 : ¬ a.v.key = b.v.key := by omega
    simp [h1, h2, Int.compare_eq_gt.2 h, Ordering.then]

theorem ordAt_num (a : Num) (ha : a.v.isNaN = false) :
    OrdAt (fun n : Num => n.v.isNaN = false) Num.cmp a :=
  (OrdAt.thenAt (OrdAt.ofIntKey (fun n : Num => n.v.key) a) (OrdAt.ofKey Num.unit (ordAt_optChars a.unit))).congrOn ha
    Num.cmp_of

theorem coordCmp_of (a1 a2 b1 b2 : Flt) (h1 : a1.isNaN = false) (h2 : a2.isNaN = false)
    (h3 : b1.isNaN = false) (h4 : b2.isNaN = false) :
    coordCmp a1 a2 b1 b2 = (compare a1.key b1.key).then (compare a2.key b2.key) := by
  unfold coordCmp
  rw [Flt.flt_of _ _ h1 h3, Flt.flt_of _ _ h3 h1, Flt.flt_of _ _ h2 h4, Flt.flt_of _ _ h4 h2]
  rcases Int.lt_trichotomy a1.key b1.key with h | h | h
  · simp [h, Int.compare_eq_lt.2 h, Ordering.then]
  · rcases Int.lt_trichotomy a2.key b2.key with h' | h' | h'
    · simp [h, h', Int.compare_eq_lt.2 h', Ordering.then]
    · simp [h, h', Ordering.then]
    · have : ¬ a2.key < b2.key := by omega
      simp [h, h', this, Int.compare_eq_gt.2 h', Ordering.then]
  · have : ¬ a1.key < b1.key := by omega
    simp [h, this, Int.compare_eq_gt.2 h, Ordering.then]

theorem ordAt_coord (a : Flt × Flt) (ha : a.1.isNaN = false ∧ a.2.isNaN = false) :
    OrdAt (fun p : Flt × Flt => p.1.isNaN = false ∧ p.2.isNaN = false)
      (fun p q => coordCmp p.1 p.2 q.1 q.2) a :=
  (OrdAt.thenAt (OrdAt.ofIntKey (fun p : Flt × Flt => p.1.key) a) (OrdAt.ofIntKey (fun p : Flt × Flt => p.2.key) a)).congrOn
    ha (fun _ _ hx hy => coordCmp_of _ _ _ _ hx.1 hx.2 hy.1 hy.2)

theorem ordAt_date {P : Date → Prop} (a : Date) : OrdAt P Date.cmp a :=
  OrdAt.thenAt (OrdAt.ofIntKey Date.y a) (OrdAt.thenAt (OrdAt.ofNatKey Date.m a) (OrdAt.ofNatKey Date.d a))

theorem ordAt_time {P : Time → Prop} (a : Time) : OrdAt P Time.cmp a :=
  OrdAt.thenAt (OrdAt.ofNatKey Time.secs a) (OrdAt.ofNatKey Time.ns a)

theorem ordAt_dateTime {P : DateTime → Prop} (a : DateTime) : OrdAt P DateTime.cmp a :=
  OrdAt.thenAt (OrdAt.ofIntKey DateTime.secs a) (OrdAt.ofNatKey DateTime.ns a)

theorem ordAt_xstr {P : List Char × List Char → Prop} (a : List Char × List Char) :
    OrdAt P (fun p q => (cmpChars p.1 q.1).then (cmpChars p.2 q.2)) a :=
  OrdAt.thenAt (OrdAt.ofKey Prod.fst (ordAt_chars a.1)) (OrdAt.ofKey Prod.snd (ordAt_chars a.2))

def Vals.uncons : Vals → Option (Val × Vals)
  | .nil => none
  | .cons v vs => some (v, vs)
/-- the values only: `Tags.cmp` compares all keys first and then, with `Tags.cmpVals`, the values in order -/
def Tags.unconsV : Tags → Option (Val × Tags)
  | .nil => none
  | .cons _ v t => some (v, t)
def Cols.uncons : Cols → Option ((List Char × OTags) × Cols)
  | .nil => none
  | .cons n m c => some ((n, m), c)
def Rows.uncons : Rows → Option (Tags × Rows)
  | .nil => none
  | .cons r rs => some (r, rs)

theorem Vals.cmp_eq (x y : Vals) : Vals.cmp x y =
    cmpOpt (fun p q : Val × Vals => (Val.cmp p.1 q.1).then (Vals.cmp p.2 q.2)) x.uncons y.uncons := by
  cases x <;> cases y <;> simp [Vals.cmp, Vals.uncons, cmpOpt]
theorem Tags.cmpVals_eq (x y : Tags) : Tags.cmpVals x y =
    cmpOpt (fun p q : Val × Tags => (Val.cmp p.1 q.1).then (Tags.cmpVals p.2 q.2)) x.unconsV y.unconsV := by
  cases x <;> cases y <;> simp [Tags.cmpVals, Tags.unconsV, cmpOpt]
theorem OTags.cmp_eq (x y : OTags) : OTags.cmp x y = cmpOpt Tags.cmp x.toOption y.toOption := by
  cases x <;> cases y <;> simp [OTags.cmp, OTags.toOption, cmpOpt]
theorem Cols.cmp_eq (x y : Cols) : Cols.cmp x y =
    cmpOpt (fun p q : (List Char × OTags) × Cols =>
      ((cmpChars p.1.1 q.1.1).then (OTags.cmp p.1.2 q.1.2)).then (Cols.cmp p.2 q.2)) x.uncons y.uncons := by
  cases x <;> cases y <;> simp [Cols.cmp, Cols.uncons, cmpOpt]
theorem Rows.cmp_eq (x y : Rows) : Rows.cmp x y =
    cmpOpt (fun p q : Tags × Rows => (Tags.cmp p.1 q.1).then (Rows.cmp p.2 q.2)) x.uncons y.uncons := by
  cases x <;> cases y <;> simp [Rows.cmp, Rows.uncons, cmpOpt]

abbrev NF (v : Val) : Prop := v.nanFree = true
abbrev NFs (v : Vals) : Prop := v.nanFree = true
abbrev NFt (v : Tags) : Prop := v.nanFree = true
abbrev NFo (v : OTags) : Prop := v.nanFree = true
abbrev NFc (v : Cols) : Prop := v.nanFree = true
abbrev NFr (v : Rows) : Prop := v.nanFree = true

/- `nanFree` constructor by constructor; for `.list`, `.dict` and `OTags.some` it is the payload's
`nanFree` by definition, so a proof for the value is a proof for the payload. -/
theorem nf_num {n : Num} : NF (.num n) ↔ n.v.isNaN = false := by simp [NF, Val.nanFree]
theorem nf_coord {a b : Flt} : NF (.coord a b) ↔ a.isNaN = false ∧ b.isNaN = false := by
  simp [NF, Val.nanFree]
theorem nf_grid {m : OTags} {c : Cols} {r : Rows} {v : List Char} :
    NF (.grid m c r v) ↔ NFo m ∧ NFc c ∧ NFr r := by simp [NF, Val.nanFree, and_assoc]
theorem nfs_cons {v : Val} {vs : Vals} : NFs (.cons v vs) ↔ NF v ∧ NFs vs := by simp [NFs, Vals.nanFree]
theorem nft_cons {k : List Char} {v : Val} {t : Tags} : NFt (.cons k v t) ↔ NF v ∧ NFt t := by
  simp [NFt, Tags.nanFree]
theorem nfc_cons {n : List Char} {m : OTags} {c : Cols} : NFc (.cons n m c) ↔ NFo m ∧ NFc c := by
  simp [NFc, Cols.nanFree]
theorem nfr_cons {r : Tags} {rs : Rows} : NFr (.cons r rs) ↔ NFt r ∧ NFr rs := by simp [NFr, Rows.nanFree]

theorem Vals.nf_uncons : ∀ x : Vals, NFs x → optP (fun p : Val × Vals => NF p.1 ∧ NFs p.2) x.uncons
  | .nil, _ => trivial
  | .cons _ _, h => nfs_cons.1 h
theorem Tags.nf_unconsV : ∀ x : Tags, NFt x → optP (fun p : Val × Tags => NF p.1 ∧ NFt p.2) x.unconsV
  | .nil, _ => trivial
  | .cons _ _ _, h => nft_cons.1 h
theorem OTags.nf_toOption : ∀ x : OTags, NFo x → optP NFt x.toOption
  | .none, _ => trivial
  | .some _, h => h
theorem Cols.nf_uncons : ∀ x : Cols, NFc x →
    optP (fun p : (List Char × OTags) × Cols => (True ∧ NFo p.1.2) ∧ NFc p.2) x.uncons
  | .nil, _ => trivial
  | .cons _ _ _, h => ⟨⟨trivial, (nfc_cons.1 h).1⟩, (nfc_cons.1 h).2⟩
theorem Rows.nf_uncons : ∀ x : Rows, NFr x → optP (fun p : Tags × Rows => NFt p.1 ∧ NFr p.2) x.uncons
  | .nil, _ => trivial
  | .cons _ _, h => nfr_cons.1 h

/-- `Tags.cmp` from `Tags.cmpVals` at the same `t`: a step to no smaller argument, so it stands before the structural
recursion, whose member for dicts is `ordAt_tagsVals`. -/
theorem ordAt_tags_of (t : Tags) (h : OrdAt NFt Tags.cmpVals t) : OrdAt NFt Tags.cmp t :=
  (OrdAt.thenAt (OrdAt.ofKey Tags.keys (ordAt_keysList t.keys)) (h.mono fun _ hb => hb.1)).congr
    (fun _ _ => by simp only [Tags.cmp])

/-- One variant `mk` of `Val`: the variant index decides first, and a NaN-free value of the same kind as `mk s` is
`mk` of a payload satisfying `P'`, so `Val.cmp` is as good at `mk s` as the payload order at `s`. -/
theorem ordAt_case {β} (mk : β → Val) (c' : β → β → Ordering) (P' : β → Prop) (s : β)
    (hrep : ∀ b, NF b → Val.SameKind b (mk s) → ∃ b', b = mk b' ∧ P' b')
    (hc : ∀ x y, Val.cmpSame (mk x) (mk y) = c' x y)
    (h : OrdAt P' c' s) : OrdAt NF Val.cmp (mk s) :=
  (OrdAt.keyThen (P := NF) Val.kindIdx (c2 := Val.cmpSame)
    (OrdAt.of_mk (P := fun b => NF b ∧ b.kindIdx = (mk s).kindIdx) mk c' P'
      (fun b hb => hrep b hb.1 (Val.sameKind hb.2)) hc h)).congr
    (fun x y => by rw [Val.cmp])

/-- A variant without payload: a value of its kind is the variant itself, which `Val.cmpSame` calls equal to itself. -/
theorem ordAt_const (v : Val) (hrep : ∀ b, Val.SameKind b v → b = v) (hc : Val.cmpSame v v = .eq) :
    OrdAt NF Val.cmp v :=
  ordAt_case (fun _ : Unit => v) (fun _ _ => .eq) (fun _ => True) ()
    (fun b _ r => ⟨(), hrep b r, trivial⟩) (fun _ _ => hc) (OrdAt.const ())

mutual
theorem ordAt_val : (a : Val) → NF a → OrdAt NF Val.cmp a
  | .null, _ => ordAt_const .null (fun _ r => by cases r; rfl) (by simp only [Val.cmpSame])
  | .remove, _ => ordAt_const .remove (fun _ r => by cases r; rfl) (by simp only [Val.cmpSame])
  | .marker, _ => ordAt_const .marker (fun _ r => by cases r; rfl) (by simp only [Val.cmpSame])
  | .na, _ => ordAt_const .na (fun _ r => by cases r; rfl) (by simp only [Val.cmpSame])
  | .bool x, _ => ordAt_case Val.bool (fun a b => compare a.toNat b.toNat) (fun _ => True) x
        (fun _ _ r => by cases r; exact ⟨_, rfl, trivial⟩) (fun _ _ => by simp only [Val.cmpSame]) (OrdAt.ofNatKey Bool.toNat x)
  | .num x, hx => ordAt_case Val.num Num.cmp (fun n => n.v.isNaN = false) x
        (fun _ hn r => by cases r; exact ⟨_, rfl, nf_num.1 hn⟩) (fun _ _ => by simp only [Val.cmpSame]) (ordAt_num x (nf_num.1 hx))
  | .str x, _ => ordAt_case Val.str cmpChars (fun _ => True) x
        (fun _ _ r => by cases r; exact ⟨_, rfl, trivial⟩) (fun _ _ => by simp only [Val.cmpSame]) (ordAt_chars x)
  | .uri x, _ => ordAt_case Val.uri cmpChars (fun _ => True) x
        (fun _ _ r => by cases r; exact ⟨_, rfl, trivial⟩) (fun _ _ => by simp only [Val.cmpSame]) (ordAt_chars x)
  | .ref x d, _ => ordAt_case (fun p : List Char × Option (List Char) => Val.ref p.1 p.2)
        (fun p q => cmpChars p.1 q.1) (fun _ => True) (x, d)
        (fun _ _ r => by cases r; exact ⟨(_, _), rfl, trivial⟩) (fun _ _ => by simp only [Val.cmpSame])
        (OrdAt.ofKey Prod.fst (ordAt_chars x))
  | .sym x, _ => ordAt_case Val.sym cmpChars (fun _ => True) x
        (fun _ _ r => by cases r; exact ⟨_, rfl, trivial⟩) (fun _ _ => by simp only [Val.cmpSame]) (ordAt_chars x)
  | .date x, _ => ordAt_case Val.date Date.cmp (fun _ => True) x
        (fun _ _ r => by cases r; exact ⟨_, rfl, trivial⟩) (fun _ _ => by simp only [Val.cmpSame]) (ordAt_date x)
  | .time x, _ => ordAt_case Val.time Time.cmp (fun _ => True) x
        (fun _ _ r => by cases r; exact ⟨_, rfl, trivial⟩) (fun _ _ => by simp only [Val.cmpSame]) (ordAt_time x)
  | .dateTime x, _ => ordAt_case Val.dateTime DateTime.cmp (fun _ => True) x
        (fun _ _ r => by cases r; exact ⟨_, rfl, trivial⟩) (fun _ _ => by simp only [Val.cmpSame]) (ordAt_dateTime x)
  | .coord x y, hx => ordAt_case (fun p : Flt × Flt => Val.coord p.1 p.2)
        (fun p q => coordCmp p.1 p.2 q.1 q.2) (fun p => p.1.isNaN = false ∧ p.2.isNaN = false) (x, y)
        (fun _ hn r => by cases r; exact ⟨(_, _), rfl, nf_coord.1 hn⟩) (fun _ _ => by simp only [Val.cmpSame])
        (ordAt_coord (x, y) (nf_coord.1 hx))
  | .xstr x y, _ => ordAt_case (fun p : List Char × List Char => Val.xstr p.1 p.2)
        (fun p q => (cmpChars p.1 q.1).then (cmpChars p.2 q.2)) (fun _ => True) (x, y)
        (fun _ _ r => by cases r; exact ⟨(_, _), rfl, trivial⟩) (fun _ _ => by simp only [Val.cmpSame]) (ordAt_xstr (x, y))
  | .list xs, hx => ordAt_case Val.list Vals.cmp NFs xs
        (fun _ hn r => by cases r; exact ⟨_, rfl, hn⟩) (fun _ _ => by simp only [Val.cmpSame]) (ordAt_vals xs hx)
  | .dict d, hx => ordAt_case Val.dict Tags.cmp NFt d
        (fun _ hn r => by cases r; exact ⟨_, rfl, hn⟩) (fun _ _ => by simp only [Val.cmpSame])
        (ordAt_tags_of d (ordAt_tagsVals d hx))
  | .grid md cols rows ver, hx =>
    ordAt_case (fun p : OTags × Cols × Rows × List Char => Val.grid p.1 p.2.1 p.2.2.1 p.2.2.2)
        (fun p q => (OTags.cmp p.1 q.1).then ((Cols.cmp p.2.1 q.2.1).then
          ((Rows.cmp p.2.2.1 q.2.2.1).then (cmpChars p.2.2.2 q.2.2.2))))
        (fun p => NFo p.1 ∧ NFc p.2.1 ∧ NFr p.2.2.1 ∧ True) (md, cols, rows, ver)
        (fun _ hn r => by cases r; exact ⟨(_, _, _, _), rfl, (nf_grid.1 hn).1, (nf_grid.1 hn).2.1, (nf_grid.1 hn).2.2, trivial⟩)
        (fun _ _ => by simp only [Val.cmpSame])
        (OrdAt.lex (ordAt_otags md (nf_grid.1 hx).1) (OrdAt.lex (ordAt_cols cols (nf_grid.1 hx).2.1)
          (OrdAt.lex (ordAt_rows rows (nf_grid.1 hx).2.2) (ordAt_chars (P := fun _ => True) ver))))
theorem ordAt_vals : (xs : Vals) → NFs xs → OrdAt NFs Vals.cmp xs
  | .nil, _ => OrdAt.ofUncons Vals.uncons Vals.cmp_eq Vals.nf_uncons (fun _ h => nomatch h)
  | .cons a as, hx => OrdAt.ofUncons Vals.uncons Vals.cmp_eq Vals.nf_uncons fun _ h => by
    cases h; exact OrdAt.lex (ordAt_val a (nfs_cons.1 hx).1) (ordAt_vals as (nfs_cons.1 hx).2)
theorem ordAt_tagsVals : (t : Tags) → NFt t → OrdAt NFt Tags.cmpVals t
  | .nil, _ => OrdAt.ofUncons Tags.unconsV Tags.cmpVals_eq Tags.nf_unconsV (fun _ h => nomatch h)
  | .cons k a as, hx => OrdAt.ofUncons Tags.unconsV Tags.cmpVals_eq Tags.nf_unconsV fun _ h => by
    cases h; exact OrdAt.lex (ordAt_val a (nft_cons.1 hx).1) (ordAt_tagsVals as (nft_cons.1 hx).2)
theorem ordAt_otags : (o : OTags) → NFo o → OrdAt NFo OTags.cmp o
  | .none, _ => OrdAt.ofUncons OTags.toOption OTags.cmp_eq OTags.nf_toOption (fun _ h => nomatch h)
  | .some t, hx => OrdAt.ofUncons OTags.toOption OTags.cmp_eq OTags.nf_toOption fun _ h => by
    cases h; exact ordAt_tags_of t (ordAt_tagsVals t hx)
theorem ordAt_cols : (c : Cols) → NFc c → OrdAt NFc Cols.cmp c
  | .nil, _ => OrdAt.ofUncons Cols.uncons Cols.cmp_eq Cols.nf_uncons (fun _ h => nomatch h)
  | .cons n m c, hx => OrdAt.ofUncons Cols.uncons Cols.cmp_eq Cols.nf_uncons fun _ h => by
    cases h
    exact OrdAt.lex (OrdAt.lex (ordAt_chars (P := fun _ => True) n) (ordAt_otags m (nfc_cons.1 hx).1))
      (ordAt_cols c (nfc_cons.1 hx).2)
theorem ordAt_rows : (r : Rows) → NFr r → OrdAt NFr Rows.cmp r
  | .nil, _ => OrdAt.ofUncons Rows.uncons Rows.cmp_eq Rows.nf_uncons (fun _ h => nomatch h)
  | .cons a as, hx => OrdAt.ofUncons Rows.uncons Rows.cmp_eq Rows.nf_uncons fun _ h => by
    cases h
    exact OrdAt.lex (ordAt_tags_of a (ordAt_tagsVals a (nfr_cons.1 hx).1)) (ordAt_rows as (nfr_cons.1 hx).2)
end

end Hs

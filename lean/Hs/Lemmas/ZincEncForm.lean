/-
  The writer's equations: what `enc` prints for each kind of value in terms of the text parts of `ZincWf`, and how
  long that is; that the writer's text of a Str, a Uri and of every scalar but a finite number or a coordinate is one
  of the grammar's spellings; `dtOk` taken apart; what follows a tag in the writer's text is a `Delim`; a row line
  begins with no blank.  Nothing here mentions a reader function.
-/
import Hs.Lemmas.ZincWf

namespace Hs.Zinc
open Hs Hs.Scan Hs.Spell

/-! ### Str and Uri bodies: the writer's escapes are spellings -/

theorem hexLower_eq (n : Nat) : hexDigitLower n = hexLower n := rfl

/-- the writer's `\u{:04x}` is one of the `\uXXXX` spellings (the writer uses it below U+0020 only) -/
theorem uesc_uEscape (c : Char) (h : c.toNat < 0x10000) : UEsc c (uEscape c.toNat) := by
  have e : c.toNat / 4096 % 16 = c.toNat / 4096 := Nat.mod_eq_of_lt (by omega)
  unfold uEscape
  rw [e]
  exact UEsc.mk c _ _ _ _ h ⟨by omega, .inl (hexLower_eq _)⟩ ⟨Nat.mod_lt _ (by decide), .inl (hexLower_eq _)⟩
    ⟨Nat.mod_lt _ (by decide), .inl (hexLower_eq _)⟩ ⟨Nat.mod_lt _ (by decide), .inl (hexLower_eq _)⟩

theorem strCh_enc (c : Char) : StrCh c (encStrChar c) := by
  by_cases c1 : c = '"'
  · subst c1; exact StrCh.quote
  by_cases c2 : c = '\t'
  · subst c2; exact StrCh.t
  by_cases c3 : c = '\r'
  · subst c3; exact StrCh.r
  by_cases c4 : c = '\n'
  · subst c4; exact StrCh.n
  by_cases c5 : c = '\\'
  · subst c5; exact StrCh.bslash
  by_cases c6 : c.toNat < 32
  · have e : encStrChar c = uEscape c.toNat := by simp [encStrChar, c1, c2, c3, c4, c5, c6]
    rw [e]; exact StrCh.u c _ (uesc_uEscape c (Nat.lt_trans c6 (by decide)))
  by_cases c7 : c = '$'
  · subst c7; exact StrCh.dollar
  have e : encStrChar c = encChar c := by simp [encStrChar, c1, c2, c3, c4, c5, c6, c7]
  rw [e]; exact StrCh.raw c (by omega) c1 c5 c7

theorem strBody_enc (s : List Char) : StrBody s (s.flatMap encStrChar) := by
  induction s with
  | nil => exact StrBody.nil
  | cons c cs ih =>
    rw [List.flatMap_cons]
    exact StrBody.cons c cs _ _ (strCh_enc c) ih

theorem quoted_encQuoted (s : List Char) : Quoted s (encQuoted s) :=
  Quoted.mk s _ (strBody_enc s)

theorem uriCh_enc (c : Char) : UriCh c (encUriChar c) := by
  by_cases c1 : c = '`'
  · subst c1; exact UriCh.bquote
  by_cases c2 : c = '\\'
  · subst c2; exact UriCh.bslash
  by_cases c3 : c.toNat < 32
  · have e : encUriChar c = uEscape c.toNat := by simp [encUriChar, c1, c2, c3]
    rw [e]; exact UriCh.u c _ (uesc_uEscape c (Nat.lt_trans c3 (by decide)))
  have e : encUriChar c = encChar c := by simp [encUriChar, c1, c2, c3]
  rw [e]; exact UriCh.raw c (by omega) c1 c2

theorem uriBody_enc (s : List Char) : UriBody s (s.flatMap encUriChar) := by
  induction s with
  | nil => exact UriBody.nil
  | cons c cs ih =>
    rw [List.flatMap_cons]
    exact UriBody.cons c cs _ _ (uriCh_enc c) ih

/-! ### scalars: the writer's text is a sentence -/

theorem upperFirst_of_upper {ty : List Char} (h : isUpperName ty = true) : upperFirst ty = ty := by
  cases ty with
  | nil => rfl
  | cons c r =>
    simp only [isUpperName, Bool.and_eq_true, decide_eq_true_eq] at h
    have hu := h.1.2
    simp only [isUpperB, byteOf, Bool.and_eq_true, decide_eq_true_eq, UInt8.le_iff_toNat_le, UInt8.reduceToNat] at hu
    rw [u8_ofNat_toNat (by omega)] at hu
    have : ¬ ('a' ≤ c) := by
      rw [Char.le_def, UInt32.le_iff_toNat_le]
      have : c.val.toNat = c.toNat := rfl
      simp only [this]
      have : ('a' : Char).val.toNat = 97 := rfl
      omega
    simp [upperFirst, this]

theorem encDateTime_eq (t : DateTime) : encDateTime t = encChars (dtText t) := by
  unfold encDateTime dtText
  by_cases h : (t.tzid == "UTC".toList) = true
  · simp only [h, if_true]
  · simp only [h, Bool.false_eq_true, if_false]
    rw [encChars_append, encChars_append]
    have : encChars [' '] = [32] := by decide
    rw [this]

theorem encDateTime_sp (t : DateTime) :
    encChars t.txt ++ (if t.tzid == "UTC".toList then [] else 32 :: encChars t.zone) = encDateTime t := by
  unfold encDateTime
  by_cases h : t.tzid = ['U', 'T', 'C'] <;> simp [h]

theorem dtOk_elim {t : DateTime} (h : dtOk t = true) :
    encDateTime t = (dtText t).map byteOf ∧ asciiChars ((dtText t).map byteOf) = dtText t ∧
      dtBytesOk ((dtText t).map byteOf) = true := by
  simp only [dtOk, Bool.and_eq_true] at h
  exact ⟨by rw [encDateTime_eq, encChars_all_ascii h.1], asciiChars_map_byteOf (all_ascii_mem h.1), h.2⟩

theorem firstW_datetime (t : DateTime) (h : dtOk t = true) : FirstW (encDateTime t) := by
  obtain ⟨henc, _, hm⟩ := dtOk_elim h
  obtain ⟨y0, r, heq, hy0⟩ := dtBytesOk_head hm
  rw [henc, heq]
  exact firstW_of_digit _ _ hy0

/-- for a finite number: `finiteNumOk_elim` -/
theorem encNum_nonfinite (n : Num) (h : Flt.isNaNBits n.v.bits = true ∨ Flt.isInfBits n.v.bits = true) :
    (Flt.isNaNBits n.v.bits = true ∧ encNum n = [78, 97, 78]) ∨
    (Flt.isNaNBits n.v.bits = false ∧ Flt.isInfBits n.v.bits = true ∧
      ((Flt.signBit n.v.bits = true ∧ encNum n = [45, 73, 78, 70]) ∨
       (Flt.signBit n.v.bits = false ∧ encNum n = [73, 78, 70]))) := by
  by_cases h1 : Flt.isNaNBits n.v.bits = true
  · exact Or.inl ⟨h1, by simp [encNum, h1]; decide⟩
  · simp only [Bool.not_eq_true] at h1
    have h2 : Flt.isInfBits n.v.bits = true := by simpa [h1] using h
    refine Or.inr ⟨h1, h2, ?_⟩
    by_cases h3 : Flt.signBit n.v.bits = true
    · exact Or.inl ⟨h3, by simp [encNum, h1, h2, h3]; decide⟩
    · simp only [Bool.not_eq_true] at h3
      exact Or.inr ⟨h3, by simp [encNum, h1, h2, h3]; decide⟩

theorem numSp_nonfinite (n : Num) (h : Flt.isNaNBits n.v.bits = true ∨ Flt.isInfBits n.v.bits = true) :
    NumSp n (encNum n) := by
  rcases encNum_nonfinite n h with ⟨h1, he⟩ | ⟨h1, h2, ⟨h3, he⟩ | ⟨h3, he⟩⟩
  · rw [he]; exact NumSp.nan n h1
  · rw [he]; exact NumSp.negInf n h1 h2 h3
  · rw [he]; exact NumSp.posInf n h1 h2 h3

/-- a finite number's or a coordinate's text is a sentence only when its numerals are the grammar's (`spells_enc`) -/
theorem spells_leaf : ∀ v : Val, Scalar v = true → wfS v = true → (∀ n, v ≠ .num n) → (∀ a b, v ≠ .coord a b) →
    Spells v (enc v true)
  | .null, _, _, _, _ => Spells.null
  | .remove, _, _, _, _ => Spells.remove
  | .marker, _, _, _, _ => Spells.marker
  | .na, _, _, _, _ => Spells.na
  | .bool true, _, _, _, _ => Spells.true_
  | .bool false, _, _, _, _ => Spells.false_
  | .str s, _, _, _, _ => Spells.str s _ (quoted_encQuoted s)
  | .uri s, _, _, _, _ => by simpa [enc, encUri] using Spells.uri s _ (uriBody_enc s)
  | .ref id .none, _, _, _, _ => by simpa [enc] using Spells.ref id
  | .ref id (.some d), _, _, _, _ => by simpa [enc] using Spells.refDis id d _ (quoted_encQuoted d)
  | .sym s, _, _, _, _ => by simpa [enc] using Spells.sym s
  | .date d, _, _, _, _ => Spells.date d
  | .time t, _, _, _, _ => Spells.time t _ (TimeSp.canon t)
  | .dateTime t, _, _, _, _ => by
    simp only [enc]
    rw [← encDateTime_sp]
    exact Spells.dateTime t
  | .xstr ty v, _, hwf, _, _ => by
    have hu : upperFirst ty = ty := upperFirst_of_upper (and_true_left hwf)
    simp only [enc, hu]
    simpa using Spells.xstr ty v _ [] [] (quoted_encQuoted v) Blanks.nil Blanks.nil
  | .num n, _, _, h, _ => absurd rfl (h n)
  | .coord a b, _, _, _, h => absurd rfl (h a b)

/-! ### lists -/

theorem encVals_one (v : Val) : encVals (.cons v .nil) = enc v true := by rw [encVals]

theorem encVals_cons2 (v w : Val) (ws : Vals) :
    encVals (.cons v (.cons w ws)) = enc v true ++ 44 :: encVals (.cons w ws) := by
  simp [encVals]

theorem enc_list (xs : Vals) (b : Bool) : enc (.list xs) b = 91 :: (encVals xs ++ [93]) := by rw [enc]; simp

/-! ### tags -/

theorem valPart_eq (v : Val) : (match v with | .marker => [] | _ => [58] ++ enc v true) = valPart v := by
  cases v <;> rfl

theorem enc_dict (d : Tags) (b : Bool) : enc (.dict d) b = 123 :: (encTags d 44 ++ [125]) := by rw [enc]; simp

theorem encTags_one (k : List Char) (v : Val) (sep : UInt8) :
    encTags (.cons k v .nil) sep = encChars k ++ valPart v := by
  rw [encTags.eq_def]; exact congrArg (encChars k ++ ·) (valPart_eq v)

theorem encTags_cons2 (k : List Char) (v : Val) (k2 : List Char) (v2 : Val) (t : Tags) (sep : UInt8) :
    encTags (.cons k v (.cons k2 v2 t)) sep = encChars k ++ valPart v ++ sep :: encTags (.cons k2 v2 t) sep := by
  rw [encTags.eq_def]
  exact (congrArg (fun x => encChars k ++ x ++ [sep] ++ encTags (.cons k2 v2 t) sep) (valPart_eq v)).trans (by simp)

theorem encTags_split (k : List Char) (v : Val) (t : Tags) (sep term : UInt8) (rest : List UInt8) :
    encTags (.cons k v t) sep ++ term :: rest = encChars k ++ (valPart v ++ tailOf sep term rest t) := by
  cases t with
  | nil => rw [encTags_one]; simp [tailOf]
  | cons k2 v2 t2 => rw [encTags_cons2]; simp [tailOf]

theorem encTags_afterK (k : List Char) (v : Val) (t : Tags) (sep : UInt8) :
    ∃ afterK, encTags (.cons k v t) sep = encChars k ++ afterK ∧
      ∀ term rest, afterK ++ term :: rest = valPart v ++ tailOf sep term rest t := by
  cases t with
  | nil => exact ⟨valPart v, encTags_one k v sep, fun term rest => by simp [tailOf]⟩
  | cons k2 v2 t2 =>
    exact ⟨valPart v ++ sep :: encTags (.cons k2 v2 t2) sep, by rw [encTags_cons2]; simp,
      fun term rest => by simp [tailOf]⟩

theorem encTags_length (k : List Char) (v : Val) (t : Tags) (sep : UInt8) :
    (encTags (.cons k v t) sep).length = (encChars k).length + (valPart v).length + sepLen sep t := by
  cases t with
  | nil => rw [encTags_one]; simp [sepLen]
  | cons k2 v2 t2 => rw [encTags_cons2]; simp [sepLen]; omega

theorem Delim_tailOf {sep term : UInt8} (sy : TagSyn sep term) (rest : List UInt8) (t : Tags)
    (hk : keysIdent t = true) : Delim (tailOf sep term rest t) := by
  cases t with
  | nil =>
    exact .of_end rest (by rcases sy.term with h | h | h <;> simp [h])
  | cons k v t' =>
    simp only [keysIdent, Bool.and_eq_true] at hk
    rcases sy.sep with h | h
    · exact .of_end _ (by simp [h])
    · obtain ⟨b, r, e, hb⟩ := isIdent_head hk.1
      show Delim (sep :: (encTags (.cons k v t') sep ++ term :: rest))
      rw [encTags_split, e, h]
      exact .of_space _ hb

/-! ### columns -/

theorem metaPart_eq (md : OTags) :
    (match md with | .none => [] | .some t => if t.isEmpty then [] else [32] ++ encTags t 32) = metaPart md := by
  cases md <;> rfl

theorem encCols_one (n : List Char) (md : OTags) : encCols (.cons n md .nil) = encChars n ++ metaPart md := by
  rw [encCols.eq_def]; exact congrArg (encChars n ++ ·) (metaPart_eq md)

theorem encCols_cons2 (n : List Char) (md : OTags) (n2 : List Char) (md2 : OTags) (c : Cols) :
    encCols (.cons n md (.cons n2 md2 c)) = encChars n ++ metaPart md ++ 44 :: encCols (.cons n2 md2 c) := by
  rw [encCols.eq_def]
  exact (congrArg (fun x => encChars n ++ x ++ [44] ++ encCols (.cons n2 md2 c)) (metaPart_eq md)).trans (by simp)

theorem encCols_length : ∀ (n : List Char) (md : OTags) (c : Cols),
    (encCols (.cons n md c)).length + 1 = colsLen (.cons n md c)
  | n, md, .nil => by rw [encCols_one]; simp [colsLen]
  | n, md, .cons n2 md2 c => by
    have ih := encCols_length n2 md2 c
    rw [encCols_cons2]
    simp only [colsLen, List.length_append, List.length_cons] at ih ⊢
    omega

theorem encCols_ne_nil {n : List Char} {cm : OTags} {c : Cols} (hn : isIdent n = true) : encCols (.cons n cm c) ≠ [] := by
  obtain ⟨b, r, e, _⟩ := isIdent_head hn
  cases c with
  | nil => rw [encCols_one, e]; simp
  | cons _ _ _ => rw [encCols_cons2, e]; simp

/-! ### rows -/

theorem find?_encCells (n : List Char) : ∀ t : Tags,
    (encCells t).find? (·.1 == n) = (t.get? n).map (fun v => (n, enc v true))
  | .nil => by simp [encCells, Tags.get?]
  | .cons k v t => by
    by_cases hk : k = n
    · simp [encCells, Tags.get?, hk]
    · have hk' : (k == n) = false := by simpa using hk
      simp [encCells, Tags.get?, hk, hk', find?_encCells n t]

theorem cellOf_encCells (r : Tags) (n : List Char) (single : Bool) :
    cellOf (encCells r) n single = cellBytes r n single := by
  simp only [cellOf, cellBytes, find?_encCells]
  cases r.get? n <;> rfl

theorem rowLine_encCells (r : Tags) (single : Bool) : ∀ ns : List (List Char),
    rowLine (encCells r) ns single = rowBytes r ns single
  | [] => rfl
  | [n] => by simp [rowLine, rowBytes, cellOf_encCells]
  | n :: n2 :: ns => by
    have ih := rowLine_encCells r single (n2 :: ns)
    simp [rowLine, rowBytes, cellOf_encCells, ih]

theorem cellText_encCells (n : List Char) (t : Tags) :
    cellText (encCells t) n = match t.get? n with | some v => enc v true | none => [] := by
  simp only [cellText, find?_encCells]
  cases t.get? n <;> rfl

theorem cellBytes_cellText (r : Tags) (n : List Char) (single : Bool) (hp : single = true → r.get? n ≠ none) :
    cellBytes r n single = cellText (encCells r) n := by
  rw [cellText_encCells n r]
  cases hget : r.get? n with
  | some v => simp [cellBytes, hget]
  | none =>
    cases single with
    | false => simp [cellBytes, hget]
    | true => exact absurd hget (hp rfl)

theorem cellOf_encCells_sp (r : Tags) (n : List Char) (single : Bool) (hp : single = true → r.get? n ≠ none) :
    cellOf (encCells r) n single = cellText (encCells r) n :=
  (cellOf_encCells r n single).trans (cellBytes_cellText r n single hp)

theorem encRows_cons (r : Tags) (rs : Rows) (names : List (List Char)) (single : Bool) :
    encRows (.cons r rs) names single = rowBytes r names single ++ 10 :: encRows rs names single := by
  rw [encRows, rowLine_encCells]; simp

theorem encRows_last (names : List (List Char)) (single : Bool) : ∀ (rows : Rows) (pre : List UInt8),
    (pre ++ 10 :: encRows rows names single).getLast? = some 10
  | .nil, pre => by simp [encRows]
  | .cons r rs, pre => by
    simpa [encRows] using encRows_last names single rs (pre ++ 10 :: rowLine (encCells r) names single)

theorem encRows_length_cons (r : Tags) (rs : Rows) (names : List (List Char)) (single : Bool) :
    (encRows (.cons r rs) names single).length
      = (rowBytes r names single).length + 1 + (encRows rs names single).length := by
  rw [encRows_cons]; simp; omega

theorem rowLineB_rowBytes (r : Tags) (single : Bool) : ∀ ns : List (List Char), ns ≠ [] →
    (∀ n ∈ ns, single = true → r.get? n ≠ none) → RowLineB (· = []) (encCells r) ns (rowBytes r ns single)
  | [], h, _ => absurd rfl h
  | [n], _, hp => by
    rw [rowBytes, cellBytes_cellText r n single (hp n (by simp))]
    exact RowLineB.one _ n
  | n :: n2 :: ns, _, hp => by
    rw [rowBytes, cellBytes_cellText r n single (hp n (by simp))]
    exact RowLineB.cons _ n n2 ns [] _ rfl (rowLineB_rowBytes r single (n2 :: ns) (by simp) (fun x hx => hp x (by simp [hx])))

theorem rowBytes_head (P : UInt8 → Prop) (h44 : P 44) (r : Tags) (names : List (List Char)) (single : Bool)
    (tl : List UInt8) (hne : names ≠ []) (hsingle : names.length = 1 → single = true)
    (hfirst : ∀ n ∈ names, ∀ v, r.get? n = some v → ∃ b t, enc v true = b :: t ∧ P b)
    (hpres : single = true → ∀ n ∈ names, r.get? n ≠ none) :
    ∃ b t, rowBytes r names single ++ 10 :: tl = b :: t ∧ P b := by
  cases rowHead r names single hne hsingle hpres with
  | cell n v mid hn hget hL _ =>
    obtain ⟨b, rr, e, hb⟩ := hfirst n (List.mem_of_mem_head? hn) v hget
    exact ⟨b, rr ++ mid ++ 10 :: tl, by rw [hL, e]; simp, hb⟩
  | missing n m _ _ hL => exact ⟨44, m ++ 10 :: tl, by rw [hL]; rfl, h44⟩

theorem firstOk_row (r : Tags) (names : List (List Char)) (single : Bool) (tl : List UInt8)
    (hne : names ≠ []) (hsingle : names.length = 1 → single = true)
    (hfirst : ∀ n ∈ names, ∀ v, r.get? n = some v → FirstOk (enc v true))
    (hpres : single = true → ∀ n ∈ names, r.get? n ≠ none) :
    FirstOk (rowBytes r names single ++ 10 :: tl) :=
  rowBytes_head _ (by decide) r names single tl hne hsingle hfirst hpres

/-! ### grids -/

theorem verBytes_eq : bytesOfAscii "ver:\"3.0\"" = verBytes := by decide

theorem enc_grid_eq (md : OTags) (cols : Cols) (rows : Rows) (ver : List Char) (nested : Bool) :
    enc (.grid md cols rows ver) nested =
      (if nested then [60, 60, 10] else []) ++ bytesOfAscii "ver:\"3.0\"" ++ metaPart md ++ [10]
        ++ (match cols with
            | .nil => bytesOfAscii "empty\n"
            | .cons _ _ _ => encCols cols ++ [10] ++ encRows rows cols.names (cols.length == 1))
        ++ (if nested then [62, 62] else [10]) := by
  cases md with
  | none => cases cols <;> simp [enc, metaPart]
  | some t => cases t <;> cases cols <;> simp [enc, metaPart, Tags.isEmpty]

theorem enc_grid_top (md : OTags) (n : List Char) (cm : OTags) (c : Cols) (rows : Rows) (ver : List Char) :
    enc (.grid md (.cons n cm c) rows ver) false = gridBody md (.cons n cm c) rows false [] := by
  rw [enc_grid_eq]; simp [gridBody, verBytes_eq, tailR]

theorem enc_grid_nested (md : OTags) (n : List Char) (cm : OTags) (c : Cols) (rows : Rows) (ver : List Char)
    (rest : List UInt8) :
    enc (.grid md (.cons n cm c) rows ver) true ++ rest = 60 :: 60 :: 10 :: gridBody md (.cons n cm c) rows true rest := by
  rw [enc_grid_eq]; simp [gridBody, verBytes_eq, tailR]

theorem enc_grid_nested_sp (md : OTags) (cols : Cols) (rows : Rows) (ver : List Char)
    (hwf : wfV (.grid md cols rows ver) = true) :
    enc (.grid md cols rows ver) true = 60 :: 60 :: ([10] ++ (verBytes ++ metaPart md ++ [10] ++ encCols cols ++ [10]
      ++ encRows rows cols.names (cols.length == 1)) ++ [62, 62]) := by
  obtain ⟨n, cm, c, rfl⟩ := (colsShape_parts (wfV_grid_parts hwf).2.2.1).1
  have := enc_grid_nested md n cm c rows ver []
  simp only [List.append_nil] at this
  rw [this]
  simp [gridBody, tailR]

theorem encode_grid_split (md : OTags) (n : List Char) (cm : OTags) (c : Cols) (rows : Rows) (ver : List Char) :
    encode (.grid md (.cons n cm c) rows ver) =
      headerBytes md (.cons n cm c) ++
        (encRows rows (Cols.names (.cons n cm c)) (Cols.length (.cons n cm c) == 1) ++ [10]) := by
  unfold encode
  rw [enc_grid_top]
  simp [gridBody, headerBytes, tailR]

theorem enc_grid_length (md : OTags) (n : List Char) (cm : OTags) (c : Cols) (rows : Rows) (ver : List Char) :
    (enc (.grid md (.cons n cm c) rows ver) true).length =
      15 + (metaPart md).length + colsLen (.cons n cm c)
        + (encRows rows (Cols.names (.cons n cm c)) (Cols.length (.cons n cm c) == 1)).length := by
  have h := enc_grid_nested md n cm c rows ver []
  simp only [List.append_nil] at h
  rw [h]
  have := encCols_length n cm c
  simp only [gridBody, verBytes, tailR, List.length_cons, List.length_append, List.length_nil, if_true]
  omega

theorem gridBody_length (md : OTags) (n : List Char) (cm : OTags) (c : Cols) (rows : Rows) :
    (metaPart md ++ 10 :: (encCols (.cons n cm c) ++ 10 ::
      encRows rows (Cols.names (.cons n cm c)) (Cols.length (.cons n cm c) == 1))).length =
    (metaPart md).length + colsLen (.cons n cm c)
      + (encRows rows (Cols.names (.cons n cm c)) (Cols.length (.cons n cm c) == 1)).length + 1 := by
  have := encCols_length n cm c
  simp only [List.length_cons, List.length_append]
  omega

end Hs.Zinc

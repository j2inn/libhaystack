/-
  C01 and C04 read direction: identifiers, Ref (with and without dis), Symbol, and the body of an XStr with any blanks
  inside its parentheses (`consume_spaces` over a run of blanks: `consumeSpaces_blanks`).  Where a Str is part of the
  token (display name, XStr value) the lemma takes any of its spellings.
-/
import Hs.Lemmas.ZincRtStr
import Hs.Lemmas.ClassLoop
namespace Hs.Zinc
open Hs Hs.Scan Hs.Spell

/-! ### the id alphabets -/

theorem encChars_isEmpty {cs : List Char} (h : cs ≠ []) : (encChars cs).isEmpty = false := by
  have := encChars_length_ge cs
  cases cs with
  | nil => exact absurd rfl h
  | cons c r => cases hx : encChars (c :: r) with
    | nil => rw [hx] at this; simp at this
    | cons _ _ => rfl

theorem classLoop_chars {P : UInt8 → Bool} (cs : List Char) (hcs : AllB P cs = true) (s : Scan) (rest : List UInt8)
    (fuel : Nat) (h : At s (encChars cs ++ rest)) (hst : Stop P rest) (hl : cs.length < fuel) :
    classLoop P (fun b => [b]) fuel s [] = .ok (encChars cs, advN cs.length s) ∧ At (advN cs.length s) rest := by
  obtain ⟨e, hp⟩ := encChars_ascii hcs
  have hl' : (cs.map byteOf).length = cs.length := List.length_map _
  rw [e] at h ⊢
  rw [← hl']
  exact ⟨by rw [classLoop_run hp h hst (by omega), List.flatMap_singleton', List.nil_append], h.advN⟩

theorem refLoop_chars (cs : List Char) (hcs : AllB isRefB cs = true) (s : Scan) (rest : List UInt8) (fuel : Nat)
    (h : At s (encChars cs ++ rest)) (hst : Stop isRefB rest) (hl : cs.length < fuel) :
    refLoop fuel s [] = .ok (encChars cs, advN cs.length s) ∧ At (advN cs.length s) rest :=
  refLoop_eq fuel s [] ▸ classLoop_chars cs hcs s rest fuel h hst hl

/-! ### `parseLiteral`, `parseId` -/

theorem parseLiteral_rt (cs : List Char) (hcs : AllB isLitB cs = true) (hne : cs ≠ [])
    (s : Scan) (rest : List UInt8) (fuel : Nat) (h : At s (encChars cs ++ rest)) (hst : Stop isLitB rest)
    (hf : cs.length < fuel) :
    parseLiteral fuel s = .ok (cs, advN cs.length s) ∧ At (advN cs.length s) rest := by
  obtain ⟨e, hat⟩ := classLoop_chars cs hcs s rest fuel h hst hf
  refine ⟨?_, hat⟩
  unfold parseLiteral
  simp only [literalLoop_eq, e, encChars_isEmpty hne, lossy_encChars]
  rfl

theorem parseId_rt (cs : List Char) (hcs : isIdent cs = true)
    (s : Scan) (rest : List UInt8) (fuel : Nat) (h : At s (encChars cs ++ rest)) (hst : Stop isLitB rest)
    (hf : cs.length < fuel) :
    parseId fuel s = .ok (cs, advN cs.length s) ∧ At (advN cs.length s) rest := by
  obtain ⟨hl, hne⟩ := isIdent_lit hcs
  obtain ⟨e, hat⟩ := parseLiteral_rt cs hl hne s rest fuel h hst hf
  refine ⟨?_, hat⟩
  obtain ⟨b, r, eb, hb⟩ := isIdent_head hcs
  rw [eb, List.cons_append] at h
  have : s.isLower = true := by
    unfold Scan.isLower; rw [h.cur]; exact hb
  unfold parseId
  simp [this, e]

/-! ### Ref -/

theorem parseRef_nodis (id : List Char) (hid : AllB isRefB id = true) (hne : id ≠ [])
    (s : Scan) (rest : List UInt8) (fuel : Nat) (h : At s (64 :: encChars id ++ rest)) (hs : s.stash = [])
    (hend : RefEnd rest) (hf : id.length < fuel) :
    ∃ s', parseRef fuel s = .ok (.ref id none, s') ∧ Post s' rest := by
  simp only [List.cons_append] at h
  obtain ⟨e, h1⟩ := refLoop_chars id hid s.advance rest fuel h.advance hend.stop hf
  have hs1 : (advN id.length s.advance).stash = [] := advN_stash_nil _ _ (advance_clean hs)
  unfold parseRef
  simp only [h.cur, bne_self_eq_false, Bool.false_eq_true, if_false, e, encChars_isEmpty hne, lossy_encChars]
  rcases hend with rfl | ⟨b, r, rfl, hb, hb32⟩ | ⟨x, r, rfl, hx⟩
  · refine ⟨_, ?_, h1, by simp [hs1], fun _ => hs1⟩
    simp [At.eof_nil h1]
  · refine ⟨_, ?_, h1, by simp [hs1], fun _ => hs1⟩
    simp [h1.eof, h1.cur, hb32]
  · obtain ⟨s2, e2, h2, hs2, _, _⟩ := h1.peek0' hs1
    refine ⟨s2, ?_, h2, by omega, fun hh => absurd rfl hh⟩
    simp [h1.eof, h1.cur, e2, hx]

theorem parseRef_disS (id : List Char) (hid : AllB isRefB id = true) (hne : id ≠ []) (dis : List Char)
    (q : List UInt8) (hq : Quoted dis q) (s : Scan) (rest : List UInt8) (fuel : Nat)
    (h : At s (64 :: (encChars id ++ 32 :: (q ++ rest)))) (hs : s.stash = [])
    (hf : id.length + q.length < fuel) :
    ∃ s', parseRef fuel s = .ok (.ref id (some dis), s') ∧ At s' rest ∧ s'.stash = [] := by
  obtain ⟨e, h1⟩ := refLoop_chars id hid s.advance _ fuel h.advance (Stop_cons (by decide)) (by omega)
  have hs1 : (advN id.length s.advance).stash = [] := advN_stash_nil _ _ (advance_clean hs)
  obtain ⟨t, hqt⟩ := quoted_shape hq
  have hq' : q ++ rest = 34 :: (t ++ rest) := by rw [hqt]; rfl
  rw [hq'] at h1
  obtain ⟨s2, e2, h2, hs2, _, _⟩ := h1.peek0' hs1
  have h3 := h2.advance
  rw [← hq'] at h3
  obtain ⟨s4, e4, h4, hs4⟩ := parseStr_sp dis q hq s2.advance rest fuel h3 (by omega)
  refine ⟨s4, ?_, h4, hs4 (advance_stash_nil (by omega))⟩
  unfold parseRef
  simp only [h.cur, bne_self_eq_false, Bool.false_eq_true, if_false, e, encChars_isEmpty hne, lossy_encChars]
  simp [h1.eof, h1.cur, e2, h2.readQ, e4]

theorem parseRef_dis (id : List Char) (hid : AllB isRefB id = true) (hne : id ≠ []) (dis : List Char)
    (s : Scan) (rest : List UInt8) (fuel : Nat)
    (h : At s (64 :: encChars id ++ 32 :: encQuoted dis ++ rest)) (hs : s.stash = [])
    (hf : id.length + (encQuoted dis).length < fuel) :
    ∃ s', parseRef fuel s = .ok (.ref id (some dis), s') ∧ At s' rest ∧ s'.stash = [] := by
  simp only [List.cons_append, List.append_assoc] at h
  exact parseRef_disS id hid hne dis _ (quoted_encQuoted dis) s rest fuel h hs hf

/-! ### Symbol -/

theorem parseSymbol_rt (cs : List Char) (hcs : isSymBody cs = true)
    (s : Scan) (rest : List UInt8) (fuel : Nat) (h : At s (94 :: encChars cs ++ rest)) (hst : Stop isRefB rest)
    (hf : cs.length < fuel) :
    parseSymbol fuel s = .ok (.sym cs, advN cs.length s.advance) ∧ At (advN cs.length s.advance) rest := by
  obtain ⟨c, r, rfl, h128, hlo, hall⟩ := isSymBody_parts hcs
  simp only [List.cons_append] at h
  have h0 := h.advance
  obtain ⟨e, hat⟩ := refLoop_chars (c :: r) hall s.advance rest fuel h0 hst hf
  refine ⟨?_, hat⟩
  have hlow : s.advance.isLower = true := by
    rw [encChars_cons, encChar_ascii c h128] at h0
    unfold Scan.isLower
    rw [h0.cur]; exact hlo
  unfold parseSymbol
  simp only [h.cur, bne_self_eq_false, Bool.false_eq_true, if_false, hlow, Bool.not_true, e,
    encChars_isEmpty (List.cons_ne_nil c r), lossy_encChars]

/-! ### XStr body -/

theorem consumeSpaces_blanks (ws : List UInt8) (hws : Blanks ws)
    (s : Scan) (b : UInt8) (r : List UInt8) (fuel : Nat) (h : At s (ws ++ b :: r)) (h1 : b ≠ 32) (h2 : b ≠ 9)
    (hf : ws.length < fuel) : Scan.consumeSpaces fuel s = .ok (advN ws.length s) := by
  obtain ⟨s', e, -, -, hs'⟩ := skipLoop_run (P := fun b => b == 32 || b == 9) ws
    (fun x hx => by rcases hws x hx with rfl | rfl <;> rfl) s (b :: r) fuel h (Stop_cons (by simp [h1, h2])) hf
  rw [Scan.consumeSpaces_eq, e, hs' (List.cons_ne_nil _ _)]

theorem consumeSpaces_clean {ws : List UInt8} (hws : Blanks ws) {s : Scan} {b : UInt8} {r : List UInt8} {fuel : Nat}
    (h : Clean s (ws ++ b :: r)) (h1 : b ≠ 32) (h2 : b ≠ 9) (hf : ws.length < fuel) :
    ∃ s', Scan.consumeSpaces fuel s = .ok s' ∧ Clean s' (b :: r) :=
  ⟨_, consumeSpaces_blanks ws hws s b r fuel h.here h1 h2 hf, h.advN⟩

/-- `(` blanks `"…"` blanks `)`; the writer's text is the case without blanks -/
theorem parseXStrBody_sp (name v : List Char) (q w1 w2 : List UInt8) (hq : Quoted v q) (hw1 : Blanks w1)
    (hw2 : Blanks w2) (s : Scan) (rest : List UInt8) (fuel : Nat)
    (h : At s (40 :: (w1 ++ (q ++ (w2 ++ 41 :: rest))))) (hs : s.stash = [])
    (hf : w1.length + q.length + w2.length < fuel) :
    ∃ s', parseXStrBody fuel name s = .ok (.xstr name v, s') ∧ At s' rest ∧ s'.stash = [] := by
  have h0 := h.advance
  have hs0 : s.advance.stash = [] := advance_clean hs
  obtain ⟨t, hqt⟩ := quoted_shape hq
  have e1 : consumeSpaces fuel s.advance = .ok (advN w1.length s.advance) := by
    rw [hqt] at h0
    exact consumeSpaces_blanks w1 hw1 s.advance 34 _ fuel h0 (by decide) (by decide) (by omega)
  obtain ⟨s2, e2, h2, hs2⟩ := parseStr_sp v q hq _ _ fuel h0.advN (by omega)
  have e3 := consumeSpaces_blanks w2 hw2 s2 41 rest fuel h2 (by decide) (by decide) (by omega)
  have h3 : At (advN w2.length s2) (41 :: rest) := h2.advN
  have hs3 : (advN w2.length s2).stash = [] := advN_stash_nil _ _ (hs2 (advN_stash_nil _ _ hs0))
  refine ⟨(advN w2.length s2).advance, ?_, h3.advance, advance_clean hs3⟩
  unfold parseXStrBody
  simp only [h.cur, e1, e2, e3, h3.cur]
  simp

end Hs.Zinc

/-
  The termination measure of every loop that keeps a visited set over a finite universe: how many members of the
  universe (a list, repetitions counted) are not yet in the set.  It never grows when the set grows, and drops when a
  member of the universe enters the set.
-/
namespace Hs
variable {α : Type} [DecidableEq α]

def unseen (U seen : List α) : Nat := U.countP (fun u => !decide (u ∈ seen))

theorem unseen_le_length (U seen : List α) : unseen U seen ≤ U.length := List.countP_le_length

theorem unseen_nil (U : List α) : unseen U [] = U.length := by simp [unseen]

theorem unseen_mono {U s s' : List α} (h : ∀ x ∈ s, x ∈ s') : unseen U s' ≤ unseen U s :=
  List.countP_mono_left fun x _ hx => by
    simp only [Bool.not_eq_true', decide_eq_false_iff_not] at hx ⊢
    exact fun hs => hx (h x hs)

theorem unseen_lt {U s s' : List α} {d : α} (hU : d ∈ U) (hd : d ∉ s) (hd' : d ∈ s') (h : ∀ x ∈ s, x ∈ s') :
    unseen U s' < unseen U s := by
  induction U with
  | nil => cases hU
  | cons u us ih =>
    have hle : unseen us s' ≤ unseen us s := unseen_mono h
    simp only [unseen, List.countP_cons] at hle ih ⊢
    by_cases hud : u = d
    · subst hud
      simp only [hd, hd', decide_true, decide_false, Bool.not_true, Bool.not_false, if_true, Bool.false_eq_true,
        if_false]
      omega
    · have := ih ((List.mem_cons.1 hU).resolve_left fun e => hud e.symm)
      by_cases hus : u ∈ s
      · simp only [hus, h u hus, decide_true, Bool.not_true, Bool.false_eq_true, if_false]; omega
      · simp only [hus, decide_false, Bool.not_false, if_true]; split <;> omega

theorem unseen_cons_lt {U s : List α} {d : α} (hU : d ∈ U) (hd : d ∉ s) : unseen U (d :: s) < unseen U s :=
  unseen_lt hU hd List.mem_cons_self fun _ h => List.mem_cons_of_mem _ h

/-! The universe of such a loop is often the keys of a record set, and what enters the visited set a key that a
resolver has just found. -/

theorem mem_keys_of_find {α κ : Type} [BEq κ] [LawfulBEq κ] {key : α → Option κ} {l : List α} {k : κ} {x : α}
    (h : l.find? (fun a => key a == some k) = some x) : key x = some k ∧ k ∈ l.filterMap key :=
  have hk : key x = some k := by simpa using List.find?_some h
  ⟨hk, List.mem_filterMap.2 ⟨x, List.mem_of_find?_eq_some h, hk⟩⟩

end Hs

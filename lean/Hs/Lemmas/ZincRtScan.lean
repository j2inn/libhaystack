/-
  Scanner normal form, used by every Zinc and filter proof: `At s rest` — the scanner `s` is positioned at
  `rest` (the current byte is the head of `rest`, the unread bytes — peek stash first, then the reader — are its
  tail; at the end of the input the `is_eof` flag is up and nothing is unread).  `Clean s rest`: at `rest` with nothing
  peeked, where every reader starts (the lemmas about `parseUri` and `parseCoordBody` say it with the structure, the other
  reader lemmas with the two hypotheses `At s rest` and `s.stash = []`); `Zinc.Post s rest`: where a token ends (at most one
  byte peeked, and only past a space).  The lexer's blank-skipping lemmas (`lexRead_skip`, `lexRead_specialW`,
  `lexRead_nlW` in `ZincRtLex`) lead from `Zinc.Pre s ws rest`, what a `Post` or a clean state is for the next token
  after the blanks `ws`, to a clean one.
-/
import Hs.Model.Scan
namespace Hs
open Hs Hs.Scan

def At (s : Scan) : List UInt8 → Prop
  | [] => s.eof = true ∧ s.stash = [] ∧ s.inp = []
  | b :: r => s.eof = false ∧ s.cur = b ∧ s.stash ++ s.inp = r

/-- the normal form produced by `Scanner::make` and by reads that used up the stash -/
def Scan.at (b : UInt8) (rest : List UInt8) (lp : UInt8) (pos : Nat) : Scan :=
  { cur := b, stash := [], lastPeek := lp, eof := false, inp := rest, pos := pos }

theorem At_at (b : UInt8) (rest : List UInt8) (lp : UInt8) (pos : Nat) : At (Scan.at b rest lp pos) (b :: rest) := by
  simp [At, Scan.at]

theorem At_make_all : ∀ bs : List UInt8, At (Scan.make bs) bs
  | [] => ⟨rfl, rfl, rfl⟩
  | b :: r => At_at b r 0xFF 0

namespace At
variable {s : Scan} {b c : UInt8} {r : List UInt8}

theorem eof (h : At s (b :: r)) : s.eof = false := h.1
theorem cur (h : At s (b :: r)) : s.cur = b := h.2.1
theorem unread (h : At s (b :: r)) : s.stash ++ s.inp = r := h.2.2
theorem eof_nil (h : At s []) : s.eof = true := h.1

theorem eof_of_ne_nil {bs : List UInt8} (h : At s bs) (hne : bs ≠ []) : s.eof = false := by
  cases bs with
  | nil => exact absurd rfl hne
  | cons b r => exact h.eof

theorem advance (h : At s (b :: r)) : At s.advance r := by
  obtain ⟨he, hc, hu⟩ := h
  unfold Scan.advance Scan.read
  cases hs : s.stash with
  | cons x xs =>
    rw [hs] at hu
    cases r with
    | nil => simp at hu
    | cons y ys =>
      simp at hu
      simp [At, he, hu.1, hu.2]
  | nil =>
    rw [hs] at hu
    simp at hu
    unfold Scan.readByte
    cases r with
    | nil => simp [hu, At, hs]
    | cons y ys => simp [hu, At, hs, he]

theorem advance_stash (s : Scan) : s.advance.stash = s.stash.tail := by
  unfold Scan.advance Scan.read
  cases hs : s.stash with
  | cons x xs => simp
  | nil =>
    unfold Scan.readByte
    cases s.inp <;> simp [hs]

theorem advance_pos_le (s : Scan) : s.pos ≤ s.advance.pos := by
  unfold Scan.advance Scan.read
  cases hs : s.stash with
  | cons x xs => simp
  | nil =>
    unfold Scan.readByte
    cases s.inp <;> simp

theorem advance_pos (h : At s (b :: c :: r)) : s.advance.pos = s.pos + 1 := by
  obtain ⟨he, hc, hu⟩ := h
  unfold Scan.advance Scan.read
  cases hs : s.stash with
  | cons x xs => simp
  | nil =>
    rw [hs] at hu
    simp at hu
    unfold Scan.readByte
    simp [hu]

theorem advance_lastPeek (s : Scan) : s.advance.lastPeek = s.lastPeek := by
  unfold Scan.advance Scan.read
  cases hs : s.stash with
  | cons x xs => simp
  | nil =>
    unfold Scan.readByte
    cases s.inp <;> simp

theorem read (h : At s (b :: c :: r)) : s.read = (some c, s.advance) := by
  obtain ⟨he, hc, hu⟩ := h
  unfold Scan.advance Scan.read
  cases hs : s.stash with
  | cons x xs =>
    rw [hs] at hu; simp at hu
    simp [hu.1]
  | nil =>
    rw [hs] at hu
    simp at hu
    unfold Scan.readByte
    simp [hu]

theorem read_last (h : At s [b]) : s.read = (none, s.advance) := by
  obtain ⟨he, hc, hu⟩ := h
  simp at hu
  unfold Scan.advance Scan.read
  rw [hu.1]
  unfold Scan.readByte
  simp [hu.2]

theorem readQ (h : At s (b :: c :: r)) : s.readQ = .ok s.advance := by
  unfold Scan.readQ; rw [h.read]

/-- the `k+1`-th peek looks `k+1` bytes ahead -/
theorem peek_some (h : At s (b :: r)) {k : Nat} (hk : s.stash.length = k) (hc : r[k]? = some c) :
    s.peek.1 = some c ∧ At s.peek.2 (b :: r) ∧ s.peek.2.stash.length = k + 1 ∧ s.peek.2.lastPeek = c
      ∧ s.peek.2.pos = s.pos := by
  obtain ⟨he, hcu, hu⟩ := h
  have hi : s.inp = r.drop k := by
    rw [← hu, ← hk]; simp
  have hr : r.drop k = c :: r.drop (k + 1) := by
    rw [List.getElem?_eq_some_iff] at hc
    obtain ⟨hlt, hc⟩ := hc
    rw [← hc]; exact List.drop_eq_getElem_cons hlt
  have hfin : s.stash ++ (c :: r.drop (k + 1)) = r := by rw [← hr, ← hi, hu]
  unfold Scan.peek Scan.readByte
  rw [hi, hr]
  simp [At, he, hcu, hk]
  exact hfin

theorem peek_none (h : At s (b :: r)) (hk : s.stash.length = r.length) :
    s.peek = (none, { s with eof := true }) := by
  obtain ⟨he, hcu, hu⟩ := h
  have hi : s.inp = [] := by
    have : (s.stash ++ s.inp).length = r.length := by rw [hu]
    simp at this
    exact List.eq_nil_of_length_eq_zero (by omega)
  unfold Scan.peek Scan.readByte
  rw [hi]

end At

def advN : Nat → Scan → Scan
  | 0, s => s
  | n + 1, s => advN n s.advance

theorem At.advN {bs : List UInt8} : ∀ {s : Scan} {r : List UInt8}, At s (bs ++ r) → At (advN bs.length s) r := by
  induction bs with
  | nil => intro s r h; simpa [Hs.advN] using h
  | cons b bs ih => intro s r h; simp only [List.length_cons, Hs.advN]; exact ih (At.advance h)

theorem advN_pos_le (n : Nat) : ∀ s : Scan, s.pos ≤ (advN n s).pos := by
  induction n with
  | zero => intro s; exact Nat.le_refl _
  | succ n ih => intro s; exact Nat.le_trans (At.advance_pos_le s) (ih _)

theorem advN_stash (n : Nat) : ∀ s : Scan, (advN n s).stash = s.stash.drop n := by
  induction n with
  | zero => intro s; simp [Hs.advN]
  | succ n ih =>
    intro s
    simp only [Hs.advN]
    rw [ih, At.advance_stash]
    cases s.stash <;> simp

theorem advN_stash_nil (n : Nat) : ∀ s : Scan, s.stash = [] → (advN n s).stash = [] :=
  fun s h => by rw [advN_stash, h, List.drop_nil]

theorem advN_add (m n : Nat) : ∀ s : Scan, advN (m + n) s = advN n (advN m s) := by
  induction m with
  | zero => intro s; rw [Nat.zero_add]; rfl
  | succ m ih => intro s; rw [Nat.succ_add]; exact ih s.advance

theorem At.advance_pos_mid {s : Scan} {b c : UInt8} {l r : List UInt8} (h : At s (b :: (l ++ c :: r))) :
    s.advance.pos = s.pos + 1 := by
  cases l with
  | nil => exact At.advance_pos h
  | cons x l => exact At.advance_pos h

theorem At.advance_cur_last {s : Scan} {b : UInt8} (h : At s [b]) : s.advance.cur = b := by
  obtain ⟨he, hc, hu⟩ := h
  simp at hu
  unfold Scan.advance Scan.read
  rw [hu.1]
  unfold Scan.readByte
  simp [hu.2, hc]

theorem advN_cur_last {bs : List UInt8} : ∀ {s : Scan} (b : UInt8), At s (bs ++ [b]) →
    (advN (bs.length + 1) s).cur = b := by
  induction bs with
  | nil => intro s b h; simp only [List.length_nil, Hs.advN]; exact At.advance_cur_last (by simpa using h)
  | cons x xs ih =>
    intro s b h
    simp only [List.length_cons, Hs.advN]
    exact ih b (At.advance (by simpa using h))

theorem consumeSpaces_none {s : Scan} (h : s.isSpace = false) (fuel : Nat) :
    Scan.consumeSpaces (fuel + 1) s = .ok s := by
  rw [Scan.consumeSpaces]; simp [h]

theorem At.peek_some' {s : Scan} {b c : UInt8} {r : List UInt8} (h : At s (b :: r)) {k : Nat}
    (hk : s.stash.length = k) (hc : r[k]? = some c) :
    ∃ s1, s.peek = (some c, s1) ∧ At s1 (b :: r) ∧ s1.stash.length = k + 1 ∧ s1.lastPeek = c ∧ s1.pos = s.pos := by
  obtain ⟨p1, p2, p3, p4, p5⟩ := h.peek_some hk hc
  exact ⟨s.peek.2, Prod.ext p1 rfl, p2, p3, p4, p5⟩

theorem At.peek0' {s : Scan} {b c : UInt8} {r : List UInt8} (h : At s (b :: c :: r)) (hs : s.stash = []) :
    ∃ s1, s.peek = (some c, s1) ∧ At s1 (b :: c :: r) ∧ s1.stash.length = 1 ∧ s1.lastPeek = c ∧ s1.pos = s.pos :=
  h.peek_some' (k := 0) (by simp [hs]) (by simp)

theorem advance_stash_nil {s : Scan} (h : s.stash.length ≤ 1) : s.advance.stash = [] := by
  rw [At.advance_stash]
  cases hs : s.stash with
  | nil => rfl
  | cons x xs => rw [hs] at h; simp at h; simp [h]

theorem advance_clean {s : Scan} (h : s.stash = []) : s.advance.stash = [] :=
  advance_stash_nil (by rw [h]; exact Nat.zero_le 1)

structure Clean (s : Scan) (rest : List UInt8) : Prop where
  here : At s rest
  stash : s.stash = []

theorem Clean.advance {s : Scan} {b : UInt8} {r : List UInt8} (h : Clean s (b :: r)) : Clean s.advance r :=
  ⟨h.here.advance, advance_clean h.stash⟩

theorem Clean.advN {bs : List UInt8} {s : Scan} {r : List UInt8} (h : Clean s (bs ++ r)) : Clean (advN bs.length s) r :=
  ⟨h.here.advN, advN_stash_nil _ _ h.stash⟩

theorem Clean.peek {s : Scan} {b c : UInt8} {r : List UInt8} (h : Clean s (b :: c :: r)) :
    ∃ s1, s.peek = (some c, s1) ∧ At s1 (b :: c :: r) ∧ s1.stash.length = 1 ∧ s1.lastPeek = c ∧ s1.pos = s.pos :=
  h.here.peek0' h.stash

theorem Clean.peeked {s : Scan} {b : UInt8} {r : List UInt8} (h : At s (b :: r)) (hs : s.stash.length ≤ 1) :
    Clean s.advance r := ⟨h.advance, advance_stash_nil hs⟩

end Hs

namespace Hs.Zinc
open Hs Hs.Scan

/-- the Ref and the zone readers peek one byte past a space -/
def Post (s : Scan) (rest : List UInt8) : Prop :=
  At s rest ∧ s.stash.length ≤ 1 ∧ (rest.head? ≠ some 32 → s.stash = [])

theorem Post.of_clean {s : Scan} {rest : List UInt8} (h : At s rest) (hs : s.stash = []) : Post s rest :=
  ⟨h, by simp [hs], fun _ => hs⟩

/-- where the next token is read from: before the blanks `ws` (none is one) that lead to `rest`.  A clean state is one,
and so is a `Post` state when `rest` does not begin with a space; it asks less than `Post` when `ws` begins with a tab -/
structure Pre (s : Scan) (ws rest : List UInt8) : Prop where
  here : At s (ws ++ rest)
  stash_le : s.stash.length ≤ 1
  stash_nil : ws = [] → s.stash = []

theorem Pre.of_clean {s : Scan} {ws rest : List UInt8} (h : At s (ws ++ rest)) (hs : s.stash = []) : Pre s ws rest :=
  ⟨h, by simp [hs], fun _ => hs⟩

theorem Post.pre {s : Scan} {ws : List UInt8} {c : UInt8} {rest : List UInt8} (h : Post s (ws ++ c :: rest))
    (hc : c ≠ 32) : Pre s ws (c :: rest) :=
  ⟨h.1, h.2.1, fun e => by subst e; exact h.2.2 (by simpa using hc)⟩

theorem Post.pre_of_ne {s : Scan} {ws rest : List UInt8} (h : Post s (ws ++ rest)) (hne : ws ≠ []) : Pre s ws rest :=
  ⟨h.1, h.2.1, fun e => absurd e hne⟩

theorem Pre.cast {s : Scan} {ws a b : List UInt8} (h : Pre s ws a) (e : a = b) : Pre s ws b := e ▸ h

theorem make_stash (bs : List UInt8) : (Scan.make bs).stash = [] := by cases bs <;> rfl

theorem isSpace_of_cur {s : Scan} {b : UInt8} (h : s.cur = b) (h1 : b ≠ 32) (h2 : b ≠ 9) : s.isSpace = false := by
  unfold Scan.isSpace; rw [h]; simp [h1, h2]

/-! ### a loop that copies bytes -/

theorem copyLoop_bytes (f : Nat → Scan → List UInt8 → Res (List UInt8 × Scan)) (P : UInt8 → Prop)
    (hstep : ∀ (s : Scan) (b : UInt8) (r : List UInt8) (fuel : Nat) (acc : List UInt8), At s (b :: r) → P b →
      f (fuel + 1) s acc = f fuel s.advance (acc ++ [b]))
    (bs : List UInt8) (hbs : ∀ b ∈ bs, P b) :
    ∀ (s : Scan) (r : List UInt8) (fuel : Nat) (acc : List UInt8), At s (bs ++ r) →
    f (fuel + bs.length) s acc = f fuel (advN bs.length s) (acc ++ bs) := by
  induction bs with
  | nil => intro s r fuel acc h; simp [advN]
  | cons b bs ih =>
    intro s r fuel acc h
    simp only [List.cons_append] at h
    have e := ih (fun x hx => hbs x (by simp [hx])) s.advance r fuel (acc ++ [b]) h.advance
    have : fuel + (b :: bs).length = (fuel + bs.length) + 1 := by simp; omega
    rw [this, hstep s b _ _ acc h (hbs b (by simp)), e]; simp [advN]

end Hs.Zinc

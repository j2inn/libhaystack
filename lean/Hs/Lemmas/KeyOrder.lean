/-
  Names in code point order (Rust `String: Ord` on valid UTF-8).  That order is core's lexicographic order on
  `List Char` (`Char`s compare by their scalar value).  The models spell it as Boolean functions (`Zinc.leChars`,
  `Hayson.leChars`, `Spec.nameLe` twice, `CApi.ltKey`) and as an `Ordering` (`cmpChars`): `le_iff`, `lt_iff`, `cmp_iff`
  identify any function with those equations, so the order laws are core's.
  Then strictly ascending lists of names, kept by insertion (`insertKey`: `CApi.insertName`, `Kinds.insertKey`).
-/
namespace Hs.Key

theorem char_lt {a b : Char} : a < b ↔ a.toNat < b.toNat := by
  rw [Char.lt_def, UInt32.lt_iff_toNat_lt]; rfl

theorem char_eq {a b : Char} (h1 : ¬ a.toNat < b.toNat) (h2 : ¬ b.toNat < a.toNat) : a = b :=
  Char.toNat_inj.mp (Nat.le_antisymm (Nat.not_lt.mp h2) (Nat.not_lt.mp h1))

theorem le_iff {f : List Char → List Char → Bool} (h0 : ∀ b, f [] b = true) (h1 : ∀ a as, f (a :: as) [] = false)
    (h2 : ∀ a as b bs, f (a :: as) (b :: bs) =
      if a.toNat < b.toNat then true else if b.toNat < a.toNat then false else f as bs) :
    ∀ a b : List Char, f a b = true ↔ a ≤ b
  | [], b => by simp [h0]
  | a :: as, [] => by simp [h1]
  | a :: as, b :: bs => by
    rw [h2, List.cons_le_cons_iff, char_lt]
    by_cases hab : a.toNat < b.toNat
    · simp [hab]
    · by_cases hba : b.toNat < a.toNat
      · have : a ≠ b := fun e => by subst e; exact hab hba
        simp [hab, hba, this]
      · simp [char_eq hab hba, le_iff h0 h1 h2 as bs]

theorem lt_iff {f : List Char → List Char → Bool} (h00 : f [] [] = false) (h0 : ∀ b bs, f [] (b :: bs) = true)
    (h1 : ∀ a as, f (a :: as) [] = false)
    (h2 : ∀ a as b bs, f (a :: as) (b :: bs) =
      if a.toNat < b.toNat then true else if b.toNat < a.toNat then false else f as bs) :
    ∀ a b : List Char, f a b = true ↔ a < b
  | [], [] => by simp [h00]
  | [], b :: bs => by simp [h0]
  | a :: as, [] => by simp [h1]
  | a :: as, b :: bs => by
    rw [h2, List.cons_lt_cons_iff, char_lt]
    by_cases hab : a.toNat < b.toNat
    · simp [hab]
    · by_cases hba : b.toNat < a.toNat
      · have : a ≠ b := fun e => by subst e; exact hab hba
        simp [hab, hba, this]
      · simp [char_eq hab hba, lt_iff h00 h0 h1 h2 as bs]

theorem cmp_iff {f : List Char → List Char → Ordering} (h00 : f [] [] = .eq) (h0 : ∀ b bs, f [] (b :: bs) = .lt)
    (h1 : ∀ a as, f (a :: as) [] = .gt)
    (h2 : ∀ a as b bs, f (a :: as) (b :: bs) = (compare a.toNat b.toNat).then (f as bs)) :
    ∀ a b : List Char, (f a b = .lt ↔ a < b) ∧ (f a b = .eq ↔ a = b) ∧ (f a b = .gt ↔ b < a)
  | [], [] => by simp [h00]
  | [], b :: bs => by simp [h0]
  | a :: as, [] => by simp [h1]
  | a :: as, b :: bs => by
    obtain ⟨i1, i2, i3⟩ := cmp_iff h00 h0 h1 h2 as bs
    rw [h2, List.cons_lt_cons_iff, List.cons_lt_cons_iff, char_lt, char_lt]
    rcases Nat.lt_trichotomy a.toNat b.toNat with h | h | h
    · have : a ≠ b := fun e => by subst e; exact Nat.lt_irrefl _ h
      simp [Nat.compare_eq_lt.2 h, Ordering.then, h, Nat.lt_asymm h, this, this.symm]
    · have := Char.toNat_inj.mp h
      subst this
      simp [Ordering.then, i1, i2, i3]
    · have : a ≠ b := fun e => by subst e; exact Nat.lt_irrefl _ h
      simp [Nat.compare_eq_gt.2 h, Ordering.then, h, Nat.lt_asymm h, this, this.symm]

/-- the strict order written as `le a b && a != b` (`Zinc.ltKey`, `Hayson.ltChars`) -/
theorem le_and_ne {a b : List Char} : (a ≤ b ∧ a ≠ b) ↔ a < b :=
  ⟨fun ⟨h, hne⟩ => List.not_le.mp fun h' => hne (List.le_antisymm h h'),
   fun h => ⟨List.le_of_lt h, fun e => List.lt_irrefl _ (e ▸ h)⟩⟩

theorem lt_ne {a b : List Char} (h : a < b) : a ≠ b := fun e => List.lt_irrefl _ (e ▸ h)

/-! ### strictly ascending keys -/

abbrev Asc (ks : List (List Char)) : Prop := ks.Pairwise (· < ·)

theorem Asc.nodup {ks : List (List Char)} (h : Asc ks) : ks.Nodup :=
  List.Pairwise.imp (S := (· ≠ ·)) (fun {a b} (hlt : a < b) (e : a = b) => List.lt_irrefl _ (e ▸ hlt)) h

/-- the Boolean checks of the models that compare neighbours only (`sortedFrom`/`strictSorted`) -/
theorem asc_cons_cons {a b : List Char} {r : List (List Char)} : Asc (a :: b :: r) ↔ a < b ∧ Asc (b :: r) := by
  refine ⟨fun h => ⟨(List.pairwise_cons.mp h).1 b (by simp), (List.pairwise_cons.mp h).2⟩, fun ⟨hab, h⟩ => ?_⟩
  refine List.pairwise_cons.mpr ⟨fun c hc => ?_, h⟩
  rcases List.mem_cons.mp hc with rfl | hc
  · exact hab
  · exact List.lt_trans hab ((List.pairwise_cons.mp h).1 c hc)

/-! ### a strictly ascending list of names as a set -/

def insertKey (k : List Char) : List (List Char) → List (List Char)
  | [] => [k]
  | x :: xs => if k < x then k :: x :: xs else if k = x then x :: xs else x :: insertKey k xs

theorem mem_insertKey {q k : List Char} : ∀ {l : List (List Char)}, q ∈ insertKey k l ↔ q = k ∨ q ∈ l
  | [] => by simp [insertKey]
  | x :: xs => by
    unfold insertKey
    split
    · simp
    · split
      · next e => subst e; simp
      · simp only [List.mem_cons, mem_insertKey (l := xs)]
        exact ⟨fun h => h.elim (fun h => .inr (.inl h)) (fun h => h.imp id .inr),
          fun h => h.elim (fun h => .inr (.inl h)) (fun h => h.elim .inl (fun h => .inr (.inr h)))⟩

theorem asc_insertKey {k : List Char} : ∀ {l : List (List Char)}, Asc l → Asc (insertKey k l)
  | [], _ => by simp [insertKey, Asc]
  | x :: xs, h => by
    have h' := List.pairwise_cons.mp h
    unfold insertKey
    split
    · next hlt =>
      exact List.pairwise_cons.mpr ⟨fun z hz => (List.mem_cons.mp hz).elim (fun e => e ▸ hlt)
        (fun hz => List.lt_trans hlt (h'.1 z hz)), h⟩
    · next hnlt =>
      split
      · exact h
      · next hne =>
        refine List.pairwise_cons.mpr ⟨fun z hz => ?_, asc_insertKey h'.2⟩
        rcases mem_insertKey.mp hz with rfl | hz
        · exact le_and_ne.mp ⟨List.not_lt.mp hnlt, fun e => hne e.symm⟩
        · exact h'.1 z hz

end Hs.Key

/-
  Hs.Lemmas.UnitArithTable — facts about the REGENERATED unit table `Hs.Gen.UnitsQ`, each by one linear kernel
  evaluation over the whole table and lifted to `∀ u ∈ units`.  Re-checked whenever units_generated.rs changes.
-/
import Hs.Lemmas.UnitArith
import Hs.Gen.UnitsQ
namespace Hs.UnitArith
open Hs Hs.Gen.UnitsQ

def rowOk (u : QUnit) : Bool :=
  decide (0 < u.scale)
    && (match u.dims with | some d => d.small | none => true)   -- exponents in −64 … 63
    && !u.ids.isEmpty                                    -- so it is not `Unit::default()`
    && (u.dims.isNone || !u.isByte)                      -- byte units all have `dimensions: None` (the string
                                                         -- comparisons of `isByte` run only where there are dimensions)

theorem rows_ok : units.all rowOk = true := by decide +kernel

theorem entries_idx_ok : entries.all (fun e => decide (e.2 < units.length)) = true := by decide +kernel

theorem rowOk_iff {u : QUnit} : rowOk u = true ↔
    0 < u.scale ∧ (∀ d, u.dims = some d → d.small = true) ∧ u.ids ≠ [] ∧ (u.isByte = true → u.dims = none) := by
  unfold rowOk
  cases u.dims with
  | none => simp
  | some d => simp [and_assoc]

theorem rowOk_of_mem {u : QUnit} (h : u ∈ units) : rowOk u = true :=
  List.all_eq_true.mp rows_ok u h

theorem scale_pos {u : QUnit} (h : u ∈ units) : 0 < u.scale := (rowOk_iff.1 (rowOk_of_mem h)).1

theorem scale_ne_zero {u : QUnit} (h : u ∈ units) : u.scale ≠ 0 := ne_of_gt (scale_pos h)

theorem dims_small {u : QUnit} (h : u ∈ units) {d : Dims} (hd : u.dims = some d) : d.small = true :=
  (rowOk_iff.1 (rowOk_of_mem h)).2.1 d hd

theorem ne_default {u : QUnit} (h : u ∈ units) : u ≠ defaultUnit :=
  fun e => (rowOk_iff.1 (rowOk_of_mem h)).2.2.1 (e ▸ rfl)

/-- on the database the byte rule of `convert_to` adds nothing: byte units all have the same (no) dimension -/
theorem byte_dims {u : QUnit} (h : u ∈ units) (hb : u.isByte = true) : u.dims = none :=
  (rowOk_iff.1 (rowOk_of_mem h)).2.2.2 hb

def dbEntries : List QUnit := entryUnits units entries

theorem dbEntries_subset : ∀ u ∈ dbEntries, u ∈ units := by
  apply entryUnits_subset
  intro e he
  simpa using List.all_eq_true.mp entries_idx_ok e he

theorem dims_add_sub_in_i8 {a b : QUnit} (ha : a ∈ units) (hb : b ∈ units) {d1 d2 : Dims}
    (h1 : a.dims = some d1) (h2 : b.dims = some d2) :
    (d1.add d2).inI8 = true ∧ (d1.sub d2).inI8 = true :=
  Dims.small_add_sub d1 d2 (dims_small ha h1) (dims_small hb h2)

end Hs.UnitArith

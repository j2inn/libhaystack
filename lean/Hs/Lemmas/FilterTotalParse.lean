/-
  Hs.Lemmas.FilterTotalParse — C09: fuel sufficiency of the filter parser (filter/parser.rs).

  Measure: `FLex.M l` = bytes the scanner has not consumed (`Scan.mu`) + one unit for a pending token
  (`cur ≠ none`).  A lexer `read` never increases it — the token it returns is paid for by the bytes it consumed;
  after a swallowed lexer error the token is unchanged and the scanner measure did not grow
  (`Hs.Lemmas.FilterTotalErr`).  For every function of the parser's `mutual` block, by induction on the fuel:
  no `panic`/`depth`, the measure does not grow, and `diverge` is only possible when `fuel ≤ 8 * measure + c`
  with a per-function constant `c ≤ 13`.

  Why the budgets close: an iteration of `orLoop`/`andLoop` consumes the `or`/`and` token, a nested group consumes
  its `(` token, a token costs one unit of `M`, and one unit of measure buys 8 units of fuel — more than the longest
  chain of calls between two `read`s (`parseTerm → parseParens → parseOr → parseAnd → parseTerm`).
-/
import Hs.Lemmas.FilterTotalLex
namespace Hs.FText
open Hs Hs.Scan Hs.Zinc

def FLex.M (l : FLex) : Nat := l.sc.mu + (if l.cur.isNone then 0 else 1)

theorem FLex.M_def (l : FLex) : l.M = l.sc.mu + (if l.cur.isNone then 0 else 1) := rfl

theorem FLex.mu_le_M (l : FLex) : l.sc.mu ≤ l.M := Nat.le_add_right _ _

theorem FLex.M_mk (s : Scan) (t : FTok) :
    FLex.M { sc := s, cur := t } = s.mu + (if t.isNone then 0 else 1) := rfl

theorem FTok.isNone_of_isPath {t : FTok} {p : Path} (h : t.isPath p = true) : t.isNone = false := by
  cases t <;> simp_all [FTok.isPath, FTok.isNone]
theorem FLex.isNone_of_lparen {l : FLex} (h : l.cur = FTok.lparen) : l.cur.isNone = false := by
  simp [h, FTok.isNone]
theorem FLex.M_of_tok {l : FLex} (h : l.cur.isNone = false) : l.M = l.sc.mu + 1 := by
  rw [FLex.M_def, h]; rfl

/-! ### the three ways the parser calls the lexer -/

/-- `self.lexer.read()?` -/
theorem FLex.read_spec (fuel : Nat) (l : FLex) :
    (l.read fuel).Sat fuel (l.sc.mu + 1) (fun l1 => l1.M ≤ l.sc.mu) := by
  unfold FLex.read
  cases he : l.sc.eof with
  | true =>
    cases fuel with
    | zero => exact Nat.zero_le _
    | succ n =>
      rw [lexRead_at_eof n l.sc he]
      refine Res.Sat.ok_intro ?_
      simp [FLex.M, FTok.isNone]
  | false =>
    have h := lexRead_spec fuel l.sc
    cases hr : lexRead fuel l.sc with
    | ok s t =>
      rw [hr] at h
      simp only [TokR.Sat_ok] at h
      refine Res.Sat.ok_intro ?_
      have := h.2.1 he
      rw [FLex.M_mk]; split <;> omega
    | err s => exact trivial
    | panic => rw [hr] at h; exact h
    | depth => rw [hr] at h; exact h
    | diverge => rw [hr] at h; exact h

/-- `self.lexer.read()` with the `Result` inspected: after an `Err` the token in hand stays -/
theorem FLex.readTry_spec (fuel : Nat) (l : FLex) :
    (l.readTry fuel).Sat fuel (l.sc.mu + 1) (fun o => o.2.M ≤ l.M ∧ (o.1 = true → o.2.M ≤ l.sc.mu)) := by
  have h1 := FLex.read_spec fuel l
  have h2 := lexRead_spec fuel l.sc
  have hb := l.mu_le_M
  unfold FLex.read at h1
  unfold FLex.readTry
  cases hr : lexRead fuel l.sc with
  | ok s t =>
    rw [hr] at h1
    simp only [Res.Sat_ok] at h1
    refine Res.Sat.ok_intro ⟨?_, fun _ => h1⟩
    show FLex.M { sc := s, cur := t } ≤ l.M
    omega
  | err s =>
    rw [hr] at h2
    simp only [TokR.Sat_err] at h2
    refine Res.Sat.ok_intro ⟨?_, fun h => by cases h⟩
    show FLex.M { sc := s, cur := l.cur } ≤ l.M
    rw [FLex.M_mk, FLex.M_def]; omega
  | panic => rw [hr] at h1; exact h1
  | depth => rw [hr] at h1; exact h1
  | diverge => rw [hr] at h1; exact h1

/-- `self.lexer.read().ok()` -/
theorem FLex.readOk_spec (fuel : Nat) (l : FLex) :
    (l.readOk fuel).Sat fuel (l.sc.mu + 1) (fun l1 => l1.M ≤ l.M) := by
  unfold FLex.readOk
  exact (FLex.readTry_spec fuel l).elim (fun ⟨_, l'⟩ h => h.1) trivial id

/-! ### the parser functions outside the `mutual` block -/

theorem parseCmp_spec (fuel : Nat) (l : FLex) (p : Path) (op : CmpOp) :
    (parseCmp fuel l p op).Sat fuel (l.sc.mu + 1) (fun o => o.2.M ≤ l.sc.mu) := by
  unfold parseCmp
  refine (FLex.read_spec fuel l).elim (fun l1 h1 => ?_) trivial id
  dsimp only
  split
  · exact h1
  · exact Res.Sat.ite_intro (fun _ => h1) (fun _ => Res.Sat.ite_intro (fun _ => h1) (fun _ => trivial))
  · exact trivial

theorem parseWeq_spec (fuel : Nat) (l : FLex) (p : Path) :
    (parseWeq fuel l p).Sat fuel (l.sc.mu + 1) (fun o => o.2.M ≤ l.sc.mu) := by
  unfold parseWeq
  refine (FLex.read_spec fuel l).elim (fun l1 h1 => ?_) trivial id
  dsimp only
  split
  · exact h1
  · exact trivial

/-- a term has been read up to `l1`; then `self.lexer.read().ok()` -/
theorem thenReadOk {fuel : Nat} {l : FLex} {e : Res (Term × FLex)}
    (h : e.Sat fuel (l.sc.mu + 1) (fun o => o.2.M ≤ l.sc.mu)) :
    (match (generalizing := false) e with
      | .ok (t, l1) =>
        match l1.readOk fuel with
        | .ok l2 => .ok (t, l2)
        | .err => .err | .panic => .panic | .diverge => .diverge | .depth => .depth
      | .err => .err | .panic => .panic | .diverge => .diverge | .depth => .depth : Res (Term × FLex)).Sat
      fuel (l.sc.mu + 1) (fun o => o.2.M ≤ l.M) := by
  refine h.elim (fun ⟨t, l1⟩ h1 => ?_) trivial id
  dsimp only at h1 ⊢
  exact (FLex.readOk_spec fuel l1).elim (fun l2 h2 => Nat.le_trans h2 (Nat.le_trans h1 l.mu_le_M)) trivial
    (fun hd => succ_budget hd (Nat.le_trans l1.mu_le_M h1))

theorem parseCmpOrWeq_spec (fuel : Nat) (l : FLex) (next : FTok) (p : Path) :
    (parseCmpOrWeq fuel l next p).Sat fuel (l.sc.mu + 1) (fun o => o.2.M ≤ l.M) := by
  unfold parseCmpOrWeq
  split
  · exact thenReadOk (parseCmp_spec fuel l p _)
  · split
    · exact thenReadOk (parseWeq_spec fuel l p)
    · exact Nat.le_refl _

theorem parseNot_spec (fuel : Nat) (l : FLex) :
    (parseNot fuel l).Sat fuel (l.sc.mu + 1) (fun o => o.2.M ≤ l.M) := by
  unfold parseNot
  refine (FLex.read_spec fuel l).elim (fun l1 h1 => ?_) trivial id
  dsimp only
  split
  · exact (FLex.readOk_spec fuel l1).elim (fun l2 h2 => Nat.le_trans h2 (Nat.le_trans h1 l.mu_le_M)) trivial
      (fun hd => succ_budget hd (Nat.le_trans l1.mu_le_M h1))
  · exact trivial

theorem parseRel_spec (fuel : Nat) (l : FLex) (rel : List Char) :
    (parseRel fuel l rel).Sat fuel (l.sc.mu + 1) (fun o => o.2.M ≤ l.M) := by
  unfold parseRel
  refine (FLex.read_spec fuel l).elim (fun l1 h1 => ?_) trivial id
  have L1 : l1.M ≤ l.M := Nat.le_trans h1 l.mu_le_M
  have S1 : l1.sc.mu ≤ l.sc.mu := Nat.le_trans l1.mu_le_M h1
  dsimp only
  split
  · exact (FLex.readOk_spec fuel l1).elim (fun l2 h2 => Nat.le_trans h2 L1) trivial (fun hd => succ_budget hd S1)
  · refine (FLex.read_spec fuel l1).elim (fun l2 h2 => ?_) trivial (fun hd => succ_budget hd S1)
    have L2 : l2.M ≤ l.M := Nat.le_trans h2 (Nat.le_trans l1.mu_le_M L1)
    dsimp only
    split
    · exact (FLex.readOk_spec fuel l2).elim (fun l3 h3 => Nat.le_trans h3 L2) trivial
        (fun hd => succ_budget hd (Nat.le_trans l2.mu_le_M (Nat.le_trans h2 S1)))
    · exact L2
  · exact L1

/-! ### the `mutual` block -/

structure Specs (fuel : Nat) : Prop where
  parseOr : ∀ d l, (parseOr fuel d l).Sat fuel (8 * l.M + 12) (fun o => o.2.M ≤ l.M)
  orLoop : ∀ d l, (orLoop fuel d l).Sat fuel (8 * l.M + 6) (fun o => o.2.M ≤ l.M)
  parseAnd : ∀ d l, (parseAnd fuel d l).Sat fuel (8 * l.M + 11) (fun o => o.2.M ≤ l.M)
  andLoop : ∀ d l, (andLoop fuel d l).Sat fuel (8 * l.M + 5) (fun o => o.2.M ≤ l.M)
  parseTerm : ∀ d l, (parseTerm fuel d l).Sat fuel (8 * l.M + 10) (fun o => o.2.M ≤ l.M)
  parseParens : ∀ d l, (parseParens fuel d l).Sat fuel (8 * l.sc.mu + 13) (fun o => o.2.M ≤ l.M)

/- In the `_step` lemmas `H… : lₖ.M + j ≤ l.M` records how far the measure has dropped when the state `lₖ` is
reached; `fuel_le` turns it into the `diverge` arm of the call made on `lₖ`. -/

theorem parseOr_step {n} (ih : Specs n) : ∀ d l,
    (parseOr (n + 1) d l).Sat (n + 1) (8 * l.M + 12) (fun o => o.2.M ≤ l.M) := by
  intro d l; rw [parseOr]
  refine (ih.parseAnd d l).elim (fun ⟨a, l1⟩ h1 => ?_) trivial (fun hd => fuel_le hd (Nat.le_refl (l.M + 0)))
  dsimp only at h1 ⊢
  exact (ih.orLoop d l1).elim (fun ⟨rest, l2⟩ h2 => Nat.le_trans h2 h1) trivial (fun hd => fuel_le hd (j := 0) h1)

theorem orLoop_step {n} (ih : Specs n) : ∀ d l,
    (orLoop (n + 1) d l).Sat (n + 1) (8 * l.M + 6) (fun o => o.2.M ≤ l.M) := by
  intro d l; rw [orLoop]
  refine Res.Sat.ite_intro (fun hc => ?_) (fun _ => Nat.le_refl _)
  refine Res.Sat.ite_intro (fun _ => trivial) (fun _ => ?_)
  have S : l.sc.mu + 1 ≤ l.M := Nat.le_of_eq (FLex.M_of_tok (FTok.isNone_of_isPath hc)).symm
  refine (FLex.read_spec n l).elim (fun l1 h1 => ?_) trivial (fun hd => fuel_le (le_budget hd) S)
  have H1 : l1.M + 1 ≤ l.M := add_le_trans h1 S
  dsimp only
  refine (ih.parseAnd d l1).elim (fun ⟨a, l2⟩ h2 => ?_) trivial (fun hd => fuel_le hd H1)
  dsimp only at h2 ⊢
  have H2 : l2.M + 1 ≤ l.M := add_le_trans h2 H1
  exact (ih.orLoop d l2).elim (fun ⟨rest, l3⟩ h3 => Nat.le_trans h3 (Nat.le_of_succ_le H2)) trivial
    (fun hd => fuel_le hd H2)

theorem parseAnd_step {n} (ih : Specs n) : ∀ d l,
    (parseAnd (n + 1) d l).Sat (n + 1) (8 * l.M + 11) (fun o => o.2.M ≤ l.M) := by
  intro d l; rw [parseAnd]
  refine (ih.parseTerm d l).elim (fun ⟨a, l1⟩ h1 => ?_) trivial (fun hd => fuel_le hd (Nat.le_refl (l.M + 0)))
  dsimp only at h1 ⊢
  exact (ih.andLoop d l1).elim (fun ⟨rest, l2⟩ h2 => Nat.le_trans h2 h1) trivial (fun hd => fuel_le hd (j := 0) h1)

theorem andLoop_step {n} (ih : Specs n) : ∀ d l,
    (andLoop (n + 1) d l).Sat (n + 1) (8 * l.M + 5) (fun o => o.2.M ≤ l.M) := by
  intro d l; rw [andLoop]
  refine Res.Sat.ite_intro (fun hc => ?_) (fun _ => Nat.le_refl _)
  refine Res.Sat.ite_intro (fun _ => trivial) (fun _ => ?_)
  have S : l.sc.mu + 1 ≤ l.M := Nat.le_of_eq (FLex.M_of_tok (FTok.isNone_of_isPath hc)).symm
  refine (FLex.read_spec n l).elim (fun l1 h1 => ?_) trivial (fun hd => fuel_le (le_budget hd) S)
  have H1 : l1.M + 1 ≤ l.M := add_le_trans h1 S
  dsimp only
  refine (ih.parseTerm d l1).elim (fun ⟨a, l2⟩ h2 => ?_) trivial (fun hd => fuel_le hd H1)
  dsimp only at h2 ⊢
  have H2 : l2.M + 1 ≤ l.M := add_le_trans h2 H1
  exact (ih.andLoop d l2).elim (fun ⟨rest, l3⟩ h3 => Nat.le_trans h3 (Nat.le_of_succ_le H2)) trivial
    (fun hd => fuel_le hd H2)

theorem parseTerm_step {n} (ih : Specs n) : ∀ d l,
    (parseTerm (n + 1) d l).Sat (n + 1) (8 * l.M + 10) (fun o => o.2.M ≤ l.M) := by
  intro d l; rw [parseTerm]
  have S0 : l.sc.mu + 0 ≤ l.M := l.mu_le_M
  split
  · next hcur =>
    -- the `(` in hand counts one unit, so `parseParens`' budget `8 * mu + 13` is `8 * M + 5`
    have S : l.sc.mu + 1 ≤ l.M := Nat.le_of_eq (FLex.M_of_tok (FLex.isNone_of_lparen hcur)).symm
    exact (ih.parseParens d l).elim (fun ⟨_, _⟩ h1 => h1) trivial (fun hd => fuel_le hd S)
  · refine Res.Sat.ite_intro (fun _ => ?_) (fun _ => ?_)
    · exact (parseNot_spec n l).mono (fun hd => fuel_le (le_budget hd) S0) (fun _ h => h)
    · refine (FLex.readTry_spec n l).elim (fun ⟨b, l1⟩ h1 => ?_) trivial (fun hd => fuel_le (le_budget hd) S0)
      cases b with
      | false => exact h1.1
      | true =>
        refine Res.Sat.ite_intro (fun _ => h1.1) (fun _ => ?_)
        exact (parseCmpOrWeq_spec n l1 l1.cur _).mono
          (fun hd => fuel_le (le_budget hd) (j := 0) (Nat.le_trans l1.mu_le_M h1.1))
          (fun o h => Nat.le_trans h h1.1)
  · exact (FLex.readOk_spec n l).elim (fun _ h1 => h1) trivial (fun hd => fuel_le (le_budget hd) S0)
  · exact (parseRel_spec n l _).mono (fun hd => fuel_le (le_budget hd) S0) (fun _ h => h)
  · exact trivial

theorem parseParens_step {n} (ih : Specs n) : ∀ d l,
    (parseParens (n + 1) d l).Sat (n + 1) (8 * l.sc.mu + 13) (fun o => o.2.M ≤ l.M) := by
  intro d l; rw [parseParens]
  refine Res.Sat.ite_intro (fun _ => trivial) (fun _ => ?_)
  refine (FLex.read_spec n l).elim (fun l1 h1 => ?_) trivial
    (fun hd => fuel_le (le_budget hd) (Nat.le_refl (l.sc.mu + 0)))
  dsimp only
  refine (ih.parseOr (d + 1) l1).elim (fun ⟨o, l2⟩ h2 => ?_) trivial (fun hd => fuel_le hd (j := 0) h1)
  dsimp only at h2 ⊢
  have H2 : l2.M ≤ l.sc.mu := Nat.le_trans h2 h1
  refine Res.Sat.ite_intro (fun _ => trivial) (fun _ => ?_)
  exact (FLex.readOk_spec n l2).elim (fun l3 h3 => Nat.le_trans h3 (Nat.le_trans H2 l.mu_le_M)) trivial
    (fun hd => fuel_le (le_budget hd) (j := 0) (Nat.le_trans l2.mu_le_M H2))

theorem specsAll : ∀ fuel, Specs fuel := by
  intro fuel
  induction fuel with
  | zero =>
    constructor <;> intros
    · rw [parseOr]; exact Nat.zero_le _
    · rw [orLoop]; exact Nat.zero_le _
    · rw [parseAnd]; exact Nat.zero_le _
    · rw [andLoop]; exact Nat.zero_le _
    · rw [parseTerm]; exact Nat.zero_le _
    · rw [parseParens]; exact Nat.zero_le _
  | succ n ih =>
    exact {
      parseOr := parseOr_step ih
      orLoop := orLoop_step ih
      parseAnd := parseAnd_step ih
      andLoop := andLoop_step ih
      parseTerm := parseTerm_step ih
      parseParens := parseParens_step ih }

/-! ### the specs as stand-alone lemmas -/

theorem parseOr_spec (fuel d l) : (parseOr fuel d l).Sat fuel (8 * l.M + 12) (fun o => o.2.M ≤ l.M) :=
  (specsAll fuel).parseOr d l
theorem orLoop_spec (fuel d l) : (orLoop fuel d l).Sat fuel (8 * l.M + 6) (fun o => o.2.M ≤ l.M) :=
  (specsAll fuel).orLoop d l
theorem parseAnd_spec (fuel d l) : (parseAnd fuel d l).Sat fuel (8 * l.M + 11) (fun o => o.2.M ≤ l.M) :=
  (specsAll fuel).parseAnd d l
theorem andLoop_spec (fuel d l) : (andLoop fuel d l).Sat fuel (8 * l.M + 5) (fun o => o.2.M ≤ l.M) :=
  (specsAll fuel).andLoop d l
theorem parseTerm_spec (fuel d l) : (parseTerm fuel d l).Sat fuel (8 * l.M + 10) (fun o => o.2.M ≤ l.M) :=
  (specsAll fuel).parseTerm d l
theorem parseParens_spec (fuel d l) :
    (parseParens fuel d l).Sat fuel (8 * l.sc.mu + 13) (fun o => o.2.M ≤ l.M) :=
  (specsAll fuel).parseParens d l

/-- `Parser::parse` with an explicit fuel: `8 * length + 12 < fuel` is enough -/
theorem parseFilter_fuel_spec (fuel : Nat) (bs : List UInt8) :
    (parseFilter fuel bs).Sat fuel (8 * bs.length + 12) (fun _ => True) := by
  unfold parseFilter
  dsimp only
  have hm := mu_make bs
  refine (FLex.read_spec fuel _).elim (fun l1 h1 => ?_) trivial (fun hd => (by dsimp only at hd; omega : fuel ≤ _))
  dsimp only at h1 ⊢
  refine (parseOr_spec fuel 0 l1).elim (fun ⟨o, l2⟩ _ => ?_) trivial (fun hd => (by omega : fuel ≤ _))
  exact Res.Sat.ite_intro (fun _ => trivial) (fun _ => trivial)

/-- `Filter::try_from(&str)` is total: `fuelFor n = 8 n + 64` is enough for every input of `n` bytes -/
theorem parseFilter_spec (bs : List UInt8) : (parseFilter (fuelFor bs.length) bs).Sat 1 0 (fun _ => True) := by
  have hf : fuelFor bs.length = 8 * bs.length + 64 := rfl
  exact (parseFilter_fuel_spec (fuelFor bs.length) bs).mono (fun hd => by omega) (fun _ h => h)

end Hs.FText

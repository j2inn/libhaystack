/-
  C01 and C04 read direction: coordinates `C( lat , lng )`, with blanks and separators in the
  decimal texts; the writer's text is the case without either.
-/
import Hs.Lemmas.ZincRtNum
import Hs.Lemmas.ZincRtLex
namespace Hs.Zinc
open Hs Hs.Scan Hs.Spell

theorem parseCoordBody_sp (la las lo los w1 w2 w3 w4 : List UInt8) (ha : DecText la las) (hb : DecText lo los)
    (h1 : Blanks w1) (h2 : Blanks w2) (h3 : Blanks w3) (h4 : Blanks w4)
    (s : Scan) (rest : List UInt8) (fuel : Nat)
    (h : Clean s (40 :: (w1 ++ (las ++ (w2 ++ 44 :: (w3 ++ (los ++ (w4 ++ 41 :: rest))))))))
    (hf : w1.length + las.length + w2.length + w3.length + los.length + w4.length < fuel) :
    ∃ s', parseCoordBody fuel s = .ok (.coord (mkCoordFlt la) (mkCoordFlt lo), s') ∧ Clean s' rest := by
  obtain ⟨a0, ar, ea, ha32, ha9⟩ := ha.first_nb
  obtain ⟨o0, orr, eo, ho32, ho9⟩ := hb.first_nb
  have h0 := h.advance
  rw [ea] at h0
  obtain ⟨s1, c1, hA⟩ := consumeSpaces_clean h1 (fuel := fuel) (by simpa using h0) ha32 ha9 (by omega)
  rw [← List.cons_append, ← ea] at hA
  obtain ⟨s2, e1, hB⟩ := ha.parse_clean (fuel := fuel) hA
    (stop_blanks_then w2 h2 44 _ (by decide) (by decide) (by decide)) (by omega)
  obtain ⟨s3, c2, hC⟩ := consumeSpaces_clean h2 (fuel := fuel) hB (by decide) (by decide) (by omega)
  have hC' := hC.advance
  rw [eo] at hC'
  obtain ⟨s4, c3, hD⟩ := consumeSpaces_clean h3 (fuel := fuel) (by simpa using hC') ho32 ho9 (by omega)
  rw [← List.cons_append, ← eo] at hD
  obtain ⟨s5, e2, hE⟩ := hb.parse_clean (fuel := fuel) hD
    (stop_blanks_then w4 h4 41 _ (by decide) (by decide) (by decide)) (by omega)
  obtain ⟨s6, c4, hF⟩ := consumeSpaces_clean h4 (fuel := fuel) hE (by decide) (by decide) (by omega)
  refine ⟨s6.advance, ?_, hF.advance⟩
  unfold parseCoordBody
  simp only [h.here.cur, c1, e1, c2, hC.here.cur, c3, e2, c4, hF.here.cur]
  simp

theorem lexRead_coord_sp (la las lo los w1 w2 w3 w4 : List UInt8) (ha : DecText la las) (hb : DecText lo los)
    (h1 : Blanks w1) (h2 : Blanks w2) (h3 : Blanks w3) (h4 : Blanks w4)
    (s : Scan) (rest : List UInt8) (fuel : Nat)
    (h : At s (67 :: 40 :: (w1 ++ (las ++ (w2 ++ 44 :: (w3 ++ (los ++ (w4 ++ 41 :: rest))))))))
    (hs : s.stash = [])
    (hf : w1.length + las.length + w2.length + w3.length + los.length + w4.length + 3 ≤ fuel) :
    ∃ s', lexRead fuel s = .ok { sc := s', tok := .val (.coord (mkCoordFlt la) (mkCoordFlt lo)) } ∧ At s' rest
      ∧ s'.stash = [] := by
  obtain ⟨f, rfl⟩ : ∃ f, fuel = f + 1 := ⟨fuel - 1, by omega⟩
  have hC : encChars ['C'] = [67] := by decide
  obtain ⟨hat, e⟩ := lexRead_upper ['C'] (by decide) s _ f (by rw [hC]; exact h) (Stop_cons (by decide))
    (by simp; omega)
  obtain ⟨s', e', h'⟩ := parseCoordBody_sp la las lo los w1 w2 w3 w4 ha hb h1 h2 h3 h4
    (advN 1 s) rest f ⟨hat, advN_stash_nil _ _ hs⟩ (by omega)
  refine ⟨s', ?_, h'.here, h'.stash⟩
  simp only [List.length_cons, List.length_nil, Nat.zero_add] at e hat
  rw [e, hat.cur, e']
  simp

theorem lexRead_coord (la lo : List UInt8) (hla : decBytesOk la = true) (hlo : decBytesOk lo = true)
    (s : Scan) (rest : List UInt8) (fuel : Nat) (h : At s (67 :: 40 :: (la ++ 44 :: (lo ++ 41 :: rest))))
    (hs : s.stash = []) (hf : la.length + lo.length + 5 ≤ fuel) :
    ∃ s', lexRead fuel s = .ok { sc := s', tok := .val (.coord (mkCoordFlt la) (mkCoordFlt lo)) } ∧ At s' rest
      ∧ s'.stash = [] :=
  lexRead_coord_sp la la lo lo [] [] [] [] (decText_of_decBytesOk hla) (decText_of_decBytesOk hlo)
    Blanks.nil Blanks.nil Blanks.nil Blanks.nil s rest fuel h hs (by simp; omega)

end Hs.Zinc

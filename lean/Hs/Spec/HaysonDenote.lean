/-
  Hs.Spec.HaysonDenote — which JSON trees are Hayson documents, and of which value: the relation
  `Denotes w doc`, written from the Project Haystack JSON encoding ("Hayson"), with every freedom the
  encoding leaves to the writer:

  * the members of every object in ANY ORDER (`List.Perm` against the listed members; so `_kind` may stand
    anywhere, first, in the middle or last);
  * OPTIONAL MEMBERS present or absent: `unit` of a number, `dis` of a ref, `tz` of a dateTime,
    `"_kind":"dict"` of a dict (also of a grid meta, a column meta and a row), `meta` of a grid, `ver` in a
    grid meta, `meta` of a column; a unit-less finite number as a bare number token or as a
    `{"_kind":"number","val":…}` object;
  * NUMBER SPELLINGS: a number token is an integer token (`.int i f`: the lexeme is an i64/u64 integer `i`)
    or any other token (`.flt f`: decimal point and/or exponent) — what it denotes is the double `f` that the
    token converts to (`1`, `1.0`, `1e0`, `10E-1` are `.int 1 f`, `.flt f`, `.flt f`, `.flt f` with the same
    `f`); this holds for a bare number, for `val` of a number object and for `lat`/`lng`;
    `"INF"`, `"-INF"`, `"NaN"` as `val` of a number object are the non-finite doubles.

  The value `w` is the value as the tree-level decoder model represents it (Hs.Model.Hayson): dates, times
  and timestamps carry the TEXT of the document (`lexDate`/`lexTime`/`lexDateTime`; chrono evaluates it,
  trusted base), a grid meta / column meta is `.some` exactly when the `meta` member is present
  (absent and empty meta are identified later, by `Same`), a unit is the database symbol of the id in the
  document, a dict has its tags in ascending key order (it is a `BTreeMap`).

  Nothing else is a Hayson document here: no unknown or repeated member names, no member of the wrong JSON
  type.  (The reference READER Hs.Spec.Hayson.readDoc is more lenient — it looks members up by name and
  ignores the others; see Thm/C05.lean `readDoc_lenient`.)

  Core-only imports (Hs.Lemmas.HaysonBase imports nothing but the model; it supplies `strictSorted`, the
  same predicate C02's `WFj` uses for dict keys).
-/
import Hs.Model.Hayson
import Hs.Lemmas.HaysonBase
namespace Hs.Spec.Hayson
open Hs Hs.Hayson

/-- a member list -/
abbrev Mems := List (List Char × Json)

/-- the `"_kind": kind` member -/
def kindMem (kind : String) : List Char × Json := (s "_kind", .str (s kind))

/-- a JSON number token spelling the double `f`: an integer token or a decimal/exponent token -/
inductive NumTok : Flt → Json → Prop where
  | int (i : Int) (f : Flt) : NumTok f (.int i f)
  | flt (f : Flt) : NumTok f (.flt f)

/-- the `val` of a number object: a number token, or one of the three strings -/
inductive NumVal : Flt → Json → Prop where
  | tok {f : Flt} {j : Json} : NumTok f j → NumVal f j
  | inf : NumVal (mkFlt 0x7FF0000000000000 "inf") (.str (s "INF"))
  | negInf : NumVal (mkFlt 0xFFF0000000000000 "-inf") (.str (s "-INF"))
  | nan : NumVal (mkFlt 0x7FF8000000000000 "NaN") (.str (s "NaN"))

/-- an optional string member `name`: absent, or present with a JSON string -/
inductive OptStr (name : String) : Option (List Char) → Mems → Prop where
  | absent : OptStr name none []
  | present (x : List Char) : OptStr name (some x) [(s name, .str x)]

/-- the optional `unit` member: absent, or the id (name or symbol) of a database unit, whose symbol the
number carries -/
inductive OptUnit : Option (List Char) → Mems → Prop where
  | absent : OptUnit none []
  | present (id sym : List Char) : Hs.Zinc.unitSymbol id = some sym → OptUnit (some sym) [(s "unit", .str id)]

/-- the optional `"_kind":"dict"` member of a dict object -/
inductive OptKindDict : Mems → Prop where
  | absent : OptKindDict []
  | present : OptKindDict [kindMem "dict"]

/-- the optional `ver` member of a grid meta (absent: version 3.0) -/
inductive OptVer : List Char → Mems → Prop where
  | absent : OptVer (s "3.0") []
  | present (ver : List Char) : OptVer ver [(s "ver", .str ver)]

/-- tag names of a dict: strictly ascending (a `BTreeMap`; so pairwise distinct), none is `_kind` -/
def TagKeys (t : Tags) : Prop := strictSorted t.keys = true ∧ ∀ k ∈ t.keys, k ≠ s "_kind"

mutual
/-- `Denotes w doc`: the JSON tree `doc` is a Hayson document of the value `w` -/
inductive Denotes : Val → Json → Prop where
  | null : Denotes .null .null
  | bool (b : Bool) : Denotes (.bool b) (.bool b)
  | str (x : List Char) : Denotes (.str x) (.str x)
  /-- a bare number token is a unit-less number -/
  | numTok {f : Flt} {j : Json} : NumTok f j → Denotes (.num { v := f, unit := none }) j
  | marker : Denotes .marker (.obj (.cons (s "_kind") (.str (s "marker")) .nil))
  | remove : Denotes .remove (.obj (.cons (s "_kind") (.str (s "remove")) .nil))
  | na : Denotes .na (.obj (.cons (s "_kind") (.str (s "na")) .nil))
  /-- `{"_kind":"number","val":…,"unit"?:…}` in any order -/
  | number {f : Flt} {jv : Json} {u : Option (List Char)} {um : Mems} {ms : Members} :
      NumVal f jv → OptUnit u um → ms.toList.Perm (kindMem "number" :: (s "val", jv) :: um) →
      Denotes (.num { v := f, unit := u }) (.obj ms)
  /-- `{"_kind":"ref","val":…,"dis"?:…}` -/
  | ref {id : List Char} {dis : Option (List Char)} {dm : Mems} {ms : Members} :
      OptStr "dis" dis dm → ms.toList.Perm (kindMem "ref" :: (s "val", .str id) :: dm) →
      Denotes (.ref id dis) (.obj ms)
  | symbol {x : List Char} {ms : Members} :
      ms.toList.Perm [kindMem "symbol", (s "val", .str x)] → Denotes (.sym x) (.obj ms)
  | uri {x : List Char} {ms : Members} :
      ms.toList.Perm [kindMem "uri", (s "val", .str x)] → Denotes (.uri x) (.obj ms)
  | date {x : List Char} {ms : Members} :
      ms.toList.Perm [kindMem "date", (s "val", .str x)] → Denotes (lexDate x) (.obj ms)
  | time {x : List Char} {ms : Members} :
      ms.toList.Perm [kindMem "time", (s "val", .str x)] → Denotes (lexTime x) (.obj ms)
  /-- `{"_kind":"dateTime","val":…,"tz"?:…}` -/
  | dateTime {x : List Char} {tz : Option (List Char)} {zm : Mems} {ms : Members} :
      OptStr "tz" tz zm → ms.toList.Perm (kindMem "dateTime" :: (s "val", .str x) :: zm) →
      Denotes (lexDateTime x tz) (.obj ms)
  | coord {a b : Flt} {ja jb : Json} {ms : Members} :
      NumTok a ja → NumTok b jb → ms.toList.Perm [kindMem "coord", (s "lat", ja), (s "lng", jb)] →
      Denotes (.coord a b) (.obj ms)
  | xstr {ty x : List Char} {ms : Members} :
      ms.toList.Perm [kindMem "xstr", (s "type", .str ty), (s "val", .str x)] → Denotes (.xstr ty x) (.obj ms)
  /-- a JSON array is a list -/
  | list {vs : Vals} {js : Jsons} : DenotesL vs js → Denotes (.list vs) (.arr js)
  /-- a dict object (with or without `"_kind":"dict"`) -/
  | dict {t : Tags} {ms : Members} : DenotesD t ms → Denotes (.dict t) (.obj ms)
  /-- a grid without a `meta` member: no meta, version 3.0 -/
  | gridNoMeta {cols : Cols} {rows : Rows} {cjs rjs : Jsons} {ms : Members} :
      DenotesCols cols cjs → DenotesRows rows rjs →
      ms.toList.Perm [kindMem "grid", (s "cols", .arr cjs), (s "rows", .arr rjs)] →
      Denotes (.grid .none cols rows (s "3.0")) (.obj ms)
  /-- a grid with a `meta` member: its tags except `ver`, which is the grid's version -/
  | gridMeta {t : Tags} {ver : List Char} {cols : Cols} {rows : Rows} {cjs rjs : Jsons}
      {tm km vm : Mems} {mm ms : Members} :
      DenotesM t tm → TagKeys t → (∀ k ∈ t.keys, k ≠ s "ver") → OptKindDict km → OptVer ver vm →
      mm.toList.Perm (km ++ vm ++ tm) →
      DenotesCols cols cjs → DenotesRows rows rjs →
      ms.toList.Perm [kindMem "grid", (s "meta", .obj mm), (s "cols", .arr cjs), (s "rows", .arr rjs)] →
      Denotes (.grid (.some t) cols rows ver) (.obj ms)
/-- the elements of an array, one by one -/
inductive DenotesL : Vals → Jsons → Prop where
  | nil : DenotesL .nil .nil
  | cons {v : Val} {j : Json} {vs : Vals} {js : Jsons} :
      Denotes v j → DenotesL vs js → DenotesL (.cons v vs) (.cons j js)
/-- the tags of a dict, one member per tag (listed in the dict's key order; the object may hold them in
any order) -/
inductive DenotesM : Tags → Mems → Prop where
  | nil : DenotesM .nil []
  | cons {k : List Char} {v : Val} {j : Json} {t : Tags} {tm : Mems} :
      Denotes v j → DenotesM t tm → DenotesM (.cons k v t) ((k, j) :: tm)
/-- a dict object: the tag members in any order, `"_kind":"dict"` optional -/
inductive DenotesD : Tags → Members → Prop where
  | mk {t : Tags} {tm km : Mems} {ms : Members} :
      DenotesM t tm → TagKeys t → OptKindDict km → ms.toList.Perm (km ++ tm) → DenotesD t ms
/-- the column objects `{"name":…,"meta"?:{…}}` -/
inductive DenotesCols : Cols → Jsons → Prop where
  | nil : DenotesCols .nil .nil
  | consNoMeta {n : List Char} {cm : Members} {c : Cols} {js : Jsons} :
      cm.toList.Perm [(s "name", .str n)] → DenotesCols c js →
      DenotesCols (.cons n .none c) (.cons (.obj cm) js)
  | consMeta {n : List Char} {t : Tags} {mm cm : Members} {c : Cols} {js : Jsons} :
      DenotesD t mm → cm.toList.Perm [(s "name", .str n), (s "meta", .obj mm)] → DenotesCols c js →
      DenotesCols (.cons n (.some t) c) (.cons (.obj cm) js)
/-- the row objects: dicts -/
inductive DenotesRows : Rows → Jsons → Prop where
  | nil : DenotesRows .nil .nil
  | cons {r : Tags} {rm : Members} {rs : Rows} {js : Jsons} :
      DenotesD r rm → DenotesRows rs js → DenotesRows (.cons r rs) (.cons (.obj rm) js)
end

/-! ### what the reference reader `readDoc` (Spec/HaysonRead.lean) makes of the same documents

The reference reader represents an EMPTY grid meta / column meta as an absent one (`readerImage`). -/

mutual
/-- the value with every empty grid meta / column meta replaced by an absent one -/
def readerImage : Val → Val
  | .list xs => .list (readerImages xs)
  | .dict d => .dict (readerImageTags d)
  | .grid .none cols rows ver => .grid .none (readerImageCols cols) (readerImageRows rows) ver
  | .grid (.some .nil) cols rows ver => .grid .none (readerImageCols cols) (readerImageRows rows) ver
  | .grid (.some (.cons k v t)) cols rows ver =>
    .grid (.some (.cons k (readerImage v) (readerImageTags t))) (readerImageCols cols) (readerImageRows rows) ver
  | v => v
def readerImages : Vals → Vals
  | .nil => .nil
  | .cons v vs => .cons (readerImage v) (readerImages vs)
def readerImageTags : Tags → Tags
  | .nil => .nil
  | .cons k v t => .cons k (readerImage v) (readerImageTags t)
def readerImageCols : Cols → Cols
  | .nil => .nil
  | .cons n .none c => .cons n .none (readerImageCols c)
  | .cons n (.some .nil) c => .cons n .none (readerImageCols c)
  | .cons n (.some (.cons k v t)) c => .cons n (.some (.cons k (readerImage v) (readerImageTags t))) (readerImageCols c)
def readerImageRows : Rows → Rows
  | .nil => .nil
  | .cons r rs => .cons (readerImageTags r) (readerImageRows rs)
end


end Hs.Spec.Hayson
